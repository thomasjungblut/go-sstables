/-
Shared definitions for the proofs about SST/Model/CompDirBytes.lean: what can be written at all, the shape of a
zero-padded misread, the abstract states a compaction directory goes through; `zeros` and `padCut` (a cut padded with
zeros to its length) with their lemmas.
-/
import SST.Model.CompDirBytes
namespace SST.Proofs.CompDir
open SST SST.CompDir Generated

/-- what `saveCompactionMetadata` can write at all: `proto.Marshal` accepts the strings (valid UTF-8) and the record
length fits the 64-bit header field -/
structure MetaOk (m : RawMeta) : Prop where
  valid : m.valid = true
  fits : (encCompMeta m).length < 2 ^ 64

def zeros (z : Nat) : Bytes := List.replicate z 0

/-- a string whose tail from position `i` on reads as NUL bytes -/
def zeroTailStr (s : Bytes) (i : Nat) : Bytes := s.take i ++ zeros (s.length - i)

/-- the metadata with the tail of its LAST WRITTEN string (the last path; without paths the replacement path; without
that the write path) replaced by NUL bytes from position `i` on -/
def zeroTail (m : RawMeta) (i : Nat) : RawMeta :=
  match m.sstablePaths.getLast? with
  | some l => { m with sstablePaths := m.sstablePaths.dropLast ++ [zeroTailStr l i] }
  | none =>
    if m.replacementPath.length ≠ 0 then { m with replacementPath := zeroTailStr m.replacementPath i }
    else { m with writePath := zeroTailStr m.writePath i }

/-- the state of compaction directory `id` after `k` events of `compEvs` on a disk that did not have it -/
def compState (id : Nat) (cells : DBM.Layer) (cm : FS.CompMeta) : Nat → Option FS.CompDir
  | 0 => none
  | 1 | 2 => some { id := id }
  | 3 | 4 => some { id := id, out := .complete cells }
  | _ => some { id := id, out := .complete cells, flag := some cm }

def lookupC (id : Nat) (cs : List FS.CompDir) : Option FS.CompDir := cs.find? (·.id == id)

namespace Pad

theorem zeros_succ (n : Nat) : zeros (n + 1) = 0 :: zeros n := rfl

theorem zeros_add (a b : Nat) : zeros a ++ zeros b = zeros (a + b) := by
  simp [zeros, List.replicate_append_replicate]

@[simp] theorem zeros_length (n : Nat) : (zeros n).length = n := by simp [zeros]

theorem zeros_take (n k : Nat) : (zeros n).take k = zeros (min k n) := by simp [zeros, List.take_replicate]

theorem zeros_drop (n k : Nat) : (zeros n).drop k = zeros (n - k) := by simp [zeros, List.drop_replicate]

theorem zeros_zero : zeros 0 = [] := rfl

theorem zeros_pos (n : Nat) (h : 0 < n) : zeros n = 0 :: zeros (n - 1) := by
  obtain ⟨k, rfl⟩ : ∃ k, n = k + 1 := ⟨n - 1, by omega⟩
  rfl

/-- the first `j` bytes of `E`, then zeros up to the length of `E` and `r` more -/
def padCut (E : Bytes) (j r : Nat) : Bytes := E.take j ++ zeros (E.length - j + r)

theorem padCut_append_le (A B : Bytes) (j r : Nat) (h : j ≤ A.length) :
    padCut (A ++ B) j r = padCut A j (B.length + r) := by
  unfold padCut
  rw [List.take_append_of_le_length h, List.length_append, Nat.sub_add_comm h, Nat.add_assoc]

theorem padCut_append_ge (A B : Bytes) (j r : Nat) (h : A.length ≤ j) :
    padCut (A ++ B) j r = A ++ padCut B (j - A.length) r := by
  obtain ⟨d, rfl⟩ := Nat.exists_eq_add_of_le h
  unfold padCut
  rw [List.take_append, List.take_of_length_le h, List.length_append, List.append_assoc, Nat.add_sub_add_left,
    Nat.add_sub_cancel_left]

theorem padCut_zero (E : Bytes) (r : Nat) : padCut E 0 r = zeros (E.length + r) := by
  simp [padCut]

theorem padCut_nil (r : Nat) : padCut [] 0 r = zeros r := by
  simp [padCut]

theorem padCut_lt (E : Bytes) (j r : Nat) (h : j < E.length) :
    padCut E j r = (E.take j ++ [0]) ++ zeros (E.length - j - 1 + r) := by
  unfold padCut
  have hd := Nat.sub_pos_of_lt h
  generalize E.length - j = d at hd ⊢
  cases d with
  | zero => cases hd
  | succ d => rw [Nat.add_sub_cancel, Nat.add_right_comm, zeros_succ, List.append_assoc]; rfl

end Pad

end SST.Proofs.CompDir
