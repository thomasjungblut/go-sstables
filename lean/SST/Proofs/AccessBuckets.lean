/-
`AccessSpec.tableOk` compares every row of the access table with every other; two rows can only be in each other's way
when they name the same object.  `bucketsOk` takes the rows object by object (a `filter` per object index) and
compares within each bucket.
For the same reason the pairs of `contested` can be counted bucket by bucket (`contested_filter_length`), which is how
C18 shows that the table has contested pairs at all.
-/
import SST.Spec.Access
import SST.Proofs.ListFacts
namespace SST.AccessSpec
open SST.Generated

/-- every row names one of the first `n` objects, and the rows of each object are pairwise fine -/
def bucketsOk (n : Nat) (t : List Access) : Bool :=
  t.all (·.obj < n) && (List.range n).all fun i => tableOk (t.filter (·.obj == i))

theorem tableOk_of_bucketsOk {n : Nat} {t : List Access} (h : bucketsOk n t = true) : tableOk t = true := by
  simp only [bucketsOk, tableOk, Bool.and_eq_true, List.all_eq_true, List.mem_range, List.mem_filter,
    decide_eq_true_eq, beq_iff_eq, and_imp] at h ⊢
  intro a ha b hb
  by_cases hab : a.obj = b.obj
  · exact h.2 a.obj (h.1 a ha) a ha rfl b hb hab.symm
  · simp [pairOk, conflicting, hab]

theorem contested_filter_length {n : Nat} {t : List Access} (h : t.all (·.obj < n) = true)
    (q : Access × Access → Bool) :
    ((contested t).filter q).length =
      ((List.range n).map fun i => ((contested (t.filter (·.obj == i))).filter q).length).sum := by
  -- both sides as sums over the rows `a` of how many partners `b` of `a` pass `q`
  simp only [contested, List.filter_flatMap, List.length_flatMap]
  rw [Proofs.sum_map_eq_sum_buckets (·.obj) _ (by simpa using h)]
  refine congrArg List.sum (List.map_congr_left fun i _ => congrArg List.sum (List.map_congr_left fun a ha => ?_))
  -- the partners of `a` all lie in the bucket of `a`
  have hi : a.obj = i := beq_iff_eq.mp (List.mem_filter.mp ha).2
  have hb (b : Access) : (conflicting a b && concurrent a.thread b.thread && b.obj == i) =
      (conflicting a b && concurrent a.thread b.thread) := by
    by_cases hab : a.obj = b.obj
    · simp [← hab, hi]
    · simp [conflicting, hab]
  simp only [List.filter_filter, hb]

theorem contested_length {n : Nat} {t : List Access} (h : t.all (·.obj < n) = true) :
    (contested t).length = ((List.range n).map fun i => (contested (t.filter (·.obj == i))).length).sum := by
  have e (l : List (Access × Access)) : l.filter (fun _ => true) = l := List.filter_eq_self.mpr fun _ _ => rfl
  simpa only [e] using contested_filter_length h fun _ => true

end SST.AccessSpec
