/-
Proofs for SST/Model/TableDirBytes.lean: how `reconstructSSTables` classifies the images of a writer run and of a
table whose files are being removed, and what a loaded table serves.
-/
import SST.Model.TableDirBytes
import SST.Proofs.SSTableReader
namespace SST.Proofs.TblDir
open SST SST.TblDir Generated SST.Proofs SST.Proofs.Sst

theorem hasEmpty_iff (img : DirImage) : hasEmptyMetadata img = true ↔ img.metaf = some [] := by
  unfold hasEmptyMetadata; simp

theorem classifyX_emptyMeta (P : Params) (img : DirImage) (h : img.metaf = some []) : classifyX P img = .part false := by
  unfold classifyX; rw [if_pos ((hasEmpty_iff img).mpr h)]

theorem classifyX_of_load (P : Params) (img : DirImage) (s : Served) (hne : img.metaf ≠ some [])
    (h : loadDir P img = .ok s) : classifyX P img = .complete s := by
  unfold classifyX
  rw [if_neg (fun hh => hne ((hasEmpty_iff img).mp hh)), h]

theorem classifyX_of_fail (P : Params) (img : DirImage) (e : Err) (hne : img.metaf ≠ some [])
    (h : loadDir P img = .error e) :
    classifyX P img = if isUnfinishedTable img then .part false else .part true := by
  unfold classifyX
  rw [if_neg (fun hh => hne ((hasEmpty_iff img).mp hh)), h]

/-- no metadata file: without index.rio, without data.rio or with a data.rio that is still empty nothing loads, the
directory is discarded -/
theorem classifyX_nometa_unloadable (P : Params) (img : DirImage) (hm : img.metaf = none)
    (h : img.index = none ∨ img.data = none ∨ img.data = some []) : classifyX P img = .part false := by
  have hfail : ∃ e, loadDir P img = .error e := by
    unfold loadDir readMeta
    rw [hm]
    simp only [if_true]
    cases hi : img.index with
    | none => exact ⟨_, rfl⟩
    | some i =>
      simp only
      cases loadIndex P.comps .slice i with
      | error e => exact ⟨_, rfl⟩
      | ok idx =>
        simp only
        cases readFilter P img.bloom with
        | error e => exact ⟨_, rfl⟩
        | ok bf =>
          rcases h with h | h | h
          · rw [hi] at h; cases h
          · simp only [h]; exact ⟨_, rfl⟩
          · simp only [h, openMmap_nil]; exact ⟨_, rfl⟩
  obtain ⟨e, he⟩ := hfail
  rw [classifyX_of_fail P img e (by rw [hm]; simp) he]
  simp [isUnfinishedTable, hm]

/-- unfinished metadata and no index.rio: discarded, whatever else is there -/
theorem classifyX_noindex_unfinished (P : Params) (img : DirImage) (hi : img.index = none)
    (hu : isUnfinishedTable img = true) : classifyX P img = .part false := by
  cases hm : img.metaf with
  | none => exact classifyX_nometa_unloadable P img hm (.inl hi)
  | some b =>
    have : b = [] := by simpa [isUnfinishedTable, hm] using hu
    exact classifyX_emptyMeta P img (by rw [hm, this])

/-- `classifyX = part false` happens for unfinished metadata only -/
theorem unfinished_of_partFalse (P : Params) (img : DirImage) (h : classifyX P img = .part false) :
    isUnfinishedTable img = true := by
  unfold classifyX at h
  split at h
  · rename_i he
    have := (hasEmpty_iff img).mp he
    simp [isUnfinishedTable, this]
  · split at h
    · cases h
    · split at h
      · assumption
      · cases h

/-- complete metadata of a version ≥ 1 table, but index.rio or data.rio is gone: `Open` fails -/
theorem classifyX_meta_missing (P : Params) (img : DirImage) (m : Bytes) (md : Meta) (hm : img.metaf = some m)
    (hdec : decMeta m = .ok md) (hv : md.version ≠ 0) (h : img.index = none ∨ img.data = none) :
    classifyX P img = .part true := by
  have hne := Pb.ne_nil_of_decMeta hdec hv
  have hfail : loadDir P img = .error .other := by
    unfold loadDir readMeta
    rw [hm]
    simp only [hdec, if_neg hv]
    rcases h with h | h
    · rw [h]
    · rw [h]; cases img.index <;> rfl
  rw [classifyX_of_fail P img _ (by rw [hm]; simpa using hne) hfail]
  have : isUnfinishedTable img = false := by
    simp only [isUnfinishedTable, hm]
    cases m with
    | nil => exact absurd rfl hne
    | cons _ _ => rfl
  rw [this]; rfl

theorem loadDir_v1_of (P : Params) (img : DirImage) (i d m : Bytes) (md : Meta) (bf : Option (Bytes → Bool))
    (r : Reader) (idx : Index) (hi : img.index = some i) (hd : img.data = some d) (hm : img.metaf = some m)
    (h1 : decMeta m = .ok md) (hv : md.version ≠ 0) (hb : readFilter P img.bloom = .ok bf)
    (h2 : openTable P.comps .slice {} { index := i, data := d, metaf := m } bf = .ok (r, idx)) :
    loadDir P img = .ok (servedV1 r idx) := by
  unfold loadDir readMeta
  rw [hm]
  simp only [h1, if_neg hv, hi, hd, hb, Option.getD_some, h2]

theorem loadDir_v0_of (P : Params) (img : DirImage) (i d : Bytes) (idx : Index) (bf : Option (Bytes → Bool))
    (dc : Compression) (hi : img.index = some i) (hd : img.data = some d) (hm : img.metaf = none)
    (h2 : loadIndex P.comps .slice i = .ok idx) (hb : readFilter P img.bloom = .ok bf)
    (h3 : openMmap P.comps d = .ok dc) : loadDir P img = .ok (servedV0 dc d idx) := by
  unfold loadDir readMeta
  rw [hm]
  simp only [if_true, hi, h2, hb, hd, h3]

/-- index.rio and data.rio hold their headers, there is no metadata file: an EMPTY legacy table -/
theorem classifyX_headers (P : Params) (cfg : SstCfg) (hd : cfg.dct ≤ maxCompression) (hi : cfg.ict ≤ maxCompression)
    (img : DirImage) (h1 : img.index = some (fileHeader currentVersion cfg.ict))
    (h2 : img.data = some (fileHeader currentVersion cfg.dct)) (h3 : img.metaf = none) (h4 : img.bloom = none) :
    classifyX P img = .complete [] := by
  have hl := loadDir_v0_of P img _ _ (.slice []) none (P.comps cfg.dct) h1 h2 h3
    (loadIndex_of_build (loadEntries_header P.comps cfg.ict hi) rfl) (by rw [h4]; rfl)
    (openMmap_header P.comps cfg.dct hd)
  rw [classifyX_of_load P img _ (by rw [h3]; simp) hl]
  rfl

theorem keysOf_slice (es : List IEntry) : keysOf (.slice es) = es.map fun e => e.1.getD [] := by
  simp [keysOf, Index.all, sliceAll, sliceIter]

theorem keysOf_table (cfg : SstCfg) (kvs : List KV) :
    keysOf (.slice (loadedEntries cfg kvs)) = (trips cfg kvs).map (·.1) := by
  rw [keysOf_slice, loadedEntries, List.map_map]
  apply List.map_congr_left
  intro t _
  simp [Trip.ie, normKey_getD]

theorem sliceGet_trip (cfg : SstCfg) (kvs : List KV) (hs : StrictAsc bytesCmp kvs) (t : Trip)
    (ht : t ∈ trips cfg kvs) : sliceGet (loadedEntries cfg kvs) t.1 = .ok t.2.2 := by
  have hp : (trips cfg kvs).Pairwise (fun a b => bytesCmp a.1 b.1 = .lt) := by
    have := hs
    rwa [StrictAsc, ← trips_kv cfg kvs, List.pairwise_map] at this
  rw [(slice_refines _ (loadedEntries_strictAsc cfg kvs hs)).1, loadedEntries, specGet_E,
    find?_asc (fun t : Trip => t.1) _ hp t ht]
  rfl

/-- `Get` of every key of the loaded table of `kvs`: the written value, nil and empty kept apart -/
theorem servedV1_table (cfg : SstCfg) (kvs : List KV) (hl : LawfulC cfg.dc) (hf : FitsKV cfg kvs)
    (hs : StrictAsc bytesCmp kvs) (o : ReadOpts) (bf : Option (Bytes → Bool)) :
    servedV1 (readerOf cfg kvs o bf) (.slice (loadedEntries cfg kvs)) = kvs.map fun p => (p.1, .val p.2) := by
  unfold servedV1
  rw [keysOf_table, List.map_map]
  conv => rhs; rw [← trips_kv cfg kvs, List.map_map]
  apply List.map_congr_left
  intro t ht
  simp only [Function.comp, Reader.get, Index.get, Option.map_some, sliceGet_trip cfg kvs hs t ht, Reader.getWith]
  rw [show (readerOf cfg kvs o bf).dc = cfg.dc from rfl, show (readerOf cfg kvs o bf).data = dataFileOf cfg kvs from rfl,
    getValue_table cfg kvs hl hf _ t ht]
  rfl

/-- `Get` of every key when the same files are read as a legacy table: every value parsed as a `DataEntry` -/
theorem servedV0_table (cfg : SstCfg) (kvs : List KV) (hl : LawfulC cfg.dc) (hf : FitsKV cfg kvs)
    (hs : StrictAsc bytesCmp kvs) :
    servedV0 cfg.dc (dataFileOf cfg kvs) (.slice (loadedEntries cfg kvs)) = junkOf kvs := by
  unfold servedV0 junkOf
  rw [keysOf_table, List.map_map]
  conv => rhs; rw [← trips_kv cfg kvs, List.map_map]
  apply List.map_congr_left
  intro t ht
  simp only [Function.comp, Index.get, sliceGet_trip cfg kvs hs t ht, Trip.kv]
  obtain ⟨h1, h2, _⟩ := readAt_table cfg kvs hl (fun p hp => (hf.1 p hp).1) t ht
  unfold v0Value junkCell
  rw [if_neg (by omega), h1]  -- a record's offset lies inside the file: not the end-of-file case of `v0Value`
  simp only
  rcases decDataEntry (t.2.1.getD []) with ⟨v, _ | e⟩ <;> rfl

/-- hypotheses of the read-side theorems: byte-wise comparator, lawful compressors matching the codes of the file
headers, sizes within the 64-bit fields, strictly ascending keys -/
structure Hyp (P : Params) (cfg : SstCfg) (kvs : List KV) : Prop where
  cmp : cfg.cmp = bytesCmp
  comps : CompsOk P.comps cfg
  fits : FitsKV cfg kvs
  asc : StrictAsc bytesCmp kvs

theorem Hyp.table {P : Params} {cfg : SstCfg} {kvs : List KV} (h : Hyp P cfg kvs) :
    writeTable cfg kvs = tableOf cfg kvs :=
  writeTable_eq cfg kvs (by rw [h.cmp]; exact h.asc)

theorem metaOf_version (cfg : SstCfg) (kvs : List KV) : (metaOf cfg kvs).norm.version ≠ 0 := by
  simp [Meta.norm, metaOf, sstVersion]

/-- all of index.rio, data.rio, meta.pb.bin: the table loads and serves exactly `kvs` (with or without the filter) -/
theorem classifyX_full {P : Params} {cfg : SstCfg} {kvs : List KV} (h : Hyp P cfg kvs) (img : DirImage)
    (bf : Option (Bytes → Bool)) (hi : img.index = some (tableOf cfg kvs).index)
    (hd : img.data = some (tableOf cfg kvs).data) (hm : img.metaf = some (tableOf cfg kvs).metaf)
    (hb : readFilter P img.bloom = .ok bf) :
    classifyX P img = .complete (kvs.map fun p => (p.1, .val p.2)) := by
  have hload := loadIndex_of_build (k := .slice) (loadEntries_table P.comps cfg kvs h.comps h.fits) rfl
  have hopen := openTable_ok P.comps cfg kvs h.comps h.fits .slice {} bf _ hload
    (IdxRefines.slice (loadedEntries_strictAsc cfg kvs h.asc)).all
  have hm1 := decMeta_metaOf cfg kvs h.fits
  have hl := loadDir_v1_of P img _ _ _ _ bf _ _ hi hd hm hm1 (metaOf_version cfg kvs) hb hopen
  have hne : img.metaf ≠ some [] := by
    rw [hm, Ne, Option.some.injEq]
    exact Pb.ne_nil_of_decMeta hm1 (metaOf_version cfg kvs)
  rw [classifyX_of_load P img _ hne hl, servedV1_table cfg kvs h.comps.dataLawful h.fits h.asc]

/-- index.rio and data.rio but NO metadata file: the directory loads as a legacy table showing `junkOf kvs` -/
theorem classifyX_legacy {P : Params} {cfg : SstCfg} {kvs : List KV} (h : Hyp P cfg kvs) (img : DirImage)
    (bf : Option (Bytes → Bool)) (hi : img.index = some (tableOf cfg kvs).index)
    (hd : img.data = some (tableOf cfg kvs).data) (hm : img.metaf = none)
    (hb : readFilter P img.bloom = .ok bf) :
    classifyX P img = .complete (junkOf kvs) := by
  have hidx := loadIndex_of_build (k := .slice) (loadEntries_table P.comps cfg kvs h.comps h.fits) rfl
  have hl := loadDir_v0_of P img _ _ _ bf _ hi hd hm hidx hb (h.comps.openMmap_data _)
  rw [classifyX_of_load P img _ (by rw [hm]; simp) hl]
  have : (tableOf cfg kvs).data = dataFileOf cfg kvs := rfl
  rw [this, servedV0_table cfg kvs h.comps.dataLawful h.fits h.asc]

/-- complete metadata but index.rio or data.rio is gone: `Open` fails on the directory -/
theorem classifyX_halfRemoved {P : Params} {cfg : SstCfg} {kvs : List KV} (h : Hyp P cfg kvs) (img : DirImage)
    (hm : img.metaf = some (tableOf cfg kvs).metaf) (hmiss : img.index = none ∨ img.data = none) :
    classifyX P img = .part true :=
  classifyX_meta_missing P img _ _ hm (decMeta_metaOf cfg kvs h.fits) (metaOf_version cfg kvs) hmiss

end SST.Proofs.TblDir
