/-
Proofs for SST/Model/TableDirBytes.lean: the byte-level images against the abstract events of L6-fs
(`tableEvs`, `FS.rmAll`), and the clean-up sequences.
-/
import SST.Proofs.TableDirBytes
import SST.Proofs.TableDirBytesClass
namespace SST.Proofs.TblDir
open SST SST.TblDir Generated SST.Proofs SST.Proofs.Sst SST.FS

theorem lookupT_insertT_self (g : Nat) (t : TableDir) :
    ∀ ts : List (Nat × TableDir), lookupT g ts = none → lookupT g (insertT g t ts) = some t := by
  intro ts
  induction ts with
  | nil => intro _; simp [insertT, lookupT]
  | cons p r ih =>
    intro h
    unfold lookupT at h ih ⊢
    rw [List.find?_cons] at h
    cases hp : p.1 == g with
    | true => rw [hp] at h; cases h
    | false =>
      rw [hp] at h
      have hne : g ≠ p.1 := fun he => by rw [he, beq_self_eq_true] at hp; cases hp
      unfold insertT
      by_cases hlt : g < p.1
      · rw [if_pos hlt, List.find?_cons_of_pos (by exact beq_self_eq_true g)]; rfl
      · rw [if_neg hlt, if_neg hne, List.find?_cons, hp]; exact ih h

theorem lookupT_updT (g : Nat) (f : TableDir → TableDir) (ts : List (Nat × TableDir)) :
    lookupT g (updT g f ts) = (lookupT g ts).map f := by
  unfold lookupT updT
  rw [find?_update (·.1) g (fun p => (p.1, f p.2)) (fun _ => rfl), Option.map_map, Option.map_map]
  rfl

theorem lookupT_updT_some {g : Nat} {ts : List (Nat × TableDir)} {t : TableDir} (f : TableDir → TableDir)
    (h : lookupT g ts = some t) : lookupT g (updT g f ts) = some (f t) := by
  rw [lookupT_updT, h]; rfl

theorem lookupT_eraseT_self (g : Nat) (ts : List (Nat × TableDir)) : lookupT g (eraseT g ts) = none := by
  unfold lookupT eraseT
  rw [Option.map_eq_none_iff, List.find?_eq_none]
  intro p hp
  have := (List.mem_filter.mp hp).2
  simpa using this

/-- the directory's abstract state after `k` of the writer's events -/
def evState (cells : DBM.Layer) : Nat → Option TableDir
  | 0 => none
  | 1 => some (.part false)
  | 2 => some (.complete [])
  | 3 => some (.part false)
  | 4 => some (.part false)
  | _ => some (.complete cells)

theorem tableEvs_state (g : Nat) (cells : DBM.Layer) (d : Disk) (hd : lookupT g d.tables = none) (k : Nat) :
    lookupT g (applyEvs d ((tableEvs g cells).take k)).tables = evState cells k := by
  have h1 : lookupT g (applyEvs d ((tableEvs g cells).take 1)).tables = some (.part false) :=
    lookupT_insertT_self g _ _ hd
  have h2 : lookupT g (applyEvs d ((tableEvs g cells).take 2)).tables = some (.complete []) :=
    lookupT_updT_some (fun _ => .complete []) h1
  have h3 : lookupT g (applyEvs d ((tableEvs g cells).take 3)).tables = some (.part false) :=
    lookupT_updT_some (fun _ => .part false) h2
  have h5 : lookupT g (applyEvs d (tableEvs g cells)).tables = some (.complete cells) :=
    lookupT_updT_some (fun _ => .complete cells) h3
  match k with
  | 0 => exact hd
  | 1 => exact h1
  | 2 => exact h2
  | 3 => exact h3
  | 4 => exact h3
  | k + 5 => rwa [List.take_of_length_le (Nat.le_add_left 5 k)]

/-- the directory's abstract state after `k` events of `FS.rmAll g (some junk)` -/
def rmState (cells junk : DBM.Layer) : Nat → Option TableDir
  | 0 => some (.complete cells)
  | 1 => some (.complete junk)
  | 2 => some (.part true)
  | 3 => some (.part false)
  | _ => none

theorem rmAll_state (g : Nat) (cells junk : DBM.Layer) (d : Disk) (hd : lookupT g d.tables = some (.complete cells))
    (k : Nat) : lookupT g (applyEvs d ((FS.rmAll g (some junk)).take k)).tables = rmState cells junk k := by
  have h1 : lookupT g (applyEvs d ((FS.rmAll g (some junk)).take 1)).tables = some (.complete junk) :=
    lookupT_updT_some (fun _ => .complete junk) hd
  have h2 : lookupT g (applyEvs d ((FS.rmAll g (some junk)).take 2)).tables = some (.part true) :=
    lookupT_updT_some (TableDir.unlink true) h1
  have h3 : lookupT g (applyEvs d ((FS.rmAll g (some junk)).take 3)).tables = some (.part false) :=
    lookupT_updT_some (TableDir.unlink false) h2
  match k with
  | 0 => exact hd
  | 1 => exact h1
  | 2 => exact h2
  | 3 => exact h3
  | k + 4 =>
    rw [List.take_of_length_le (Nat.le_add_left 4 k)]
    exact lookupT_eraseT_self g _

theorem toLayer_vals (kvs : List KV) : Served.toLayer (kvs.map fun p => (p.1, Cell.val p.2)) = kvs := by
  unfold Served.toLayer
  rw [List.map_map]
  conv => rhs; rw [← List.map_id kvs]
  apply List.map_congr_left
  intro p _; rfl

theorem abstractOf_dir (P : Params) (img : DirImage) (c : ClassX) (hd : img.dir = true) (hc : classifyX P img = c) :
    abstractOf P img = some c.toTableDir := by
  unfold abstractOf classify; rw [if_pos hd, hc]

/-- the filter file the writer wrote reads back (the law of the external `bloomfilter.ReadFile`; as coded in the
library it never fails at all) -/
def BloomReads (P : Params) (ch : Chunking) : Prop := ∃ f, P.readBloom ch.bloom.flatten = some f

theorem readFilter_of (P : Params) (B : Bytes) (hb : ∃ f, P.readBloom B = some f) :
    ∃ bf, readFilter P (some B) = .ok bf := by
  obtain ⟨f, hf⟩ := hb
  exact ⟨some f, by simp [readFilter, hf]⟩

theorem finalImg_eq {P : Params} {cfg : SstCfg} {kvs : List KV} (h : Hyp P cfg kvs) (ch : Chunking) :
    finalImg cfg ch kvs =
      { dir := true, index := some (tableOf cfg kvs).index, data := some (tableOf cfg kvs).data,
        metaf := some (tableOf cfg kvs).metaf, bloom := some ch.bloom.flatten } := by
  simp [finalImg, preMetaImg, h.table]

theorem finalImg_classifyX {P : Params} {cfg : SstCfg} {kvs : List KV} (h : Hyp P cfg kvs) (ch : Chunking)
    (hb : BloomReads P ch) : classifyX P (finalImg cfg ch kvs) = .complete (kvs.map fun p => (p.1, .val p.2)) := by
  obtain ⟨bf, hbf⟩ := readFilter_of P _ hb
  rw [finalImg_eq h]
  exact classifyX_full h _ bf rfl rfl rfl hbf

/-- Before the metadata write the legacy-table window is exactly "5 calls done".  Nothing about the records matters
there (order, sizes, the compressors' laws, the filter): only the two compression codes of the file headers have to be
legal, for the empty legacy table at 5 calls. -/
theorem writer_window_any (P : Params) (cfg : SstCfg) (ch : Chunking) (kvs : List KV)
    (hdct : cfg.dct ≤ maxCompression) (hict : cfg.ict ≤ maxCompression) (n : Nat)
    (hn : n + 1 < (flushCalls cfg ch kvs).length) :
    abstractOf P (applyCalls {} ((flushCalls cfg ch kvs).take n)) =
      if n = 0 then none else if n = 5 then some (.complete []) else some (.part false) := by
  by_cases h6 : 6 ≤ n
  · obtain ⟨hd, hm⟩ := prefix_mid cfg ch kvs n h6 hn
    rw [abstractOf_dir P _ (.part false) hd (classifyX_emptyMeta P _ hm), if_neg (Nat.ne_zero_of_lt h6),
      if_neg (Nat.ne_of_gt h6)]
    rfl
  · -- `MkdirAll` and `Open`: the image is known file by file
    rw [prefix_open cfg ch kvs n (Nat.le_of_lt (Nat.lt_of_not_le h6))]
    clear hn
    match n with
    | 0 => rfl
    | 1 => exact abstractOf_dir P _ (.part false) rfl (classifyX_nometa_unloadable P _ rfl (.inl rfl))
    | 2 => exact abstractOf_dir P _ (.part false) rfl (classifyX_nometa_unloadable P _ rfl (.inr (.inl rfl)))
    | 3 => exact abstractOf_dir P _ (.part false) rfl (classifyX_nometa_unloadable P _ rfl (.inr (.inl rfl)))
    | 4 => exact abstractOf_dir P _ (.part false) rfl (classifyX_nometa_unloadable P _ rfl (.inr (.inr rfl)))
    | 5 => exact abstractOf_dir P _ (.complete []) rfl (classifyX_headers P cfg hdct hict _ rfl rfl rfl rfl)
    | n + 6 => exact absurd (Nat.le_add_left 6 n) h6

theorem writer_window (P : Params) (cfg : SstCfg) (ch : Chunking) (kvs : List KV) (h : Hyp P cfg kvs)
    (hb : BloomReads P ch) (n : Nat) (hn : n + 1 < (flushCalls cfg ch kvs).length) :
    abstractOf P (applyCalls {} ((flushCalls cfg ch kvs).take n)) =
      if n = 0 then none else if n = 5 then some (.complete []) else some (.part false) := by
  have _ := hb  -- not used: only the two header compression codes matter (`writer_window_any`)
  exact writer_window_any P cfg ch kvs h.comps.dataCode_le h.comps.indexCode_le n hn

theorem abstractOf_finalImg {P : Params} {cfg : SstCfg} {kvs : List KV} (h : Hyp P cfg kvs) (ch : Chunking)
    (hb : BloomReads P ch) : abstractOf P (finalImg cfg ch kvs) = some (.complete kvs) := by
  rw [abstractOf_dir P _ _ rfl (finalImg_classifyX h ch hb), ClassX.toTableDir, toLayer_vals]

/-- from the metadata write on: the complete table -/
theorem writer_final (P : Params) (cfg : SstCfg) (ch : Chunking) (kvs : List KV) (h : Hyp P cfg kvs)
    (hb : BloomReads P ch) (n : Nat) (hn : (flushCalls cfg ch kvs).length ≤ n + 1) :
    abstractOf P (applyCalls {} ((flushCalls cfg ch kvs).take n)) = some (.complete kvs) := by
  rw [prefix_final cfg ch kvs n hn, abstractOf_finalImg h ch hb]

theorem writer_prefix (P : Params) (cfg : SstCfg) (ch : Chunking) (kvs : List KV) (h : Hyp P cfg kvs)
    (hb : BloomReads P ch) (n : Nat) :
    abstractOf P (applyCalls {} ((flushCalls cfg ch kvs).take n)) =
      evState kvs (evIdx (flushCalls cfg ch kvs).length n) := by
  by_cases hn : n + 1 < (flushCalls cfg ch kvs).length
  · rw [writer_window P cfg ch kvs h hb n hn]
    unfold evIdx
    by_cases h0 : n = 0
    · subst h0; rfl
    rw [if_neg h0, if_neg h0]
    by_cases h5 : n < 5
    · rw [if_pos h5, if_neg (Nat.ne_of_lt h5)]; rfl
    rw [if_neg h5]
    by_cases h55 : n = 5
    · rw [if_pos h55, if_pos h55]; rfl
    rw [if_neg h55, if_neg h55, if_pos hn]
    split <;> rfl
  · have hlen := flushCalls_length cfg ch kvs
    obtain ⟨h0, h5, h55⟩ : n ≠ 0 ∧ ¬ n < 5 ∧ n ≠ 5 := by omega
    rw [writer_final P cfg ch kvs h hb n (Nat.le_of_not_lt hn)]
    unfold evIdx
    rw [if_neg h0, if_neg h5, if_neg h55, if_neg hn]
    rfl

/-- the calls a removal consists of: `unlink` and `rmdir` -/
def IsRm : FsCall → Prop
  | .unlink _ => True
  | .rmdir => True
  | _ => False

theorem removeAll_isRm (order : List File) : ∀ c ∈ removeAllCalls order, IsRm c := by
  intro c hc
  simp only [removeAllCalls, List.mem_append, List.mem_map, List.mem_singleton] at hc
  rcases hc with ⟨f, _, rfl⟩ | rfl <;> trivial

/-- a removal call changes nothing, removes the (empty) directory, or removes one file of an existing directory -/
theorem rm_step (img : DirImage) (c : FsCall) (hc : IsRm c) :
    applyCall img c = img ∨ applyCall img c = {} ∨ ∃ f, img.dir = true ∧ applyCall img c = img.set f none := by
  cases c with
  | rmdir =>
    simp only [applyCall]
    split
    · exact .inr (.inl rfl)
    · exact .inl rfl
  | unlink f =>
    simp only [applyCall]
    split
    · rename_i hd; exact .inr (.inr ⟨f, hd, rfl⟩)
    · exact .inl rfl
  | _ => exact False.elim hc

/-- gone, or without index.rio and without written metadata -/
def Dead (img : DirImage) : Prop := img.dir = false ∨ (img.index = none ∧ isUnfinishedTable img = true)

theorem dead_step (img : DirImage) (c : FsCall) (hc : IsRm c) (h : Dead img) : Dead (applyCall img c) := by
  rcases rm_step img c hc with e | e | ⟨f, hd, e⟩ <;> rw [e]
  · exact h
  · exact .inl rfl
  · rcases h with h | ⟨h1, h2⟩
    · rw [hd] at h; cases h
    · refine .inr ?_
      cases f <;> simp_all [DirImage.set, isUnfinishedTable]

theorem dead_abstract (P : Params) (img : DirImage) (h : Dead img) :
    abstractOf P img = none ∨ abstractOf P img = some (.part false) := by
  unfold abstractOf
  cases hd : img.dir with
  | false => exact .inl (by simp)
  | true =>
    rcases h with h | ⟨h1, h2⟩
    · rw [hd] at h; cases h
    · refine .inr ?_
      simp only [if_true, classify, classifyX_noindex_unfinished P img h1 h2]
      rfl

theorem classify_partFalse_iff (P : Params) (img : DirImage) :
    classify P img = .part false ↔ classifyX P img = .part false := by
  unfold classify
  cases classifyX P img with
  | part m => cases m <;> simp [ClassX.toTableDir]
  | complete s => simp [ClassX.toTableDir]

/-- `removeUnfinishedTable` on ANY image whose files recovery classifies as unfinished, the directory there or
not (where there is none, every call of the removal leaves the image alone) -/
theorem unfinished_removal (P : Params) (img : DirImage) (hp : classify P img = .part false)
    (order : List File) (k : Nat) :
    abstractOf P (applyCalls img ((removeUnfinishedCalls order).take k)) = none ∨
    abstractOf P (applyCalls img ((removeUnfinishedCalls order).take k)) = some (.part false) := by
  match k with
  | 0 =>
    show abstractOf P img = none ∨ abstractOf P img = some (.part false)
    unfold abstractOf
    split
    · exact .inr (congrArg some hp)
    · exact .inl rfl
  | k + 1 =>
    have h0 : Dead (applyCall img (.unlink .index)) := by
      cases hd : img.dir with
      | false => exact .inl (by simp [applyCall, hd])
      | true =>
        have hu := unfinished_of_partFalse P img ((classify_partFalse_iff P img).mp hp)
        refine .inr ?_
        simp only [applyCall, hd, if_true]
        simpa [DirImage.set, isUnfinishedTable] using hu
    simp only [removeUnfinishedCalls, List.take_succ_cons, applyCalls_cons]
    exact dead_abstract P _ (List.foldlRecOn _ applyCall h0
      fun x hx c hc => dead_step x c (removeAll_isRm order c (List.mem_of_mem_take hc)) hx)

theorem unlinks_get (order : List File) :
    ∀ (img : DirImage), img.dir = true →
      (applyCalls img (order.map .unlink)).dir = true ∧
      ∀ f, (applyCalls img (order.map .unlink)).get f = if f ∈ order then none else img.get f := by
  induction order with
  | nil => intro img hd; exact ⟨hd, fun f => by simp⟩
  | cons g r ih =>
    intro img hd
    have hstep : applyCall img (.unlink g) = img.set g none := by simp [applyCall, hd]
    obtain ⟨h1, h2⟩ := ih (img.set g none) (by simp [hd])
    rw [List.map_cons, applyCalls_cons, hstep]
    refine ⟨h1, fun f => ?_⟩
    rw [h2 f]
    by_cases hfr : f ∈ r
    · simp [hfr]
    · by_cases hfg : f = g
      · subst hfg; simp
      · rw [if_neg hfr, get_set_other _ _ _ _ hfg, if_neg (by simp [hfg, hfr])]

/-- a clean-up that names every remaining file removes the directory -/
theorem removeAll_gone (img : DirImage) (hd : img.dir = true) (order : List File)
    (hall : ∀ f, img.get f ≠ none → f ∈ order) : (applyCalls img (removeAllCalls order)).dir = false := by
  unfold removeAllCalls
  rw [applyCalls_append]
  obtain ⟨h1, h2⟩ := unlinks_get order img hd
  have hnone : ∀ f, (applyCalls img (order.map .unlink)).get f = none := by
    intro f
    rw [h2 f]
    by_cases hf : f ∈ order
    · rw [if_pos hf]
    · rw [if_neg hf]
      exact Classical.byContradiction fun hne => hf (hall f hne)
  have hi := hnone .index
  have hda := hnone .data
  have hm := hnone .metaf
  have hbl := hnone .bloom
  simp only [DirImage.get] at hi hda hm hbl
  simp [applyCall, h1, hi, hda, hm, hbl]

/-- some of the files of the table of `kvs` -/
def SubOf (cfg : SstCfg) (kvs : List KV) (B : Bytes) (img : DirImage) : Prop :=
  (img.index = none ∨ img.index = some (tableOf cfg kvs).index) ∧
  (img.data = none ∨ img.data = some (tableOf cfg kvs).data) ∧
  (img.metaf = none ∨ img.metaf = some (tableOf cfg kvs).metaf) ∧
  (img.bloom = none ∨ img.bloom = some B)

theorem sub_step (cfg : SstCfg) (kvs : List KV) (B : Bytes) (img : DirImage) (c : FsCall) (hc : IsRm c)
    (h : SubOf cfg kvs B img) : SubOf cfg kvs B (applyCall img c) := by
  rcases rm_step img c hc with e | e | ⟨f, _, e⟩ <;> rw [e]
  · exact h
  · exact ⟨.inl rfl, .inl rfl, .inl rfl, .inl rfl⟩
  · obtain ⟨h1, h2, h3, h4⟩ := h
    cases f
    · exact ⟨.inl rfl, h2, h3, h4⟩
    · exact ⟨h1, .inl rfl, h3, h4⟩
    · exact ⟨h1, h2, .inl rfl, h4⟩
    · exact ⟨h1, h2, h3, .inl rfl⟩

theorem rmIdx_le (img : DirImage) : rmIdx img ≤ 4 := by
  unfold rmIdx
  cases img.dir <;> cases img.metaf.isSome <;> cases (img.index.isSome && img.data.isSome) <;> decide

theorem rmIdx_step (img : DirImage) (c : FsCall) (hc : IsRm c) : rmIdx img ≤ rmIdx (applyCall img c) := by
  rcases rm_step img c hc with e | e | ⟨f, hd, e⟩ <;> rw [e]
  · exact Nat.le_refl _
  · exact rmIdx_le img
  · cases f <;> simp only [rmIdx, DirImage.set, hd, Option.isSome_none, Bool.false_and, Bool.and_false] <;>
      cases img.index.isSome && img.data.isSome <;> cases img.metaf.isSome <;> decide

/-- the classification of a directory holding some of the files of a complete table -/
theorem classify_sub {P : Params} {cfg : SstCfg} {kvs : List KV} (h : Hyp P cfg kvs) (B : Bytes)
    (hB : ∃ f, P.readBloom B = some f) (img : DirImage) (hs : SubOf cfg kvs B img) :
    abstractOf P img = rmState kvs (junkOf kvs).toLayer (rmIdx img) := by
  cases hd : img.dir with
  | false => simp [abstractOf, rmIdx, hd, rmState]
  | true =>
    obtain ⟨h1, h2, h3, h4⟩ := hs
    have hbf : ∃ bf, readFilter P img.bloom = .ok bf := by
      rcases h4 with h4 | h4
      · exact ⟨none, by rw [h4]; rfl⟩
      · rw [h4]; exact readFilter_of P B hB
    obtain ⟨bf, hbf⟩ := hbf
    rcases h3 with hm | hm
    · -- no metadata file
      rcases h1 with hi | hi
      · rw [abstractOf_dir P img _ hd (classifyX_nometa_unloadable P img hm (.inl hi))]
        simp [rmIdx, hd, hm, hi, rmState, ClassX.toTableDir]
      · rcases h2 with hda | hda
        · rw [abstractOf_dir P img _ hd (classifyX_nometa_unloadable P img hm (.inr (.inl hda)))]
          simp [rmIdx, hd, hm, hi, hda, rmState, ClassX.toTableDir]
        · rw [abstractOf_dir P img _ hd (classifyX_legacy h img bf hi hda hm hbf)]
          simp [rmIdx, hd, hm, hi, hda, rmState, ClassX.toTableDir]
    · rcases h1 with hi | hi
      · rw [abstractOf_dir P img _ hd (classifyX_halfRemoved h img hm (.inl hi))]
        simp [rmIdx, hd, hm, hi, rmState, ClassX.toTableDir]
      · rcases h2 with hda | hda
        · rw [abstractOf_dir P img _ hd (classifyX_halfRemoved h img hm (.inr hda))]
          simp [rmIdx, hd, hm, hi, hda, rmState, ClassX.toTableDir]
        · rw [abstractOf_dir P img _ hd (classifyX_full h img bf hi hda hm hbf)]
          simp [rmIdx, hd, hm, hi, hda, rmState, ClassX.toTableDir, toLayer_vals]

theorem complete_removal {P : Params} {cfg : SstCfg} {kvs : List KV} (h : Hyp P cfg kvs) (ch : Chunking)
    (hb : BloomReads P ch) (order : List File) (k : Nat) :
    let img := applyCalls (finalImg cfg ch kvs) ((removeAllCalls order).take k)
    abstractOf P img = rmState kvs (junkOf kvs).toLayer (rmIdx img) :=
  classify_sub h _ hb _
    (List.foldlRecOn _ applyCall (finalImg_eq h ch ▸ ⟨.inr rfl, .inr rfl, .inr rfl, .inr rfl⟩)
      fun x hx c hc => sub_step cfg kvs _ x c (removeAll_isRm order c (List.mem_of_mem_take hc)) hx)

theorem complete_removal_mono (img0 : DirImage) (order : List File) {k k' : Nat} (hk : k ≤ k') :
    rmIdx (applyCalls img0 ((removeAllCalls order).take k)) ≤
      rmIdx (applyCalls img0 ((removeAllCalls order).take k')) := by
  obtain ⟨d, rfl⟩ := Nat.exists_eq_add_of_le hk
  rw [List.take_add, applyCalls_append]
  exact List.foldlRecOn (motive := fun x => rmIdx (applyCalls img0 ((removeAllCalls order).take k)) ≤ rmIdx x)
    _ applyCall (Nat.le_refl _) fun x hx c hc =>
      Nat.le_trans hx (rmIdx_step x c (removeAll_isRm order c (List.mem_of_mem_drop (List.mem_of_mem_take hc))))

theorem final_image (cfg : SstCfg) (ch : Chunking) (kvs : List KV) :
    applyCalls {} (flushCalls cfg ch kvs) = finalImg cfg ch kvs := by
  have h := prefix_final cfg ch kvs _ (Nat.le_succ (flushCalls cfg ch kvs).length)
  rwa [List.take_length] at h

theorem abstractOf_some (P : Params) (img : DirImage) (t : TableDir) (h : abstractOf P img = some t) :
    img.dir = true ∧ classify P img = t := by
  unfold abstractOf at h
  split at h
  · rename_i hd; exact ⟨hd, Option.some.inj h⟩
  · cases h

/-- `removeUnfinishedTable` on every image of a writer run that recovery discards -/
theorem unfinished_removal_reachable (P : Params) (cfg : SstCfg) (ch : Chunking) (kvs : List KV)
    (hdct : cfg.dct ≤ maxCompression) (hict : cfg.ict ≤ maxCompression) (n : Nat)
    (hn : n + 1 < (flushCalls cfg ch kvs).length) (h0 : n ≠ 0) (h5 : n ≠ 5) (order : List File) (k : Nat) :
    let img := applyCalls (applyCalls {} ((flushCalls cfg ch kvs).take n)) ((removeUnfinishedCalls order).take k)
    abstractOf P img = none ∨ abstractOf P img = some (.part false) := by
  have hw := writer_window_any P cfg ch kvs hdct hict n hn
  rw [if_neg h0, if_neg h5] at hw
  exact unfinished_removal P _ (abstractOf_some P _ _ hw).2 order k

/-- BEFORE commit d2bdde6 (plain `RemoveAll`): the image with complete index.rio / data.rio and the still empty
metadata file, the metadata file unlinked first — the directory now LOADS, as a legacy table -/
theorem prefix_removal_legacy (P : Params) (cfg : SstCfg) (ch : Chunking) (kvs : List KV) (h : Hyp P cfg kvs)
    (hb : BloomReads P ch) (order : List File) :
    abstractOf P (applyCalls (applyCalls {} ((flushCalls cfg ch kvs).take ((flushCalls cfg ch kvs).length - 2)))
      ((removeUnfinishedCallsPreFix (.metaf :: order)).take 1)) = some (.complete (junkOf kvs).toLayer) := by
  rw [prefix_preMeta]
  obtain ⟨bf, hbf⟩ := readFilter_of P _ hb
  have hT := h.table
  have hstep : applyCalls (preMetaImg cfg ch kvs) ((removeUnfinishedCallsPreFix (.metaf :: order)).take 1) =
      { preMetaImg cfg ch kvs with metaf := none } := by
    simp [removeUnfinishedCallsPreFix, removeAllCalls, applyCall, preMetaImg, DirImage.set]
  rw [hstep]
  rw [abstractOf_dir P _ _ (by simp [preMetaImg]) (classifyX_legacy h _ bf (by simp [preMetaImg, hT])
    (by simp [preMetaImg, hT]) rfl (by simpa [preMetaImg] using hbf))]
  rfl

end SST.Proofs.TblDir
