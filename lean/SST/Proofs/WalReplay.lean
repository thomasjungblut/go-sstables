/-
The replayer on a crash image: `%06d.wal` names sort like their numbers (below the one-million guard), so the suffix
filter and the sort leave an appender's directory as it is, and the file loop reads every complete file wholly
and the cut last one up to its last whole record (`replay_img`).  A cut file is looked at in one way, here and in
the abstraction of `Proofs/WalAbs`: it is the file of its whole records followed by a stump (`file_cut`), and behind
a file of records the readers stop at whatever the next read fails on (`file_reads`).
-/
import SST.Spec.Wal
import SST.Proofs.Varint
import SST.Proofs.RecordIODamage
import SST.Proofs.BytesOrd
namespace SST.Proofs
open SST Generated

theorem asciiDigit_lt (x y : Nat) (hx : x < 10) (hy : y < 10) : asciiDigit x < asciiDigit y ↔ x < y := by
  have toNat (d : Nat) (h : d < 10) : (asciiDigit d).toNat = 48 + d := toNat_ofNat_lt _ (by omega)
  rw [UInt8.lt_iff_toNat_lt, toNat x hx, toNat y hy]
  exact Nat.add_lt_add_iff_left

/-- the number that decimal digits (most significant first) stand for, after the leading part `n` -/
def ofDigits (n : Nat) (ds : List Nat) : Nat := ds.foldl (fun n d => 10 * n + d) n

theorem ofDigits_cons (n d : Nat) (ds : List Nat) : ofDigits n (d :: ds) = ofDigits (10 * n + d) ds := rfl

theorem ofDigits_lt (xs ys : List Nat) (hl : xs.length = ys.length) (hx : ∀ x ∈ xs, x < 10) (a b : Nat)
    (h : a < b) : ofDigits a xs < ofDigits b ys := by
  induction xs generalizing ys a b with
  | nil =>
    cases ys with
    | nil => exact h
    | cons y ys => cases hl
  | cons x xs ih =>
    cases ys with
    | nil => cases hl
    | cons y ys =>
      rw [List.forall_mem_cons] at hx
      rw [ofDigits_cons, ofDigits_cons]
      exact ih ys (Nat.succ.inj hl) hx.2 _ _ (by omega)

theorem bytesCmp_digits (xs ys : List Nat) (s : Bytes) (hl : xs.length = ys.length)
    (hx : ∀ x ∈ xs, x < 10) (hy : ∀ y ∈ ys, y < 10) (a : Nat) :
    bytesCmp (xs.map asciiDigit ++ s) (ys.map asciiDigit ++ s) = compare (ofDigits a xs) (ofDigits a ys) := by
  induction xs generalizing ys a with
  | nil =>
    cases ys with
    | nil => exact (bytesCmp_refl s).trans (Nat.compare_eq_eq.mpr rfl).symm
    | cons y ys => cases hl
  | cons x xs ih =>
    cases ys with
    | nil => cases hl
    | cons y ys =>
      obtain ⟨hx0, hx'⟩ := List.forall_mem_cons.mp hx
      obtain ⟨hy0, hy'⟩ := List.forall_mem_cons.mp hy
      have hl' : xs.length = ys.length := Nat.succ.inj hl
      simp only [List.map_cons, List.cons_append, bytesCmp, asciiDigit_lt x y hx0 hy0, asciiDigit_lt y x hy0 hx0,
        ofDigits_cons]
      rcases Nat.lt_trichotomy x y with h | rfl | h
      · rw [if_pos h]
        exact (Nat.compare_eq_lt.mpr (ofDigits_lt xs ys hl' hx' _ _ (Nat.add_lt_add_left h _))).symm
      · rw [if_neg (Nat.lt_irrefl x), if_neg (Nat.lt_irrefl x)]
        exact ih ys hl' hx' hy' _
      · rw [if_neg (Nat.lt_asymm h), if_pos h]
        exact (Nat.compare_eq_gt.mpr (ofDigits_lt ys xs hl'.symm hy' _ _ (Nat.add_lt_add_left h _))).symm

/-- the digits with each quotient written as the previous one divided by ten, so that `Nat.div_add_mod` applies -/
theorem walDigits_small (n : Nat) (h : n < maxWalFiles) :
    walDigits n = [n / 10 / 10 / 10 / 10 / 10 % 10, n / 10 / 10 / 10 / 10 % 10, n / 10 / 10 / 10 % 10,
      n / 10 / 10 % 10, n / 10 % 10, n % 10] := by
  simp only [Nat.div_div_eq_div_mul]
  exact if_pos h

/-- Go's string order on the names of two files below the guard is the order of their numbers -/
theorem walName_lt (a b : Nat) (ha : a < maxWalFiles) (hb : b < maxWalFiles) :
    bytesLt (walName a) (walName b) = decide (a < b) := by
  have digit (n : Nat) (h : n < maxWalFiles) : ∀ d ∈ walDigits n, d < 10 := by
    intro d hd
    simp only [walDigits_small n h, List.mem_cons, List.not_mem_nil, or_false] at hd
    rcases hd with rfl | rfl | rfl | rfl | rfl | rfl <;> exact Nat.mod_lt _ (by decide)
  have value (n : Nat) (h : n < maxWalFiles) : ofDigits 0 (walDigits n) = n := by
    have h5 : n / 10 / 10 / 10 / 10 / 10 < 10 := by
      simp only [Nat.div_div_eq_div_mul]
      exact Nat.div_lt_of_lt_mul h
    simp only [walDigits_small n h, ofDigits, List.foldl_cons, List.foldl_nil, Nat.mul_zero, Nat.zero_add,
      Nat.mod_eq_of_lt h5, Nat.div_add_mod]
  -- each length on its own: `rfl` between the two would compare the digits of `a` with those of `b` first
  have len (n : Nat) (h : n < maxWalFiles) : (walDigits n).length = 6 := congrArg List.length (walDigits_small n h)
  unfold bytesLt walName
  rw [bytesCmp_digits _ _ _ ((len a ha).trans (len b hb).symm) (digit a ha) (digit b hb) 0, value a ha, value b hb]
  rw [Bool.eq_iff_iff, beq_iff_eq, Nat.compare_eq_lt, decide_eq_true_iff]

theorem hasWalSuffix_walName (n : Nat) : hasWalSuffix (walName n) = true := by
  unfold hasWalSuffix walName
  rw [List.length_append, Nat.add_sub_cancel, List.drop_left]
  exact beq_self_eq_true _

theorem filter_named (d : DirN) : d.named.filter (fun e => hasWalSuffix e.1) = d.named := by
  apply List.filter_eq_self.mpr
  intro e he
  simp only [DirN.named, List.mem_map] at he
  obtain ⟨x, _, rfl⟩ := he
  exact hasWalSuffix_walName x.1

/-- numbers strictly ascending and below the one-million guard -/
def AscN (d : DirN) : Prop := d.Pairwise (fun x y => x.1 < y.1) ∧ ∀ x ∈ d, x.1 < maxWalFiles

theorem sortByName_named (d : DirN) (h : AscN d) : sortByName d.named = d.named := by
  induction d with
  | nil => rfl
  | cons x xs ih =>
    obtain ⟨hp, hb⟩ := h
    rw [List.pairwise_cons] at hp
    rw [List.forall_mem_cons] at hb
    have ih' := ih ⟨hp.2, hb.2⟩
    show insertByName (walName x.1, x.2) (sortByName (DirN.named xs)) = _
    rw [ih']
    cases xs with
    | nil => rfl
    | cons y ys =>
      have hxy : x.1 < y.1 := hp.1 y List.mem_cons_self
      have := walName_lt x.1 y.1 hb.1 (hb.2 y List.mem_cons_self)
      simp only [DirN.named, List.map_cons, insertByName, this, hxy, decide_true, if_true]

theorem replay_named (cOf : Nat → Compression) (d : DirN) (h : AscN d) :
    replay cOf d.named = replayFiles cOf d.named := by
  unfold replay; rw [filter_named, sortByName_named d h]

theorem ascN_img (F : Nat → Bytes) (j : Nat) (b : Bytes) (hj : j < maxWalFiles) :
    AscN (completeDir F j ++ [(j, b)]) := by
  constructor
  · rw [List.pairwise_append]
    refine ⟨?_, by simp, ?_⟩
    · unfold completeDir
      rw [List.pairwise_map]
      exact List.Pairwise.imp (fun h => h) List.pairwise_lt_range
    · intro x hx y hy
      simp only [completeDir, List.mem_map, List.mem_range] at hx
      obtain ⟨i, hi, rfl⟩ := hx
      simp only [List.mem_singleton] at hy; subst hy; exact hi
  · intro x hx
    simp only [List.mem_append, completeDir, List.mem_map, List.mem_range, List.mem_singleton] at hx
    rcases hx with ⟨i, hi, rfl⟩ | rfl
    · exact Nat.lt_trans hi hj
    · exact hj

theorem RanOut.eofKind {α : Type} {x : Except Err α} (h : RanOut x) : ∃ e, x = .error e ∧ isEofKind e = true := by
  rcases h with h | h
  · exact ⟨_, h, rfl⟩
  · exact ⟨_, h, rfl⟩

/-- a prefix of a record file that holds the header: the file of the records wholly inside it, then a stump at
which the reader runs out -/
theorem file_cut (c : Compression) (ct : Nat) (rs : List GoBytes) (hf : ∀ r ∈ rs, FitsRec c r) {b : Bytes}
    (hb : b <+: fileBytes c ct rs) (hn : fileHeaderSize ≤ b.length) :
    ∃ tail, b = fileBytes c ct (rs.take (wholeIn c rs b.length)) ++ tail ∧ RanOut (readNextS c tail) := by
  obtain ⟨j, hj⟩ := Nat.exists_eq_add_of_le hn
  obtain ⟨tail, h1, h2⟩ := encAll_take c rs hf j
  refine ⟨tail, (List.prefix_iff_eq_take.mp hb).trans ?_, h2⟩
  rw [hj, wholeIn, Nat.add_sub_cancel_left, fileBytes, fileBytes, List.append_assoc, ← h1]
  exact List.take_length_add_append (l₁ := fileHeader currentVersion ct) j

/-- a record file with anything behind it at which the next read fails: the header is accepted and the records are
read, then that failure (`[]`: the complete file; a stump: the cut file) -/
theorem file_reads (c : Compression) (ct : Nat) (hl : LawfulC c) (hct : ct ≤ maxCompression)
    (xs : List GoBytes) (hf : ∀ r ∈ xs, FitsRec c r) {tail : Bytes} {e : Err} (ht : readNextS c tail = .error e) :
    parseFileHeader (fileBytes c ct xs ++ tail) = .ok (currentVersion, ct) ∧
    readAll c (fileBytes c ct xs ++ tail) = (xs, e) := by
  unfold fileBytes
  rw [List.append_assoc]
  have := (isFraming_v4 c fun _ h => h).open_append hl _ _ (readAll_hdr c ct) ht xs hf
  rw [List.map_id'] at this
  exact ⟨file_header_accepted currentVersion ct _ (by decide) hct, this⟩

theorem replayFiles_last (cOf : Nat → Compression) (c : Compression) (ct : Nat) (hc : cOf ct = c)
    (rs : List GoBytes) (hl : LawfulC c) (hf : ∀ r ∈ rs, FitsRec c r) (hct : ct ≤ maxCompression)
    (b : Bytes) (hb : b <+: fileBytes c ct rs) (nm : Bytes) :
    replayFiles cOf [(nm, b)] = (rs.take (wholeIn c rs b.length), none) := by
  by_cases hn : b.length < fileHeaderSize
  · obtain ⟨e, hp, hk⟩ := (parseFileHeader_short b hn).eofKind
    rw [wholeIn_small c rs _ hn, replayFiles.eq_2, hp]
    simp only [hk, if_true, List.take_zero]
  · obtain ⟨tail, h1, h2⟩ := file_cut c ct rs hf hb (Nat.le_of_not_lt hn)
    obtain ⟨e, he, hk⟩ := h2.eofKind
    obtain ⟨p1, p2⟩ := file_reads c ct hl hct _ (fun r hr => hf r (List.mem_of_mem_take hr)) he
    rw [← h1] at p1 p2
    rw [replayFiles.eq_2, p1]
    simp only [hc, p2, hk, if_true]

theorem replayFiles_cons_complete (cOf : Nat → Compression) (c : Compression) (ct : Nat) (hc : cOf ct = c)
    (rs : List GoBytes) (hl : LawfulC c) (hf : ∀ r ∈ rs, FitsRec c r) (hct : ct ≤ maxCompression)
    (nm : Bytes) (rest : Dir) (hr : rest ≠ []) :
    replayFiles cOf ((nm, fileBytes c ct rs) :: rest) =
      (rs ++ (replayFiles cOf rest).1, (replayFiles cOf rest).2) := by
  obtain ⟨g, rest, rfl⟩ := List.exists_cons_of_ne_nil hr
  obtain ⟨p1, p2⟩ := file_reads c ct hl hct rs hf (readNextS_nil c)
  rw [List.append_nil] at p1 p2
  rw [replayFiles.eq_3, p1]
  simp only [hc, p2]
  rfl

/-- every record of every file fits the 64-bit header fields -/
def FitsAll (c : Compression) (full : List (List GoBytes)) : Prop := ∀ rs ∈ full, ∀ r ∈ rs, FitsRec c r

theorem replayFiles_ks (cOf : Nat → Compression) (c : Compression) (ct : Nat) (hc : cOf ct = c)
    (hl : LawfulC c) (hct : ct ≤ maxCompression) (full : List (List GoBytes)) (hf : FitsAll c full)
    (ks : List Nat) (j : Nat) (b : Bytes) (hb : b <+: fileOf c ct full j) :
    replayFiles cOf (DirN.named (ks.map (fun i => (i, fileOf c ct full i)) ++ [(j, b)])) =
      ((ks.map (fun i => full.getD i [])).flatten ++
        (full.getD j []).take (wholeIn c (full.getD j []) b.length), none) := by
  induction ks with
  | nil =>
    exact replayFiles_last cOf c ct hc _ hl (forall_getD full hf j) hct b hb (walName j)
  | cons k ks ih =>
    show replayFiles cOf ((walName k, fileBytes c ct (full.getD k [])) ::
      DirN.named (ks.map (fun i => (i, fileOf c ct full i)) ++ [(j, b)])) = _
    rw [replayFiles_cons_complete cOf c ct hc _ hl (forall_getD full hf k) hct _ _ (by simp [DirN.named]), ih]
    simp

theorem replay_img (cOf : Nat → Compression) (c : Compression) (ct : Nat) (hc : cOf ct = c)
    (hl : LawfulC c) (hct : ct ≤ maxCompression) (full : List (List GoBytes)) (hf : FitsAll c full)
    (hm : full.length ≤ maxWalFiles) (d : DirN) (hd : Img (fileOf c ct full) full.length d) :
    replay cOf d.named = (imgRecords c full d, none) := by
  rcases hd with rfl | ⟨j, b, hj, hb, rfl⟩
  · rfl
  · rw [replay_named cOf _ (ascN_img _ j b (Nat.lt_of_lt_of_le hj hm))]
    unfold completeDir
    rw [replayFiles_ks cOf c ct hc hl hct full hf _ j b hb, range_map_getD full j (Nat.le_of_lt hj)]
    simp [imgRecords]

end SST.Proofs
