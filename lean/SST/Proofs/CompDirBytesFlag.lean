/-
Proofs for SST/Model/CompDirBytes.lean: the flag file — protobuf round trip, the file read back, every cut,
every prefix of `saveCompactionMetadata`'s calls.
-/
import SST.Proofs.CompDirBytesDefs
import SST.Proofs.Proto
import SST.Proofs.SSTableWriter
namespace SST.Proofs.CompDir
open SST SST.CompDir Generated SST.Proofs SST.Proofs.Pb

def repFields (num : Nat) (ps : List Bytes) : PbFields := ps.map fun b => (num, .bytes b)

/-- the fields the decoder lists for the marshalled message, in the `optB` / `repFields` form in which `strOf`, `repOf` and
`fieldsUtf8` are read off them (`fieldsOf_metaFields`: it is the list `fieldsOf (metaFields m)` of the wire order) -/
def compFields (m : RawMeta) : PbFields :=
  optB 1 m.writePath ++ optB 2 m.replacementPath ++ repFields 3 m.sstablePaths

/-- The wire form of a list of `string` fields, each written whatever its content.  The marshalled message is
`encF (metaFields m)`: the round trip and the zero-padded cuts both go field by field over this list. -/
def encF (L : List (Nat × Bytes)) : Bytes := (L.map fun p => pbRepField p.1 p.2).flatten

def fieldsOf (L : List (Nat × Bytes)) : PbFields := L.map fun p => (p.1, PbVal.bytes p.2)

theorem encF_cons (p : Nat × Bytes) (L : List (Nat × Bytes)) : encF (p :: L) = pbRepField p.1 p.2 ++ encF L := rfl

/-- the decoder takes the fields of `L` one after the other; stated like the `dec_*` lemmas of SST/Proofs/Proto.lean
(`Dec sch b acc r`: decoding `b` on top of the fields `acc` yields `r`, whatever the fuel), so that they chain -/
theorem dec_encF {sch : Nat → Option PbKind} {rest : Bytes} {r : PbFields × Option Err} :
    ∀ (L : List (Nat × Bytes)) (acc : PbFields),
      (∀ p ∈ L, sch p.1 = some .bytes ∧ 1 ≤ p.1 ∧ p.1 ≤ 536870911) → (encF L).length < 2 ^ 64 →
      Dec sch rest (acc ++ fieldsOf L) r → Dec sch (encF L ++ rest) acc r := by
  intro L
  induction L with
  | nil => intro acc _ _ h; simpa [encF, fieldsOf] using h
  | cons p L ih =>
    intro acc hL hlen h
    obtain ⟨hs, h1, h2⟩ := hL p List.mem_cons_self
    rw [encF_cons, List.length_append] at hlen
    have hp : p.2.length ≤ (pbRepField p.1 p.2).length := by simp only [pbRepField, List.length_append]; omega
    rw [encF_cons, List.append_assoc]
    apply dec_lenField hs h1 h2 (by omega)
    apply ih _ (fun q hq => hL q (List.mem_cons_of_mem _ hq)) (by omega)
    simpa [fieldsOf, List.append_assoc] using h

/-- the fields `proto.Marshal` writes for the message -/
def metaFields (m : RawMeta) : List (Nat × Bytes) :=
  (if m.writePath.length = 0 then [] else [(1, m.writePath)]) ++
  ((if m.replacementPath.length = 0 then [] else [(2, m.replacementPath)]) ++
    m.sstablePaths.map (fun b => (3, b)))

theorem encCompMeta_eq (m : RawMeta) : encCompMeta m = encF (metaFields m) := by
  obtain ⟨wp, rp, ps⟩ := m
  have hps : (List.map (pbRepField 3) ps).flatten = encF (ps.map fun b => (3, b)) := by
    simp [encF, List.map_map, Function.comp_def]
  unfold encCompMeta metaFields
  simp only [hps]
  by_cases h1 : wp.length = 0 <;> by_cases h2 : rp.length = 0 <;>
    simp [h1, h2, pbBytesField, encF, pbRepField]

theorem metaFields_num (m : RawMeta) : ∀ p ∈ metaFields m, p.1 = 1 ∨ p.1 = 2 ∨ p.1 = 3 := by
  intro p hp
  unfold metaFields at hp
  rcases List.mem_append.mp hp with h | h
  · split at h
    · cases h
    · simp at h; subst h; exact Or.inl rfl
  · rcases List.mem_append.mp h with h | h
    · split at h
      · cases h
      · simp at h; subst h; exact Or.inr (Or.inl rfl)
    · obtain ⟨b, _, rfl⟩ := List.mem_map.mp h
      exact Or.inr (Or.inr rfl)

/-- every field `proto.Marshal` writes is a `string` field of the schema with a one-byte tag -/
theorem metaFields_sch (m : RawMeta) :
    ∀ p ∈ metaFields m, compMetaSchema p.1 = some .bytes ∧ 1 ≤ p.1 ∧ p.1 * 8 + 2 < 128 := by
  intro p hp
  rcases metaFields_num m p hp with h | h | h <;> rw [h] <;> decide

theorem fieldsOf_metaFields (m : RawMeta) : fieldsOf (metaFields m) = compFields m := by
  unfold fieldsOf metaFields compFields optB repFields
  by_cases h1 : m.writePath.length = 0 <;> by_cases h2 : m.replacementPath.length = 0 <;>
    simp [h1, h2, List.map_map, Function.comp_def]

theorem dec_encCompMeta (m : RawMeta) (hf : (encCompMeta m).length < 2 ^ 64) :
    Dec compMetaSchema (encCompMeta m) [] (compFields m, none) := by
  rw [encCompMeta_eq] at hf ⊢
  rw [← fieldsOf_metaFields, ← List.append_nil (encF _)]
  refine dec_encF _ _ (fun p hp => ?_) hf (dec_nil _ _)
  obtain ⟨hs, h1, ht⟩ := metaFields_sch m p hp
  exact ⟨hs, h1, by omega⟩

theorem find_reps (num k : Nat) (hk : num ≠ k) (ps : List Bytes) :
    (repFields num ps).reverse.find? (·.1 == k) = none := by
  rw [List.find?_eq_none]
  intro x hx
  rw [List.mem_reverse] at hx
  simp only [repFields, List.mem_map] at hx
  obtain ⟨b, _, rfl⟩ := hx
  simp [hk]

theorem repOf_reps (num : Nat) (ps : List Bytes) : repOf (repFields num ps) num = ps := by
  induction ps with
  | nil => rfl
  | cons p ps ih =>
    simp only [repOf, repFields, List.map_cons, List.filterMap_cons] at ih ⊢
    simp [ih]

theorem repOf_append (a b : PbFields) (k : Nat) : repOf (a ++ b) k = repOf a k ++ repOf b k := by
  simp [repOf, List.filterMap_append]

theorem repOf_optB (num : Nat) (b : Bytes) (k : Nat) (hk : num ≠ k) : repOf (optB num b) k = [] := by
  by_cases h0 : b.length = 0 <;> simp [optB, repOf, h0, hk]

theorem utf8_optB (num : Nat) (b : Bytes) : fieldsUtf8 (optB num b) = utf8Valid b := by
  by_cases h0 : b.length = 0
  · rw [List.eq_nil_of_length_eq_zero h0]; rfl
  · simp [optB, fieldsUtf8, h0]

theorem utf8_reps (num : Nat) (ps : List Bytes) : fieldsUtf8 (repFields num ps) = ps.all utf8Valid := by
  simp [fieldsUtf8, repFields, List.all_map, Function.comp_def]

theorem fieldsUtf8_append (a b : PbFields) : fieldsUtf8 (a ++ b) = (fieldsUtf8 a && fieldsUtf8 b) := by
  simp [fieldsUtf8, List.all_append]

/-- the message a list of decoded fields stands for -/
def rawOfFields (fs : PbFields) : RawMeta :=
  { writePath := strOf fs 1, replacementPath := strOf fs 2, sstablePaths := repOf fs 3 }

theorem decCompMeta_ok (b : Bytes) (fs : PbFields) (h : pbDecode compMetaSchema b = (fs, none)) :
    decCompMeta b = if fieldsUtf8 fs then some (rawOfFields fs) else none := by
  unfold decCompMeta
  rw [h]
  rfl

theorem strOf_compFields (m : RawMeta) (k : Nat) (b : Bytes) (hk : k ≠ 3)
    (hb : (optB 1 m.writePath ++ optB 2 m.replacementPath).reverse.find? (·.1 == k) =
      if b.length ≠ 0 then some (k, .bytes b) else none) : strOf (compFields m) k = b := by
  rw [strOf, pbGetBytes, compFields, List.reverse_append, List.find?_append, find_reps 3 k (Ne.symm hk),
    Option.none_or, hb]
  by_cases h : b.length = 0
  · rw [List.eq_nil_of_length_eq_zero h]; rfl
  · simp [h]

theorem rawOfFields_compFields (m : RawMeta) : rawOfFields (compFields m) = m := by
  have g1 : strOf (compFields m) 1 = m.writePath :=
    strOf_compFields m 1 _ (by decide) (by simp [List.find?_append, find_optB])
  have g2 : strOf (compFields m) 2 = m.replacementPath :=
    strOf_compFields m 2 _ (by decide) (by simp [List.find?_append, find_optB])
  have g3 : repOf (compFields m) 3 = m.sstablePaths := by
    rw [compFields, repOf_append, repOf_append, repOf_optB 1 _ 3 (by decide), repOf_optB 2 _ 3 (by decide), repOf_reps]
    rfl
  rw [rawOfFields, g1, g2, g3]

/-- `proto.Unmarshal` of the bytes `proto.Marshal` would write is the UTF-8 check itself: empty strings, an empty path
list, empty paths inside the list, any lengths -/
theorem decCompMeta_enc_any (m : RawMeta) (hf : (encCompMeta m).length < 2 ^ 64) :
    decCompMeta (encCompMeta m) = if m.valid then some m else none := by
  have gu : fieldsUtf8 (compFields m) = m.valid := by
    rw [compFields, fieldsUtf8_append, fieldsUtf8_append, utf8_optB, utf8_optB, utf8_reps]
    rfl
  rw [decCompMeta_ok _ _ (dec_pbDecode (dec_encCompMeta m hf)), gu, rawOfFields_compFields]

/-- `proto.Unmarshal(proto.Marshal(m)) = m` for every metadata value `Marshal` accepts -/
theorem decCompMeta_enc (m : RawMeta) (h : MetaOk m) : decCompMeta (encCompMeta m) = some m :=
  (decCompMeta_enc_any m h.fits).trans (if_pos h.valid)

theorem readFlag_of_parse_err (comps : Nat → Compression) (file : Bytes) (e : Err)
    (h : parseFileHeader file = .error e) : readFlag comps (some file) = none := by
  unfold readFlag openSeq
  simp only [h]

theorem readFlag_short (comps : Nat → Compression) (file : Bytes) (h : file.length < fileHeaderSize) :
    readFlag comps (some file) = none :=
  let ⟨e, he⟩ := (parseFileHeader_short file h).error
  readFlag_of_parse_err comps file e he

/-- a flag file that has its 8 header bytes is read by `readNextS` on the rest -/
theorem readFlag_hdr (comps : Nat → Compression) (X : Bytes) :
    readFlag comps (some (fileHeader currentVersion 0 ++ X)) =
      match readNextS (comps 0) X with
      | .error _ => none
      | .ok (r, _) => decCompMeta (r.getD []) := by
  unfold readFlag
  simp only [Sst.openSeq_file comps 0 X (by decide)]
  cases readNextS (comps 0) X <;> rfl

theorem fits_flag (m : RawMeta) (hf : (encCompMeta m).length < 2 ^ 64) : FitsRec none (some (encCompMeta m)) :=
  ⟨hf, by simp [clenOf]⟩

/-- the complete flag file reads back as exactly the metadata written (whatever follows the record) -/
theorem flag_roundtrip (comps : Nat → Compression) (hc : comps 0 = none) (m : RawMeta) (h : MetaOk m) (t : Bytes) :
    readFlag comps (some (flagBytes m ++ t)) = some m := by
  rw [flagBytes, List.append_assoc, readFlag_hdr, hc, flagRecord,
    readNextS_enc none (some (encCompMeta m)) t trivial (fits_flag m h.fits)]
  exact decCompMeta_enc m h

theorem flagBytes_length (m : RawMeta) : (flagBytes m).length = 8 + (flagRecord m).length := by
  rw [flagBytes, List.length_append, fileHeader_length]

/-- every PROPER prefix of the flag file does not read -/
theorem flag_cut_none (comps : Nat → Compression) (hc : comps 0 = none) (m : RawMeta)
    (hf : (encCompMeta m).length < 2 ^ 64) (k : Nat) (hk : k < (flagBytes m).length) :
    readFlag comps (some ((flagBytes m).take k)) = none := by
  by_cases h8 : k < fileHeaderSize
  · apply readFlag_short
    rw [List.length_take]; omega
  · obtain ⟨j, rfl⟩ := Nat.exists_eq_add_of_le (show 8 ≤ k from Nat.le_of_not_lt h8)
    rw [flagBytes_length] at hk
    rw [flagBytes, ← fileHeader_length currentVersion 0, List.take_length_add_append, readFlag_hdr, hc]
    obtain ⟨e, he⟩ :=
      (readNextS_trunc_err none (some (encCompMeta m)) (fits_flag m hf) j (Nat.lt_of_add_lt_add_left hk)).error
    rw [flagRecord, he]

theorem flagBytes_ne (m : RawMeta) : flagBytes m ≠ [] :=
  fun h => fileHeader_ne (List.append_eq_nil_iff.mp h).1

/-- the calls of `saveCompactionMetadata` before its first `write`; they leave an empty file -/
def nfOpen : List FlagCall := [.create, .close, .create]

/-- The shape of every call list of `saveCompactionMetadata`, whatever the chunking and whether or not `Marshal`
accepts the metadata: `create, close, create`, one `write` per chunk, `close` (`flagCalls_nf`, `flagCalls_nf_invalid`).
The file after `n` calls and `flagDone` are read off the chunk list. -/
def nfCalls (chunks : List Bytes) : List FlagCall := nfOpen ++ (chunks.map .write ++ [.close])

/-- the `write` calls of the buffered writer are non-empty chunks of the stream, from `w` up to where it stops -/
theorem emitF_chunks (stream : Bytes) (avail : Nat) (ha : avail ≤ stream.length) : ∀ (ns : List Nat) (w : Nat),
    ∃ bss : List Bytes, (emitF stream avail ns w).1 = bss.map .write ∧ (∀ b ∈ bss, b ≠ []) ∧
      stream.take w ++ bss.flatten = stream.take (emitF stream avail ns w).2 := by
  intro ns
  induction ns with
  | nil => exact fun w => ⟨[], rfl, nofun, List.append_nil _⟩
  | cons n ns ih =>
    intro w
    obtain ⟨bss, e1, e2, e3⟩ := ih (w + min n (avail - w))
    simp only [emitF]
    by_cases hm : min n (avail - w) = 0
    · rw [hm, Nat.add_zero] at e1 e3
      rw [if_pos hm, hm, Nat.add_zero]
      exact ⟨bss, e1, e2, e3⟩
    · rw [if_neg hm]
      refine ⟨(stream.drop w).take (min n (avail - w)) :: bss, by rw [e1]; rfl, ?_, ?_⟩
      · rw [List.forall_mem_cons]
        refine ⟨fun h0 => ?_, e2⟩
        rcases List.take_eq_nil_iff.mp h0 with h | h
        · exact hm h
        · exact hm (by rw [Nat.sub_eq_zero_of_le (Nat.le_trans ha (List.drop_eq_nil_iff.mp h)), Nat.min_zero])
      · rw [List.flatten_cons, ← List.append_assoc, ← List.take_add, e3]

theorem flagCalls_nf (sizes : List Nat) (m : RawMeta) (hv : m.valid = true) :
    ∃ chunks, (∀ b ∈ chunks, b ≠ []) ∧ chunks.flatten = flagBytes m ∧ flagCalls sizes m = nfCalls chunks := by
  obtain ⟨bss, e1, e2, e3⟩ := emitF_chunks (flagBytes m) _ (Nat.le_refl _) sizes fileHeaderSize
  have h8 : (flagBytes m).take fileHeaderSize = fileHeader currentVersion 0 :=
    List.take_left' (fileHeader_length _ _)
  unfold flagCalls
  rw [if_pos hv]
  simp only [e1]
  generalize (emitF (flagBytes m) (flagBytes m).length sizes fileHeaderSize).2 = stop at e3 ⊢
  rw [h8] at e3
  by_cases he : ((flagBytes m).drop stop).isEmpty = true
  · refine ⟨fileHeader currentVersion 0 :: bss, List.forall_mem_cons.mpr ⟨fileHeader_ne, e2⟩, ?_, ?_⟩
    · rw [List.flatten_cons, e3, List.take_of_length_le (List.drop_eq_nil_iff.mp (List.isEmpty_iff.mp he))]
    · rw [if_pos he, List.append_nil]; rfl
  · refine ⟨fileHeader currentVersion 0 :: (bss ++ [(flagBytes m).drop stop]), ?_, ?_, ?_⟩
    · rw [List.forall_mem_cons]
      refine ⟨fileHeader_ne, fun b hb => ?_⟩
      rcases List.mem_append.mp hb with hb | hb
      · exact e2 b hb
      · rw [List.mem_singleton.mp hb]; exact fun h0 => he (by rw [h0]; rfl)
    · rw [List.flatten_cons, List.flatten_append, ← List.append_assoc, e3, List.flatten_singleton,
        List.take_append_drop]
    · rw [if_neg he, nfCalls, List.map_cons, List.map_append]; rfl

theorem flagCalls_nf_invalid (sizes : List Nat) (m : RawMeta) (hv : m.valid = false) :
    flagCalls sizes m = nfCalls [fileHeader currentVersion 0] := by
  unfold flagCalls
  rw [if_neg (by rw [hv]; exact Bool.false_ne_true)]
  rfl

theorem apply_writes (chunks : List Bytes) : ∀ (x : Bytes) (tl : List FlagCall),
    applyFlagCalls (some x) (chunks.map FlagCall.write ++ tl) = applyFlagCalls (some (x ++ chunks.flatten)) tl := by
  induction chunks with
  | nil => intro x tl; rw [List.flatten_nil, List.append_nil]; rfl
  | cons b bs ih => intro x tl; rw [List.flatten_cons, ← List.append_assoc]; exact ih (x ++ b) tl

theorem writes_image (chunks : List Bytes) (x : Bytes) (i : Nat) :
    applyFlagCalls (some x) ((chunks.map FlagCall.write ++ [FlagCall.close]).take i) =
      some (x ++ (chunks.take i).flatten) := by
  rw [List.take_append, ← List.map_take, apply_writes]
  cases i - (chunks.map FlagCall.write).length with
  | zero => rfl
  | succ k => rw [List.take_succ_cons, List.take_nil]; rfl

theorem nf_image (chunks : List Bytes) (n : Nat) :
    applyFlagCalls none ((nfCalls chunks).take n) =
      if n = 0 then none else some ((chunks.take (n - nfOpen.length)).flatten) :=
  match n with
  | 0 | 1 | 2 => rfl
  | i + 3 => writes_image chunks [] i

theorem writes_done (chunks : List Bytes) : ∀ (i : Nat),
    ((chunks.map FlagCall.write ++ [FlagCall.close]).drop i).any FlagCall.isWrite = false ↔ chunks.length ≤ i := by
  induction chunks with
  | nil => exact fun i => ⟨fun _ => Nat.zero_le i, fun _ => List.any_eq_false.mpr fun c hc => by
      rw [List.mem_singleton.mp (List.mem_of_mem_drop hc)]; exact Bool.false_ne_true⟩
  | cons b bs ih =>
    intro i
    cases i with
    | zero => exact ⟨fun h => Bool.noConfusion (h : true = false), fun h => absurd h (Nat.not_succ_le_zero _)⟩
    | succ i => rw [List.length_cons, Nat.succ_le_succ_iff]; exact ih i

/-- once no `write` remains, none remains later -/
theorem flagDone_mono (fcs : List FlagCall) {j j' : Nat} (hj : j ≤ j') (h : flagDone fcs j = true) :
    flagDone fcs j' = true := by
  unfold flagDone at h ⊢
  simp only [Bool.not_eq_true', List.any_eq_false] at h ⊢
  intro x hx
  rw [show j' = j + (j' - j) by omega, ← List.drop_drop] at hx
  exact h x (List.mem_of_mem_drop hx)

/-- no `write` remains exactly when all chunks are out -/
theorem nf_done (chunks : List Bytes) (n : Nat) :
    flagDone (nfCalls chunks) n = true ↔ chunks.length ≤ n - nfOpen.length := by
  rw [flagDone, Bool.not_eq_true', ← writes_done, nfCalls, List.drop_append, List.any_append, Bool.or_eq_false_iff]
  exact and_iff_right (List.any_eq_false.mpr fun c hc =>
    (by decide : ∀ c ∈ nfOpen, ¬ c.isWrite = true) c (List.mem_of_mem_drop hc))

/-- chunks that are not empty: all bytes are out exactly when all chunks are -/
theorem chunks_out (chunks : List Bytes) (hc : ∀ b ∈ chunks, b ≠ []) : ∀ k : Nat,
    (chunks.take k).flatten.length = chunks.flatten.length ↔ chunks.length ≤ k := by
  induction chunks with
  | nil => exact fun k => ⟨fun _ => Nat.zero_le k, fun _ => by rw [List.take_nil]⟩
  | cons b bs ih =>
    intro k
    rw [List.flatten_cons, List.length_append]
    cases k with
    | zero =>
      exact ⟨fun h => absurd (List.eq_nil_of_length_eq_zero (Nat.eq_zero_of_add_eq_zero_right h.symm))
        (hc b List.mem_cons_self), nofun⟩
    | succ k =>
      rw [List.take_succ_cons, List.flatten_cons, List.length_append, Nat.add_left_cancel_iff, List.length_cons,
        Nat.succ_le_succ_iff]
      exact ih (fun c h => hc c (List.mem_cons_of_mem _ h)) k

/-- every prefix of a call list in normal form, in terms of the bytes all its chunks add up to -/
theorem nf_prefix (chunks : List Bytes) (hc : ∀ b ∈ chunks, b ≠ []) (hne : chunks ≠ []) (n : Nat) :
    ∃ w, w ≤ chunks.flatten.length ∧
      applyFlagCalls none ((nfCalls chunks).take n) = (if n = 0 then none else some (chunks.flatten.take w)) ∧
      (flagDone (nfCalls chunks) n = true ↔ (n ≠ 0 ∧ w = chunks.flatten.length)) := by
  rw [nf_image, nf_done]
  generalize hi : n - nfOpen.length = i
  have hs : (chunks.take i).flatten ++ (chunks.drop i).flatten = chunks.flatten := by
    rw [← List.flatten_append, List.take_append_drop]
  refine ⟨(chunks.take i).flatten.length, ?_, ?_, ?_⟩
  · rw [← hs, List.length_append]; exact Nat.le_add_right _ _
  · rw [← hs, List.take_left' rfl]
  · rw [chunks_out chunks hc]
    refine ⟨fun h => ⟨fun h0 => hne (List.eq_nil_of_length_eq_zero ?_), h⟩, And.right⟩
    rw [← hi, h0] at h
    exact Nat.le_zero.mp h

/-- the flag file after `n` calls of `saveCompactionMetadata`: absent, or a prefix of the final file, which is complete
exactly when no `write` call remains -/
theorem flag_prefix_image (sizes : List Nat) (m : RawMeta) (hv : m.valid = true) (n : Nat) :
    ∃ w, w ≤ (flagBytes m).length ∧
      applyFlagCalls none ((flagCalls sizes m).take n) = (if n = 0 then none else some ((flagBytes m).take w)) ∧
      (flagDone (flagCalls sizes m) n = true ↔ (n ≠ 0 ∧ w = (flagBytes m).length)) := by
  obtain ⟨chunks, hc, hF, hnf⟩ := flagCalls_nf sizes m hv
  rw [hnf, ← hF]
  exact nf_prefix chunks hc (fun h0 => flagBytes_ne m (by rw [← hF, h0]; rfl)) n

theorem flag_calls_complete (sizes : List Nat) (m : RawMeta) (hv : m.valid = true) :
    applyFlagCalls none (flagCalls sizes m) = some (flagBytes m) := by
  obtain ⟨chunks, _, hF, hnf⟩ := flagCalls_nf sizes m hv
  rw [hnf, ← hF]
  exact apply_writes chunks [] [.close]

/-- the classification of every prefix: unreadable until the last `write` has completed, then exactly `m` -/
theorem flag_prefix (comps : Nat → Compression) (hc : comps 0 = none) (m : RawMeta) (h : MetaOk m) (sizes : List Nat)
    (n : Nat) :
    readFlag comps (applyFlagCalls none ((flagCalls sizes m).take n)) =
      if flagDone (flagCalls sizes m) n then some m else none := by
  obtain ⟨w, hw, himg, hdone⟩ := flag_prefix_image sizes m h.valid n
  rw [himg]
  by_cases hn : n = 0
  · have hd : ¬ flagDone (flagCalls sizes m) n = true := fun hd => (hdone.mp hd).1 hn
    rw [if_pos hn, if_neg hd]
    rfl
  · rw [if_neg hn]
    by_cases hfull : w = (flagBytes m).length
    · rw [if_pos (hdone.mpr ⟨hn, hfull⟩), List.take_of_length_le (by omega)]
      have := flag_roundtrip comps hc m h []
      rw [List.append_nil] at this
      exact this
    · have hd : ¬ flagDone (flagCalls sizes m) n = true := fun hd => hfull (hdone.mp hd).2
      rw [if_neg hd]
      exact flag_cut_none comps hc m h.fits w (by omega)

/-- metadata that `proto.Marshal` rejects never produces a readable flag -/
theorem flag_invalid_never_reads (comps : Nat → Compression) (m : RawMeta)
    (hv : m.valid = false) (sizes : List Nat) (n : Nat) :
    readFlag comps (applyFlagCalls none ((flagCalls sizes m).take n)) = none := by
  rw [flagCalls_nf_invalid sizes m hv, nf_image]
  split
  · rfl
  · cases n - nfOpen.length with
    | zero => exact readFlag_short comps [] (by decide)
    | succ i =>
      rw [List.take_succ_cons, List.take_nil, List.flatten_singleton, ← List.append_nil (fileHeader _ _), readFlag_hdr,
        readNextS_nil]

end SST.Proofs.CompDir
