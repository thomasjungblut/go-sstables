/-
L7, the simulation: `Rel` holds initially and every step of the byte-level stack is matched by the step of
the layer model `DBM` it stands for, with equal client-visible results and equal compaction selections;
hence whole programs.  First the write path and Close (`PutBytes` / `Put` / `DeleteBytes` / `Delete` / `Close`
against `DBM`), the steps that StackRead, StackFlush and StackCompact do not match.  The memstore steps go through
`Proofs.MemP.step_sim` (C14): the memstore model never panics, answers as its reference map and keeps its invariant;
`RWMemstore.Delete` (Delete, then Tombstone on KeyNotFound) is the layer's "bind the key to a tombstone".
-/
import SST.Proofs.StackCompact
namespace SST.Proofs.Stack
open SST SST.Stack SST.DBM Generated

theorem memRel_put {m m' : Mem.MemStore} {l : Layer} (h : MemRel m l) (hw : Proofs.MemP.WF m') (k : Bytes)
    (cell : Mem.Cell) (hv : Proofs.MemP.view m' = Mem.RefMap.put k cell (Proofs.MemP.view m)) :
    MemRel m' (Layer.set l k cell.toGo) := by
  refine ⟨hw, nodup_layer_set h.nodup k _, ?_⟩
  intro k'
  rw [Proofs.DB.layerGet_set, hv, Proofs.MemP.ref_get_put, h.get k']
  by_cases hk : k' = k <;> simp [hk]

theorem upsert_step {m : Mem.MemStore} (hw : Proofs.MemP.WF m) (kb vb : Bytes) (ht : Nat) (hh : 1 ≤ ht) :
    ∃ m', Mem.step m (.upsert (some kb) (some vb)) ht = (.err none, m') ∧ Proofs.MemP.WF m' ∧
      Proofs.MemP.view m' = Mem.RefMap.put kb (.val vb) (Proofs.MemP.view m) := by
  obtain ⟨h1, h2, h3⟩ := Proofs.MemP.step_sim hw (.upsert (some kb) (some vb)) ht hh
  exact ⟨_, Prod.ext h1 rfl, h2, h3⟩

theorem put_sim {P : Params} (hP : ParamsOk P) {c : Stack.State} {s : DBM.State} (h : Rel P c s)
    (k v : GoBytes) (rot : Bool) (ht : Nat) (hh : 1 ≤ ht) (hf : rot = true → FitsMem P c.r) :
    ∃ c', Stack.putBytes P c k v rot ht = .ok (c', .db (DBM.putBytes s k v rot).2) ∧
      Rel P c' (DBM.putBytes s k v rot).1 := by
  unfold Stack.putBytes DBM.putBytes
  cases k with
  | none => exact ⟨c, rfl, h⟩
  | some kb =>
    cases v with
    | none => exact ⟨c, by simp, h⟩
    | some vb =>
      simp only [Option.getD_some, h.notOpen]
      cases (kb.isEmpty || vb.isEmpty) with
      | true => exact ⟨c, rfl, h⟩
      | false =>
        cases (!s.isOpen || s.closed) with
        | true => exact ⟨c, rfl, h⟩
        | false =>
          obtain ⟨w', hs, hw', hv'⟩ := upsert_step h.w.wf kb vb ht hh
          have hrel : Rel P { c with w := w' } { s with w := s.w.set kb (some vb) } :=
            { h with w := memRel_put h.w hw' kb (.val vb) hv' }
          simp only [Bool.false_eq_true, if_false, hs]
          cases rot with
          | false => exact ⟨_, rfl, hrel⟩
          | true =>
            obtain ⟨c'', hr, _, hrel'⟩ := rotate_sim hP hrel (hf rfl)
            simp only [if_true, hr]
            exact ⟨_, rfl, hrel'⟩

theorem putStr_sim {P : Params} (hP : ParamsOk P) {c : Stack.State} {s : DBM.State} (h : Rel P c s)
    (k v : Bytes) (rot : Bool) (ht : Nat) (hh : 1 ≤ ht) (hf : rot = true → FitsMem P c.r) :
    ∃ c', Stack.putStr P c k v rot ht = .ok (c', .db (DBM.putStr s k v rot).2) ∧
      Rel P c' (DBM.putStr s k v rot).1 := by
  unfold Stack.putStr DBM.putStr
  by_cases he : (k.isEmpty || v.isEmpty) = true
  · simp only [he, if_true]; exact ⟨c, rfl, h⟩
  · simp only [he, Bool.false_eq_true, if_false]
    exact put_sim hP h (some k) (some v) rot ht hh hf

/-- `RWMemstore.Delete` on the write store: whatever the store held for the key, it now holds a tombstone -/
theorem delete_steps {m : Mem.MemStore} (hw : Proofs.MemP.WF m) (k : GoBytes) (ht : Nat) (hh : 1 ≤ ht) :
    ∃ m', Proofs.MemP.WF m' ∧
      Proofs.MemP.view m' = Mem.RefMap.put (k.getD []) .tomb (Proofs.MemP.view m) ∧
      (Mem.step m (.delete k) ht = (.err none, m') ∨
        ∃ m1, Mem.step m (.delete k) ht = (.err (some .keyNotFound), m1) ∧
          Mem.step m1 (.tombstone k) ht = (.err none, m')) := by
  obtain ⟨h1, h2, h3⟩ := Proofs.MemP.step_sim hw (.delete k) ht hh
  simp only [Mem.refStep] at h1 h3
  cases hg : Mem.RefMap.get (k.getD []) (Proofs.MemP.view m) with
  | some cell =>
    rw [hg] at h1 h3
    exact ⟨_, h2, h3, Or.inl (Prod.ext h1 rfl)⟩
  | none =>
    rw [hg] at h1 h3
    simp only at h1 h3
    obtain ⟨i1, i2, i3⟩ := Proofs.MemP.step_sim h2 (.tombstone k) ht hh
    simp only [Mem.refStep] at i1 i3
    rw [h3] at i3
    exact ⟨_, i2, i3, Or.inr ⟨_, Prod.ext h1 rfl, Prod.ext i1 rfl⟩⟩

theorem del_sim {P : Params} {c : Stack.State} {s : DBM.State} (h : Rel P c s)
    (k : GoBytes) (ht : Nat) (hh : 1 ≤ ht) :
    (Stack.deleteBytes c k ht).2 = .db (DBM.deleteBytes s k).2 ∧
      Rel P (Stack.deleteBytes c k ht).1 (DBM.deleteBytes s k).1 := by
  unfold Stack.deleteBytes DBM.deleteBytes
  rw [h.notOpen]
  cases (!s.isOpen || s.closed) with
  | true => exact ⟨rfl, h⟩
  | false =>
    obtain ⟨m', hw', hv', hst⟩ := delete_steps h.w.wf k ht hh
    have hrel : Rel P { c with w := m' } { s with w := s.w.set (k.getD []) none } :=
      { h with w := memRel_put h.w hw' (k.getD []) .tomb hv' }
    rw [if_neg Bool.false_ne_true, if_neg Bool.false_ne_true]
    rcases hst with hs | ⟨m1, hs1, hs2⟩
    · rw [hs]; exact ⟨rfl, hrel⟩
    · rw [hs1]; simp only [hs2]; exact ⟨trivial, hrel⟩

theorem close_sim {P : Params} (hP : ParamsOk P) {c : Stack.State} {s : DBM.State} (h : Rel P c s)
    (hf : FitsMem P c.r ∧ FitsMem P c.w) :
    ∃ c', Stack.close P c = .ok (c', .db (DBM.close s).2) ∧ Rel P c' (DBM.close s).1 := by
  unfold Stack.close DBM.close
  rw [h.notOpen]
  cases (!s.isOpen || s.closed) with
  | true => exact ⟨c, rfl, h⟩
  | false =>
    obtain ⟨c1, h1, hr, r1⟩ := rotate_sim hP h hf.1
    obtain ⟨c2, h2, r2⟩ := flush_sim hP r1 (hr ▸ hf.2)
    rw [if_neg Bool.false_ne_true, if_neg Bool.false_ne_true, h1]
    simp only [h2]
    exact ⟨_, rfl, { r2 with closed := rfl }⟩

theorem rel_init (P : Params) : Rel P ({} : Stack.State) ({} : DBM.State) :=
  { w := memRel_empty, r := memRel_empty, alias := fun _ => Proofs.MemP.view_empty, pending := rfl,
    tables := Rel2.nil, gen := rfl, isOpen := rfl, closed := rfl, opts := rfl }

/-- every live table loads again from its files (`reconstructSSTables`), to the same reader -/
theorem reopenTables_ok {P : Params} {ts : List LiveTbl} {as : List Tbl} (h : Rel2 (TblRel P) ts as) :
    reopenTables P ts = .ok ts := by
  induction h with
  | nil => rfl
  | cons hab _ ih =>
    obtain ⟨kvs, hd, _⟩ := hab.dec
    simp only [reopenTables, hd.opened, ih]

theorem reopen_sim {P : Params} {c : Stack.State} {s : DBM.State} (h : Rel P c s) (o : Opts) :
    ∃ c', Stack.reopen P c o = .ok c' ∧ Rel P c' (DBM.reopen s o) := by
  unfold Stack.reopen DBM.reopen
  rw [reopenTables_ok h.tables]
  refine ⟨_, rfl, ?_⟩
  exact { w := memRel_empty, r := memRel_empty, alias := fun _ => Proofs.MemP.view_empty, pending := rfl,
          tables := h.tables
          gen := by
            show (c.tables.map (·.gen)).foldl max 0 = (s.tables.map (·.gen)).foldl max 0
            rw [Rel2.map_eq (fun _ _ hr => hr.gen) h.tables]
          isOpen := rfl, closed := rfl, opts := rfl }

/-- ONE STEP: under the laws of the external code and the step's hypotheses (node height ≥ 1, sizes fit), the
byte-level step does not fail, returns what the layer step returns, selects the same tables, and re-establishes
the relation -/
theorem step_sim {P : Params} (hP : ParamsOk P) {c : Stack.State} {s : DBM.State} (h : Rel P c s)
    (st : Stack.Step) (hok : StepOk P c st) :
    ∃ c', Stack.step P c st =
        .ok (c', (DBM.step s (absStep c st)).2.1.map SRes.db, (DBM.step s (absStep c st)).2.2) ∧
      Rel P c' (DBM.step s (absStep c st)).1 := by
  cases st <;> simp only [Stack.step, absStep, DBM.step]
  case putB k v rot ht =>
    obtain ⟨c', h1, h2⟩ := put_sim hP h k v rot ht hok.1 hok.2
    exact ⟨c', by rw [h1]; rfl, h2⟩
  case putS k v rot ht =>
    obtain ⟨c', h1, h2⟩ := putStr_sim hP h k v rot ht hok.1 hok.2
    exact ⟨c', by rw [h1]; rfl, h2⟩
  case delB k ht => exact ⟨_, by rw [(del_sim h k ht hok).1]; rfl, (del_sim h k ht hok).2⟩
  case delS k ht => exact ⟨_, by rw [(del_sim h (some k) ht hok).1]; rfl, (del_sim h (some k) ht hok).2⟩
  case get k => exact ⟨c, by rw [get_sim h k]; rfl, h⟩
  case flush =>
    obtain ⟨c', h1, h2⟩ := flush_sim hP h hok
    exact ⟨c', by rw [h1]; rfl, h2⟩
  case close =>
    obtain ⟨c', h1, h2⟩ := close_sim hP h hok
    exact ⟨c', by rw [h1]; rfl, h2⟩
  case rotate =>
    rw [h.running]
    cases (s.isOpen && !s.closed) with
    | false => exact ⟨c, rfl, h⟩
    | true =>
      obtain ⟨c', h1, _, h2⟩ := rotate_sim hP h hok
      exact ⟨c', by simp only [if_true, h1]; rfl, h2⟩
  case compact =>
    rw [h.running]
    cases (s.isOpen && !s.closed) with
    | false => exact ⟨c, rfl, h⟩
    | true =>
      obtain ⟨c', h1, h2⟩ := compact_sim hP h hok
      exact ⟨c', by simp only [if_true, h1]; rfl, h2⟩
  case reopen o =>
    rw [show (c.closed || !c.isOpen) = (s.closed || !s.isOpen) by rw [h.isOpen, h.closed]]
    cases (s.closed || !s.isOpen) with
    | false => exact ⟨c, rfl, h⟩
    | true =>
      obtain ⟨c', h1, h2⟩ := reopen_sim h o
      exact ⟨c', by simp only [if_true, h1]; rfl, h2⟩

/-- the outputs of a layer run in the vocabulary of the byte-level stack -/
def liftOut (o : Option DBM.Res × List Nat) : Option SRes × List Nat := (o.1.map SRes.db, o.2)

theorem run_sim {P : Params} (hP : ParamsOk P) : ∀ (steps : List Stack.Step) (c : Stack.State) (s : DBM.State),
    Rel P c s → RunOk P c steps →
    Stack.run P c steps = ((DBM.run s (absSteps P c steps)).map liftOut, none) ∧
    ∃ c', Stack.runState P c steps = .ok c' ∧ Rel P c' (DBM.runState s (absSteps P c steps))
  | [], c, s, h, _ => ⟨rfl, c, rfl, h⟩
  | st :: rest, c, s, h, hok => by
    obtain ⟨hst, hrest⟩ := hok
    obtain ⟨c', h1, h2⟩ := step_sim hP h st hst
    rw [h1] at hrest
    simp only at hrest
    obtain ⟨i1, c'', i2, i3⟩ := run_sim hP rest c' _ h2 hrest
    simp only [Stack.run, Stack.runState, absSteps, DBM.run, DBM.runState, h1, i1, List.map_cons]
    exact ⟨rfl, c'', i2, i3⟩

theorem run_abs_length (P : Params) : ∀ (steps : List Stack.Step) (c : Stack.State) (s : DBM.State),
    (DBM.run s (absSteps P c steps)).length = steps.length
  | [], _, _ => rfl
  | _ :: rest, _, _ => by simp only [absSteps, DBM.run, List.length_cons, run_abs_length P rest]

/-- every step of a run that meets its hypotheses is reached and does not fail -/
theorem run_reaches {P : Params} (hP : ParamsOk P) {st : Stack.Step} {post : List Stack.Step} :
    ∀ (pre : List Stack.Step) (c : Stack.State) (s : DBM.State), Rel P c s → RunOk P c (pre ++ st :: post) →
    ∃ c' out, Stack.runState P c pre = .ok c' ∧ Stack.step P c' st = .ok out
  | [], c, _, h, hok => let ⟨_, h1, _⟩ := step_sim hP h st hok.1; ⟨c, _, rfl, h1⟩
  | st0 :: pre, c, s, h, hok => by
    obtain ⟨c', h1, h2⟩ := step_sim hP h st0 hok.1
    have hrest := hok.2
    rw [h1] at hrest
    obtain ⟨c'', out, i1, i2⟩ := run_reaches hP pre c' _ h2 hrest
    exact ⟨c'', out, by simp only [Stack.runState, h1, i1], i2⟩

/-- the reference ignores node heights and table sizes -/
theorem specRun_abs (P : Params) : ∀ (steps : List Stack.Step) (c : Stack.State) (sp : Spec),
    specRun sp (absSteps P c steps) = specRun sp (steps.map specOf)
  | [], _, _ => rfl
  | st :: rest, c, sp => by
    have hs : specStep sp (absStep c st) = specStep sp (specOf st) := by cases st <;> rfl
    simp only [absSteps, List.map_cons, specRun, hs]
    rw [specRun_abs P rest]

end SST.Proofs.Stack
