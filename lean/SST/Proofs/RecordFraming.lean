/-
One record of a varint-framed format (file versions 2, 3 and 4) over the header parser `rh` as a variable: the
body readers behind the header are shared (`readBodyS` of Spec/BufReader on the stream, `readAtW` at an offset).
`IsRec rh W c X r`: the bytes `X` are one whole record carrying `r` as `rh` frames it.  From it follow, once each,
the sequential read, `SkipNext`, the random-access read, and what the two readers do on a cut record.  Per version
there remain the parse of a written header and its length bound (`IsHdr`, for a `FrontToBack` parser from the
round trip of the header alone).  A format whose written records are `IsRec`s is a record framing of
`Proofs/FileFraming` (`isFraming_of_isRec`).  In front, two cases of `io.ReadFull` (`specFull`), the fact that a
version 2 header never flags nil, and `readBodyS` behind a header error that is no magic-number mismatch.
-/
import SST.Spec.RecordIO
import SST.Spec.BufReader
import SST.Proofs.FrontToBack
import SST.Proofs.FileFraming

namespace SST.Buf
open SST Generated

/- the use-lemmas of the stream readers of `Spec/BufReader.lean` -/

theorem specFull_le {s : Bytes} {n : Nat} (h : n ≤ s.length) : specFull s n = (s.take n, none, s.drop n) := by
  rw [specFull, if_pos h]

theorem specFull_gt {s : Bytes} {n : Nat} (h : s.length < n) :
    specFull s n = (s, some (.e (if s.length = 0 then .eof else .unexpectedEof)), []) := by
  rw [specFull, if_neg (Nat.not_le_of_lt h)]
  by_cases h0 : s.length = 0
  · rw [if_pos h0, if_pos h0, List.eq_nil_of_length_eq_zero h0]
  · rw [if_neg h0, if_neg h0]

theorem readHeaderS2_isNil {s : Bytes} {hd : RecHeader} (hh : readHeaderS2 s = .ok hd) : hd.isNil = false := by
  unfold readHeaderS2 at hh
  repeat' split at hh
  all_goals cases hh
  rfl

theorem readBodyS_error_ne_magic (cmp : Compression) (s : Bytes) {e : Err} (hne : e ≠ .magic) :
    readBodyS cmp s (.error e) = .error e := by
  cases e <;> first | exact absurd rfl hne | rfl

end SST.Buf

namespace SST.Proofs
open SST Generated SST.Buf

theorem decodePayload_stored (c : Compression) (r : Bytes) (hl : LawfulC c) :
    decodePayload c (stored c r) = .ok r := by
  cases c with
  | none => rfl
  | some cc => simp [decodePayload, stored, hl r]

/-- `io.ReadFull` of exactly the bytes that stand in front -/
theorem specFull_append (a b : Bytes) : specFull (a ++ b) a.length = (a, none, b) := by
  rw [specFull_le (by simp), List.take_left, List.drop_left]

theorem payloadS_enc (c : Compression) (r rest : Bytes) (hlen : Nat) (hl : LawfulC c) :
    payloadS c (stored c r ++ rest) hlen (stored c r).length = .ok (some r, hlen + (stored c r).length) := by
  unfold payloadS
  rw [specFull_append]; simp only []
  rw [decodePayload_stored c r hl]; rfl

theorem payloadS_short (c : Compression) (t : Bytes) (hlen n : Nat) (h : t.length < n) :
    RanOut (payloadS c t hlen n) := by
  unfold payloadS
  rw [specFull_gt h]
  exact RanOut.ite _

/-- the zero-tail rule of `readBodyS` only looks at a magic-number mismatch -/
theorem readBodyS_ranOut (c : Compression) (s : Bytes) {hdr : Except Err RecHeader} (h : RanOut hdr) :
    RanOut (readBodyS c s hdr) := by
  rcases h with rfl | rfl
  · exact Or.inl rfl
  · exact Or.inr rfl

/-- a failed header parse never turns into a record (the zero-tail rule only picks the error kind) -/
theorem readBodyS_error (c : Compression) (s : Bytes) (e : Err) :
    ∃ e', readBodyS c s (.error e) = .error e' := by
  unfold readBodyS
  split
  · split
    · split <;> exact ⟨_, rfl⟩
    · exact ⟨_, rfl⟩
  · exact ⟨_, rfl⟩
  · rename_i h; cases h

/-- the header bytes `hd` as the parser `rh` frames them: with anything behind them it finds the header `H`, which
is exactly `hd`; on a proper prefix of them it runs out -/
structure IsHdr (rh : Bytes → Except Err RecHeader) (hd : Bytes) (H : RecHeader) : Prop where
  ok : ∀ t, rh (hd ++ t) = .ok H
  cut : ∀ m, m < hd.length → RanOut (rh (hd.take m))
  len : H.hlen = hd.length

/-- for a parser that reads front to back, the round trip of the header is enough -/
theorem IsHdr.of_frontToBack {rh : Bytes → Except Err RecHeader} (hrh : FrontToBack rh) {hd : Bytes}
    {H : RecHeader} (h : ∀ t, rh (hd ++ t) = .ok H) (hlen : H.hlen = hd.length) : IsHdr rh hd H where
  ok := h
  cut m hm := (hrh.take (List.append_nil hd ▸ h []) m).resolve_left
    fun ⟨_, hle⟩ => absurd (hlen ▸ hle) (Nat.not_le.mpr hm)
  len := hlen

theorem IsHdr.prefix_ranOut {rh : Bytes → Except Err RecHeader} {hd : Bytes} {H : RecHeader} (h : IsHdr rh hd H)
    {p : Bytes} (hp : hd.take p.length = p) (hl : p.length < hd.length) : RanOut (rh p) := by
  have := h.cut p.length hl
  rwa [hp] at this

/-- `X` is one whole record carrying `r`: header bytes `hd` that fit the random-access window of `W` bytes, then
(unless the record is nil) exactly the stored payload, whose length the header announces -/
def IsRec (rh : Bytes → Except Err RecHeader) (W : Nat) (c : Compression) (X : Bytes) (r : GoBytes) : Prop :=
  ∃ hd H, IsHdr rh hd H ∧ 0 < hd.length ∧ hd.length ≤ W ∧
    match r with
    | none => H.isNil = true ∧ X = hd
    | some p => H.isNil = false ∧ X = hd ++ stored c p ∧ expectedLen c H = (stored c p).length

/-- `ReadNextAt` over any header parser: the header from a window of (at most) `W` bytes, a record flagged nil
whatever its length fields hold, the payload through a second `ReadAt` -/
def readAtW (rh : Bytes → Except Err RecHeader) (W : Nat) (c : Compression) (file : Bytes) (off : Nat) :
    Except Err GoBytes :=
  if off > file.length then .error .other
  else if off = file.length then .error .eof
  else
    let s := file.drop off
    match rh (s.take W) with
    | .error e => .error e
    | .ok h =>
      if h.isNil then .ok none
      else if (s.drop h.hlen).length < expectedLen c h then .error .eof
      else (decodePayload c ((s.drop h.hlen).take (expectedLen c h))).map some

theorem readAtW_append (rh : Bytes → Except Err RecHeader) (W : Nat) (c : Compression) (pre s : Bytes)
    (hs : 0 < s.length) :
    readAtW rh W c (pre ++ s) pre.length =
      match rh (s.take W) with
      | .error e => .error e
      | .ok h =>
        if h.isNil then .ok none
        else if (s.drop h.hlen).length < expectedLen c h then .error .eof
        else (decodePayload c ((s.drop h.hlen).take (expectedLen c h))).map some := by
  unfold readAtW
  rw [List.length_append, if_neg (Nat.not_lt.mpr (Nat.le_add_right _ _)),
    if_neg (Nat.ne_of_lt (Nat.lt_add_of_pos_right hs)), List.drop_left]

namespace IsRec
variable {rh : Bytes → Except Err RecHeader} {W : Nat} {c : Compression} {X : Bytes} {r : GoBytes}

theorem pos (h : IsRec rh W c X r) : 0 < X.length := by
  obtain ⟨hd, H, -, hpos, -, hr⟩ := h
  cases r with
  | none => rw [hr.2]; exact hpos
  | some p => rw [hr.2.1, List.length_append]; exact Nat.lt_add_right _ hpos

theorem next (h : IsRec rh W c X r) (hl : LawfulC c) (rest : Bytes) :
    readBodyS c (X ++ rest) (rh (X ++ rest)) = .ok (r, X.length) := by
  obtain ⟨hd, H, hH, -, -, hr⟩ := h
  cases r with
  | none =>
    obtain ⟨hn, rfl⟩ := hr
    rw [hH.ok rest]
    simp only [readBodyS, hn, if_true, hH.len]
  | some p =>
    obtain ⟨hn, rfl, he⟩ := hr
    rw [List.append_assoc, hH.ok]
    simp only [readBodyS, hn, Bool.false_eq_true, if_false, hH.len, List.drop_left, he, List.length_append]
    exact payloadS_enc c p rest _ hl

theorem skip (h : IsRec rh W c X r) (rest : Bytes) :
    (rh (X ++ rest)).map (fun h => h.hlen + skipLen c h) = .ok X.length := by
  obtain ⟨hd, H, hH, -, -, hr⟩ := h
  cases r with
  | none =>
    obtain ⟨hn, rfl⟩ := hr
    rw [hH.ok rest]
    simp only [Except.map, skipLen, hn, if_true, hH.len, Nat.add_zero]
  | some p =>
    obtain ⟨hn, rfl, he⟩ := hr
    rw [List.append_assoc, hH.ok]
    simp only [Except.map, skipLen, hn, Bool.false_eq_true, if_false, hH.len, he, List.length_append]

theorem readAt (h : IsRec rh W c X r) (hl : LawfulC c) (pre rest : Bytes) :
    readAtW rh W c (pre ++ (X ++ rest)) pre.length = .ok r := by
  have hpos : 0 < (X ++ rest).length := by rw [List.length_append]; exact Nat.lt_add_right _ h.pos
  obtain ⟨hd, H, hH, -, hwin, hr⟩ := h
  have htw : ∀ x : Bytes, (hd ++ x).take W = hd ++ x.take (W - hd.length) := fun x => by
    rw [List.take_append, List.take_of_length_le hwin]
  rw [readAtW_append rh W c pre _ hpos]
  cases r with
  | none =>
    obtain ⟨hn, rfl⟩ := hr
    rw [htw, hH.ok]
    simp only [hn, if_true]
  | some p =>
    obtain ⟨hn, rfl, he⟩ := hr
    rw [List.append_assoc, htw, hH.ok]
    simp only [hn, Bool.false_eq_true, if_false, hH.len, he, List.drop_left]
    rw [if_neg (by simp), List.take_left, decodePayload_stored c p hl]; rfl

/-- the first `m` bytes of a record: a stump of the header, or the header and too few payload bytes -/
theorem take_cases (h : IsRec rh W c X r) {m : Nat} (hm : m < X.length) :
    ∃ hd H, IsHdr rh hd H ∧ hd.length ≤ W ∧
      ((m < hd.length ∧ X.take m = hd.take m) ∨
        ∃ t, X.take m = hd ++ t ∧ H.isNil = false ∧ t.length < expectedLen c H) := by
  obtain ⟨hd, H, hH, -, hwin, hr⟩ := h
  refine ⟨hd, H, hH, hwin, ?_⟩
  by_cases hmh : m < hd.length
  · refine Or.inl ⟨hmh, ?_⟩
    cases r with
    | none => rw [hr.2]
    | some p => rw [hr.2.1, List.take_append_of_le_length (Nat.le_of_lt hmh)]
  · cases r with
    | none => rw [hr.2] at hm; exact absurd hm hmh
    | some p =>
      obtain ⟨hn, rfl, he⟩ := hr
      obtain ⟨j, rfl⟩ := Nat.exists_eq_add_of_le (Nat.le_of_not_lt hmh)
      rw [List.length_append] at hm
      refine Or.inr ⟨_, List.take_length_add_append _, hn, ?_⟩
      rw [he, List.length_take]
      exact Nat.lt_of_le_of_lt (Nat.min_le_left _ _) (Nat.lt_of_add_lt_add_left hm)

theorem next_cut (h : IsRec rh W c X r) {m : Nat} (hm : m < X.length) :
    RanOut (readBodyS c (X.take m) (rh (X.take m))) := by
  obtain ⟨hd, H, hH, -, ⟨hmh, e⟩ | ⟨t, e, hn, ht⟩⟩ := h.take_cases hm
  · rw [e]; exact readBodyS_ranOut c _ (hH.cut m hmh)
  · rw [e, hH.ok]
    simp only [readBodyS, hn, Bool.false_eq_true, if_false, hH.len, List.drop_left]
    exact payloadS_short c _ _ _ ht

theorem readAt_cut (h : IsRec rh W c X r) (pre : Bytes) {m : Nat} (hm : m < X.length) :
    ∃ e, readAtW rh W c (pre ++ X.take m) pre.length = .error e := by
  by_cases hm0 : m = 0
  · refine ⟨.eof, ?_⟩
    unfold readAtW
    rw [hm0, List.take_zero, List.append_nil, if_neg (Nat.lt_irrefl _), if_pos rfl]
  rw [readAtW_append rh W c pre _ (by rw [List.length_take]; omega)]
  obtain ⟨hd, H, hH, hwin, ⟨hmh, e⟩ | ⟨t, e, hn, ht⟩⟩ := h.take_cases hm
  · rw [e, List.take_of_length_le (Nat.le_trans (List.length_take_le _ _) (Nat.le_trans (Nat.le_of_lt hmh) hwin))]
    obtain ⟨e', he'⟩ := (hH.cut m hmh).error
    rw [he']; exact ⟨_, rfl⟩
  · rw [e, List.take_append, List.take_of_length_le hwin, hH.ok]
    simp only [hn, Bool.false_eq_true, if_false, hH.len, List.drop_left, if_pos ht]
    exact ⟨_, rfl⟩

end IsRec

/-- record level ⟹ file level: the common readers behind a stream parser `rhS` and a window parser `rhA` are a record
framing as soon as every written record is an `IsRec` of both -/
theorem isFraming_of_isRec {enc : GoBytes → Bytes} {back : GoBytes → GoBytes} {fits : GoBytes → Prop}
    (rhS rhA : Bytes → Except Err RecHeader) (W : Nat) (c : Compression)
    (hS : ∀ r, fits r → IsRec rhS W c (enc r) (back r)) (hA : ∀ r, fits r → IsRec rhA W c (enc r) (back r))
    (hpos : ∀ r, 0 < (enc r).length) (hnil : readBodyS c [] (rhS []) = .error .eof) :
    IsFraming (LawfulC c) enc back fits (fun s => readBodyS c s (rhS s))
      (fun s => (rhS s).map fun h => h.hlen + skipLen c h) (readAtW rhA W c) where
  pos := hpos
  next_enc hl r rest hf := (hS r hf).next hl rest
  next_nil := hnil
  next_cut r m hf hm := (hS r hf).next_cut hm
  skip_enc r rest hf := (hS r hf).skip rest
  at_enc hl pre r rest hf := (hA r hf).readAt hl pre rest
  at_cut pre r m hf hm := (hA r hf).readAt_cut pre hm
  at_beyond f off h := ⟨.other, by unfold readAtW; rw [if_pos h]⟩
end SST.Proofs
