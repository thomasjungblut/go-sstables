/-
L6-fs, asynchronous WAL (C13): a client call is acknowledged when its record sits in the appender's buffer; buffer
flushes write a prefix of the buffered records (possibly cutting one); closing the file (rotation) writes the
whole buffer.  At every call boundary the disk serves the reference map after a PREFIX of the issued mutations,
and that prefix contains everything issued before the last completed rotation.  The calls of a step are moves of the
interleaved machine: what a call on the current file leaves (`torn_event`, `append_event`) is read off its invariant
`S`, a flush, the tail of a rotation and a compaction cycle are runs of it (FSSched.lean); this file puts them
together into a step (`asyncStep`) and a session (`async_run`).
-/
import SST.Proofs.FSStep
import SST.Proofs.FSSched
namespace SST.Proofs.FS
open SST SST.DBM SST.FS SST.Proofs.DB

/-- the calls on the current file are the `torn` and `append` moves: the listing they leave is read off `S` -/
theorem torn_event {d : Disk} {v : Vol} {junk : List WalFile} {ro rc : List Mutation} {tn : Bool}
    (h : QW d v junk ro rc tn) (hu : usable v.s = true) (hq : v.queue ≠ []) :
    QW (applyEv d (.walTorn v.walCur)) v junk ro rc true :=
  QW.of_S h.inv hu (.inr rfl) (FSI.S_step (FSI.S_of_QW h hu (.inr rfl)) (.torn (async := true) rfl hq)) h.rok
    (h.old hu)

theorem append_event {d : Disk} {v : Vol} {junk : List WalFile} {ro rc : List Mutation} {tn : Bool}
    (h : QW d v junk ro rc tn) (hu : usable v.s = true) (m : Mutation) (q' : List Mutation) (hq : v.queue = m :: q') :
    QW (applyEv d (.walAppend v.walCur m)) { v with queue := q' } junk ro (rc ++ [m]) false :=
  QW.of_S (v := { v with queue := q' }) h.inv hu (.inr rfl)
    (FSI.S_ghost (FSI.S_step (FSI.S_of_QW h hu (.inr rfl)) (.append (async := true) rfl hq))) h.rok (h.old hu)

/-- The good disks inside a step: well-formed, serving `f` after a prefix of the pending mutations `pend`.  The
base `f` moves with the step (once `t` has been written it is `applySpec f t`), so segments compose by the two rules
`left` and `shift`, and positions in the history of the whole session appear only where the session is put
together (`Between.pos`, `async_run`). -/
def Between (f : Key → Option Bytes) (pend : List Mutation) (x : Disk) : Prop :=
  DiskOk x ∧ ∃ i, i ≤ pend.length ∧ logical x = applySpec f (pend.take i)

theorem Between.first {f : Key → Option Bytes} {pend : List Mutation} {x : Disk} (h : DiskOk x) (hl : logical x = f) :
    Between f pend x := ⟨h, 0, Nat.zero_le _, hl⟩

/-- more is pending -/
theorem Between.left {f : Key → Option Bytes} {t : List Mutation} (u : List Mutation) {x : Disk} (h : Between f t x) :
    Between f (t ++ u) x := by
  obtain ⟨h1, i, hi, hl⟩ := h
  exact ⟨h1, i, by rw [List.length_append]; omega, by rw [hl, List.take_append_of_le_length hi]⟩

/-- `t` has been written before -/
theorem Between.shift {f : Key → Option Bytes} {t u : List Mutation} {x : Disk} (h : Between (applySpec f t) u x) :
    Between f (t ++ u) x := by
  obtain ⟨h1, i, hi, hl⟩ := h
  have e : (t ++ u).take (t.length + i) = t ++ u.take i := by
    rw [List.take_append, Nat.add_sub_cancel_left]; exact congrArg (· ++ _) (List.take_of_length_le (Nat.le_add_right _ _))
  exact ⟨h1, t.length + i, by rw [List.length_append]; omega, by rw [e, applySpec_append]; exact hl⟩

theorem Between.shift_all {f : Key → Option Bytes} {t : List Mutation} {x : Disk} (h : Between (applySpec f t) [] x) :
    Between f t x :=
  List.append_nil t ▸ h.shift

theorem Good3.between {d x : Disk} {pend : List Mutation} (h : Good3 d x) : Between (logical d) pend x :=
  .first h.1 h.2

/-- operation boundary: the process is at `v` and the disk serves `f` (what has not reached the disk sits in
`v.queue`).  The suffix `B` marks the segments whose good disks are `Between` and whose boundaries are `QB`. -/
def QB (f : Key → Option Bytes) (x : Disk) (v : Vol) : Prop := Q x v ∧ logical x = f

theorem QB.diskOk {f : Key → Option Bytes} {x : Disk} {v : Vol} (h : QB f x v) : DiskOk x := by
  obtain ⟨⟨_, _, _, _, hq⟩, _⟩ := h
  exact hq.diskOk

/-- a segment during which the served content does not change -/
theorem constB {v v' : Vol} {es : List Ev} {f : Key → Option Bytes} {d : Disk} (h : QB f d v)
    (Hc : ∀ junk ro rc tn, QW d v junk ro rc tn → Seg (Good3 d) (fun x => x = d) es (fun x => Q x v'))
    (pend : List Mutation) : Seg (Between f pend) (fun x => x = d) es (fun x => QB f x v') := by
  obtain ⟨⟨junk, ro, rc, tn, hq⟩, rfl⟩ := h
  exact ((Hc junk ro rc tn hq).post_good.good_mono fun _ => Good3.between).weaken (fun _ hx => hx)
    fun _ hx => ⟨hx.1, hx.2.2⟩

/-- a buffer flush of the first records `t` of the buffer: before each record a piece of it may be seen -/
theorem drainB (t : List Mutation) : ∀ (f : Key → Option Bytes) (rest : List Mutation) (v : Vol), usable v.s = true →
    v.queue = t ++ rest →
    Seg (Between f t) (fun x => QB f x v) (drainEvs v.walCur t) (fun x => QB (applySpec f t) x { v with queue := rest }) := by
  induction t with
  | nil =>
    intro f rest v hu hq
    have : ({ v with queue := rest } : Vol) = v := by
      cases v; simp only [List.nil_append] at hq; simp [hq]
    rw [this]
    exact Seg.nil fun x hx => ⟨.first hx.diskOk hx.2, hx⟩
  | cons m t ih =>
    rintro f rest v hu hq x ⟨⟨junk, ro, rc, tn, h⟩, rfl⟩
    have hm : m.ok = true := h.qok m (by rw [hq]; exact List.mem_cons_self)
    have h1 := torn_event h hu (by rw [hq]; simp)
    have h2 := append_event h1 hu m (t ++ rest) (by rw [hq]; rfl)
    have hl2 : logical (applyEv (applyEv x (.walTorn v.walCur)) (.walAppend v.walCur m)) = applySpec (logical x) [m] := by
      rw [h2.served_eq, h.served_eq]; exact served_snoc _ _ _ hm
    have hih := (ih (applySpec (logical x) [m]) rest { v with queue := t ++ rest } hu rfl).good_mono
      fun y hy => hy.shift (t := [m])
    exact Seg.step (.first h.diskOk rfl) rfl (.step (.first h1.diskOk (by rw [h1.served_eq, h.served_eq])) rfl
      (hih.weaken (fun y hy => hy ▸ ⟨⟨junk, ro, rc ++ [m], false, h2⟩, hl2⟩) fun _ hy => hy)) x rfl

theorem flushB (v : Vol) (f : Key → Option Bytes) (pend : List Mutation) :
    Seg (Between f pend) (fun x => QB f x v) (flushEvs v).1 (fun x => QB f x (flushEvs v).2) :=
  fun x hx => constB hx (fun junk ro rc tn hq => by
    obtain ⟨junk', h⟩ := flush_seg x v junk ro rc tn hq
    exact h.weaken (fun _ hy => hy) fun _ hy => ⟨junk', ro, rc, tn, hy⟩) pend x rfl

theorem tornB (v : Vol) (hu : usable v.s = true) (hq : v.queue ≠ []) (f : Key → Option Bytes) (pend : List Mutation) :
    Seg (Between f pend) (fun x => QB f x v) [.walTorn v.walCur] (fun x => QB f x v) :=
  fun x hx => constB hx (fun junk ro rc tn hqw => by
    have h1 := torn_event hqw hu hq
    exact .step ⟨hqw.diskOk, rfl⟩ rfl
      (.done ⟨h1.diskOk, by rw [h1.served_eq, hqw.served_eq]⟩ ⟨junk, ro, rc, true, h1⟩)) pend x rfl

/-- an accepted call is acknowledged once it sits in the write store and the appender's buffer: the same disk -/
theorem enq_QW {x : Disk} {v : Vol} {junk : List WalFile} {ro rc : List Mutation} {tn : Bool}
    (h : QW x v junk ro rc tn) (hu : usable v.s = true) (m : Mutation) (hm : m.ok = true) :
    QW x { wrote v m with queue := v.queue ++ [m] } junk ro rc tn :=
  QW.of_S (v := { wrote v m with queue := v.queue ++ [m] }) (wrote_inv h.inv hu m hm) hu (.inl rfl) (pc := .idle)
    (FSI.S_ghost (FSI.S_pc (FSI.S_log (FSI.S_of_QW h hu (pc := .idle) (.inl rfl)) rfl rfl hm false) .idle rfl rfl rfl
      nofun (.inr rfl))) h.rok (h.old hu)

/-- closing the current file writes out the whole buffer; then the next file is started -/
theorem closeB (v : Vol) (hu : usable v.s = true) (hp : v.s.flushPending = false) (f : Key → Option Bytes) :
    Seg (Between f v.queue) (fun x => QB f x v)
      (drainEvs v.walCur v.queue ++ [.walClose v.walCur, .walCreate (v.walCur + 1), .walHeader (v.walCur + 1)])
      (fun x => QB (applySpec f v.queue) x
        { s := rotate v.s, walCur := v.walCur + 1, walOld := some v.walCur, queue := [] }) :=
  (drainB v.queue f [] v hu (by simp)).append
    (Seg.good_mono (fun x hx => constB (v := { v with queue := [] }) hx (fun junk ro rc tn hq =>
        (rotTail_seg x { v with queue := [] } junk ro rc tn hq hu hp rfl).weaken (fun _ hy => hy)
          fun _ hy => ⟨junk, rc, [], false, hy⟩) [] x rfl)
      fun _ hy => hy.shift_all)

/-- a rotation: the flusher finishes, then the file is closed as in `closeB` -/
theorem rotateB (v : Vol) (hu : usable v.s = true) (f : Key → Option Bytes) :
    Seg (Between f v.queue) (fun x => QB f x v) (rotateEvs v).1 (fun x => QB (applySpec f v.queue) x (rotateEvs v).2) := by
  have hs : (flushEvs v).2.s = flushStep v.s := flushEvs_s v
  rw [← flushEvs_queue v]
  have s2 := closeB (flushEvs v).2 (by rw [hs]; exact (flushStep_usable v.s).trans hu)
    (by rw [hs]; exact flushStep_pending _) f
  rw [hs, rotate_flush] at s2
  have s := (flushB v f (flushEvs v).2.queue).append s2
  rw [← List.append_assoc] at s
  exact s

/-- an accepted write: buffered, then (possibly) part of the buffer is written, then (possibly) a rotation; `j`
records of the buffer `v.queue ++ [m]` have been written, all of them if the step rotates -/
theorem writeB (v : Vol) (hu : usable v.s = true) (m : Mutation) (hm : m.ok = true) (rot : Bool) (dr : Nat) (tn : Bool)
    (f : Key → Option Bytes) :
    Seg (Between f (v.queue ++ [m])) (fun x => QB f x v) (writeEvs true v m rot dr tn).1
      (fun x => ∃ j, QB (applySpec f ((v.queue ++ [m]).take j)) x (writeEvs true v m rot dr tn).2 ∧
        (writeEvs true v m rot dr tn).2.queue = (v.queue ++ [m]).drop j ∧
        (rot = true → (writeEvs true v m rot dr tn).2.queue = [])) := by
  let q := v.queue ++ [m]
  let enq : Vol := { wrote v m with queue := q }
  let v1 : Vol := { enq with queue := q.drop dr }
  have hlog : logEvs true (wrote v m) m dr tn =
      (drainEvs v.walCur (q.take dr) ++ (if tn && decide (dr < q.length) then [Ev.walTorn v.walCur] else []), v1) := rfl
  have hsplit : q.take dr ++ q.drop dr = q := List.take_append_drop dr q
  -- enqueue (no call)
  have s0 : ∀ x, QB f x v → QB f x enq := fun x ⟨⟨junk, ro, rc, tn', hq⟩, hl⟩ =>
    ⟨⟨junk, ro, rc, tn', enq_QW hq hu m hm⟩, hl⟩
  -- part of the buffer is written, and possibly a piece of the next record
  have s1 := (drainB (q.take dr) f (q.drop dr) enq hu hsplit.symm).good_mono fun _ hy => hsplit ▸ hy.left (q.drop dr)
  have s2 : Seg (Between (applySpec f (q.take dr)) (q.drop dr)) (fun x => QB (applySpec f (q.take dr)) x v1)
      (if tn && decide (dr < q.length) then [Ev.walTorn v.walCur] else []) (fun x => QB (applySpec f (q.take dr)) x v1) := by
    split
    · rename_i hc
      refine tornB v1 hu (fun he : q.drop dr = [] => ?_) _ _
      have := congrArg List.length he
      simp at this hc; omega
    · exact Seg.nil fun x hx => ⟨.first hx.diskOk hx.2, hx⟩
  have s12 := (s1.append (s2.good_mono fun _ hy => hsplit ▸ hy.shift)).weaken (fun x hx => s0 x hx) fun _ hx => hx
  cases rot with
  | false =>
    rw [writeEvs_false, hlog]
    exact s12.weaken (fun _ hx => hx) fun x hx => ⟨dr, hx, rfl, nofun⟩
  | true =>
    rw [writeEvs_true, hlog]
    refine (s12.append ((rotateB v1 hu _).good_mono fun _ hy => hsplit ▸ hy.shift)).weaken (fun _ hx => hx) fun x hx => ?_
    refine ⟨q.length, ?_, by rw [List.drop_length]; rfl, fun _ => rfl⟩
    rw [List.take_length, ← hsplit, applySpec_append]
    exact hx

/-- the postcondition of a step: `j` of the pending mutations have been written, the rest sits in the buffer; none
is left there if the step rotates -/
def PostB (f : Key → Option Bytes) (pend : List Mutation) (rot : Bool) (v' : Vol) (x : Disk) : Prop :=
  ∃ j, QB (applySpec f (pend.take j)) x v' ∧ v'.queue = pend.drop j ∧ (rot = true → v'.queue = [])

theorem PostB.none {f : Key → Option Bytes} {q : List Mutation} {rot : Bool} {v' : Vol} {x : Disk} (h : QB f x v')
    (hq : v'.queue = q) (hr : rot = false) : PostB f q rot v' x := ⟨0, h, hq, by subst hr; nofun⟩

theorem PostB.all {f : Key → Option Bytes} {q : List Mutation} {rot : Bool} {v' : Vol} {x : Disk}
    (h : QB (applySpec f q) x v') (hq : v'.queue = []) : PostB f q rot v' x :=
  ⟨q.length, by rw [List.take_length]; exact h, by rw [List.drop_length]; exact hq, fun _ => hq⟩

/-- a step of a session with the asynchronous WAL, from an operation boundary where the disk serves `f`: inside it
the disk serves `f` after a prefix of what the buffer holds plus what the step logs -/
theorem asyncStep (f : Key → Option Bytes) (d : Disk) (v : Vol) (a : AStep) (h : QB f d v) :
    Seg (Between f (v.queue ++ (stepMut v.s a.st).toList)) (fun x => x = d) (fsStep true d v a).1
      (PostB f (v.queue ++ (stepMut v.s a.st).toList) (stepRotates v.s a.st) (fsStep true d v a).2) := by
  have hstart : ∀ {Good es Post}, Seg Good (fun x => QB f x v) es Post → Seg Good (fun x => x = d) es Post :=
    fun hs => hs.weaken (fun x hx => hx ▸ h) (fun _ hq => hq)
  cases fsStep_cases true d v a with
  | idle hf hmut hrot _ =>
    rw [hf, hmut, hrot]
    exact .done (.first h.diskOk h.2) (.none h (by simp) rfl)
  | write m rot hu hmo hmut hrot hf _ =>
    rw [hf, hmut, hrot]
    exact hstart (writeB v hu m hmo rot a.drain a.torn f)
  | rotate hu hst hf _ =>
    rw [hf, hst]
    simp only [stepMut, Option.toList, List.append_nil]
    exact hstart ((rotateB v hu f).weaken (fun _ hx => hx) fun x hx => .all hx rfl)
  | flush hst hf _ =>
    rw [hf, hst]
    simp only [stepMut, Option.toList, List.append_nil]
    exact hstart ((flushB v f _).weaken (fun _ hx => hx) fun x hx => .none hx (flushEvs_queue v) rfl)
  | compact sizes hu hst hf _ =>
    rw [hf, hst]
    simp only [stepMut, Option.toList, List.append_nil]
    exact (constB h (fun junk ro rc tn hq => (compact_seg d v junk ro rc tn hq hu sizes a.junk).weaken (fun _ hx => hx)
      fun _ hx => ⟨junk, ro, rc, tn, hx⟩) _).weaken (fun _ hx => hx) fun x hx => .none hx (compactEvs_queue d v sizes) rfl
  | close hu hst hf _ =>
    rw [hf, hst]
    simp only [stepMut, Option.toList, List.append_nil]
    -- rotate, let the flusher finish, close the file
    have hus2 : usable (rotateEvs v).2.s = true := (rotate_usable v.s).trans hu
    have hus3 : usable (flushEvs (rotateEvs v).2).2.s = true := by
      rw [flushEvs_s]; exact (flushStep_usable _).trans hus2
    have hp3 : (flushEvs (rotateEvs v).2).2.s.flushPending = false := by rw [flushEvs_s]; exact flushStep_pending _
    have hq3 : (flushEvs (rotateEvs v).2).2.queue = [] := by rw [flushEvs_queue]; rfl
    have hw3 : (flushEvs (rotateEvs v).2).2.s.w = [] := by rw [flushEvs_s, flushStep_w]; rfl
    have s3 : Seg (Between (applySpec f v.queue) []) (fun x => QB (applySpec f v.queue) x (flushEvs (rotateEvs v).2).2)
        [Ev.walClose (flushEvs (rotateEvs v).2).2.walCur]
        (fun x => QB (applySpec f v.queue) x
          { (flushEvs (rotateEvs v).2).2 with s := { (flushEvs (rotateEvs v).2).2.s with closed := true } }) :=
      fun x hx => constB hx (fun junk ro rc tn hq => (closeTail_seg x _ junk ro rc tn hq hus3 hp3 hq3 hw3).weaken
        (fun _ hy => hy) fun _ hy => ⟨_, _, _, _, hy⟩) [] x rfl
    exact hstart ((((rotateB v hu f).append ((flushB _ _ []).good_mono fun _ hy => hy.shift_all)).append
      (s3.good_mono fun _ hy => hy.shift_all)).weaken (fun _ hx => hx) fun x hx => .all hx hq3)
  | reopen o hu hst hf =>
    rw [hf, hst]
    simp only [stepMut, Option.toList, List.append_nil]
    obtain ⟨d', s', hr⟩ := recover_ok d h.diskOk o
    rw [hr]
    have hq0 : v.queue = [] := by
      obtain ⟨⟨junk, ro, rc, tn, hq⟩, _⟩ := h
      exact (hq.idle hu).1
    exact (constB (v' := openedVol s') h (fun junk ro rc tn hq => (reopen_seg d hq.diskOk o d' s' hr a.junk).weaken
      (fun _ hx => hx) fun _ hx => ⟨[], [], [], false, hx⟩) _).weaken (fun _ hx => hx) fun x hx => .none hx hq0.symm rfl

theorem filterMap_info_cons (mo : Option Mutation) (rot : Bool) (l : List (Option Mutation × Bool)) :
    ((mo, rot) :: l).filterMap (·.1) = mo.toList ++ l.filterMap (·.1) := by
  cases mo <;> rfl

/-- in terms of positions in the history `Hd ++ pend` of the whole session -/
theorem Between.pos {E : Key → Option Bytes} {Hd pend : List Mutation} {x : Disk} (h : Between (applySpec E Hd) pend x) :
    DiskOk x ∧ ∃ p, Hd.length ≤ p ∧ p ≤ (Hd ++ pend).length ∧ logical x = applySpec E ((Hd ++ pend).take p) := by
  obtain ⟨h1, i, hi, hl⟩ := h
  refine ⟨h1, Hd.length + i, Nat.le_add_right _ _, by rw [List.length_append]; omega, ?_⟩
  rw [hl, ← applySpec_append, List.take_append, Nat.add_sub_cancel_left,
    List.take_of_length_le (Nat.le_add_right _ _)]

/-- C13, general form: from any operation boundary with written history `Hd` and buffered `v.queue` -/
theorem async_run (asteps : List AStep) : ∀ (E : Key → Option Bytes) (Hd : List Mutation) (d : Disk) (v : Vol) (mark : Nat),
    QB (applySpec E Hd) d v → mark ≤ Hd.length → ∀ n,
    DiskOk (applyEvs d ((sessionFrom true d v asteps).flatten.take n)) ∧
    ∃ p, rotMarkFrom mark (Hd ++ v.queue).length ((sessionInfo true d v asteps).take (ackedCount (sessionFrom true d v asteps) n)) ≤ p ∧
      p ≤ (Hd ++ v.queue ++ ((sessionInfo true d v asteps).take (ackedCount (sessionFrom true d v asteps) n + 1)).filterMap (·.1)).length ∧
      logical (applyEvs d ((sessionFrom true d v asteps).flatten.take n)) =
        applySpec E ((Hd ++ v.queue ++ ((sessionInfo true d v asteps).take (ackedCount (sessionFrom true d v asteps) n + 1)).filterMap (·.1)).take p) := by
  induction asteps with
  | nil =>
    intro E Hd d v mark h hm n
    simp only [sessionFrom, sessionInfo, List.flatten_nil, List.take_nil, applyEvs_nil, ackedCount_nil, rotMarkFrom,
      List.filterMap_nil, List.append_nil]
    refine ⟨h.diskOk, Hd.length, hm, by simp, ?_⟩
    rw [h.2, List.take_left]
  | cons a rest ih =>
    intro E Hd d v mark h hm n
    have hseg := asyncStep (applySpec E Hd) d v a h d rfl
    simp only [sessionFrom, sessionInfo, List.flatten_cons, ackedCount]
    by_cases hn : (fsStep true d v a).1.length ≤ n
    · -- the step is complete: `j` more mutations are written
      rw [if_pos hn, List.take_append, List.take_of_length_le hn, applyEvs_append, Nat.add_comm 1]
      simp only [List.take_succ_cons, rotMarkFrom, filterMap_info_cons]
      rw [← List.append_assoc, ← List.length_append]
      obtain ⟨j, hq', hqu, hrot⟩ := hseg.2
      have hH : Hd ++ (v.queue ++ (stepMut v.s a.st).toList).take j ++ (fsStep true d v a).2.queue =
          Hd ++ v.queue ++ (stepMut v.s a.st).toList := by
        rw [hqu, List.append_assoc, List.take_append_drop, List.append_assoc]
      have hmark' : (if stepRotates v.s a.st = true then (Hd ++ v.queue ++ (stepMut v.s a.st).toList).length else mark)
          ≤ (Hd ++ (v.queue ++ (stepMut v.s a.st).toList).take j).length := by
        split
        · rename_i hr
          rw [← hH, hrot hr, List.append_nil]
          exact Nat.le_refl _
        · rw [List.length_append]; omega
      have := ih E _ _ _ _ (by rw [applySpec_append]; exact hq') hmark' (n - (fsStep true d v a).1.length)
      rw [hH] at this
      exact this
    · -- the crash falls inside the step
      rw [if_neg hn, List.take_append_of_le_length (by omega)]
      obtain ⟨g1, p, hp1, hp2, hp3⟩ := (hseg.1 n).pos
      rw [← List.append_assoc] at hp2 hp3
      simp only [Nat.zero_add, List.take_zero, rotMarkFrom, List.take_succ_cons, filterMap_info_cons, List.filterMap_nil,
        List.append_nil]
      exact ⟨g1, p, by omega, hp2, hp3⟩

theorem QB_init : QB (fun _ => none) {} {} := by
  refine ⟨⟨_, _, _, _, QW_init⟩, ?_⟩
  rw [QW_init.serves_sync rfl]
  funext k
  rfl

theorem asyncStep_QW (d : Disk) (v : Vol) (a : AStep) (h : Q d v) :
    Q (applyEvs d (fsStep true d v a).1) (fsStep true d v a).2 := by
  obtain ⟨_, hq', _⟩ := (asyncStep (logical d) d v a ⟨h, rfl⟩ d rfl).2
  exact hq'.1

theorem issued_is_reference (asteps : List AStep) : ∀ (d : Disk) (v : Vol) (sp : Spec),
    (∃ junk ro rc tn, QW d v junk ro rc tn) → Rel v.s sp →
    (specFold sp (asteps.map (·.st))).m = applySpec sp.m ((sessionInfo true d v asteps).filterMap (·.1)) := by
  induction asteps with
  | nil => intro d v sp _ _; rfl
  | cons a rest ih =>
    intro d v sp h hr
    have ⟨_, _, _, _, hq⟩ := h
    simp only [List.map_cons, specFold, sessionInfo, List.filterMap_cons]
    rw [ih _ _ _ (asyncStep_QW d v a h) (fsStep_rel true d v sp a hq hr), specStep_m v.s sp hr a.st]
    cases stepMut v.s a.st with
    | none => rfl
    | some m => rfl

theorem sessionInfo_take (async : Bool) (asteps : List AStep) : ∀ (d : Disk) (v : Vol) (j : Nat),
    (sessionInfo async d v asteps).take j = sessionInfo async d v (asteps.take j) := by
  induction asteps with
  | nil => intro d v j; simp [sessionInfo]
  | cons a rest ih =>
    intro d v j
    cases j with
    | zero => simp [sessionInfo]
    | succ j => simp only [sessionInfo, List.take_succ_cons, ih]

end SST.Proofs.FS
