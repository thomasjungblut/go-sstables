/-
Proofs for SST/Model/CompDirBytes.lean: a cut flag file followed by ZERO PADDING (not a kill-9 image: what a
file system that extends a file before its data is durable can leave after a power loss).
The payload level is in CompDirBytesPadPb.lean, the record level in CompDirBytesPadRec.lean; here the file level
(`flag_pad`: any metadata), and then what such a file can read as when the flag holds GENERATED names: the flag
written, or metadata whose last path names no table (never a compaction of other tables).
-/
import SST.Proofs.CompDirBytesPadPb
import SST.Proofs.CompDirBytesPadRec
import SST.Proofs.CompDirBytesNames
namespace SST.Proofs.CompDir
open SST SST.CompDir Generated

section File
open SST.Proofs SST.Proofs.CompDir.Pad

namespace Pad

theorem fileHeader_eq_zeros : fileHeader currentVersion 0 = 4 :: zeros 7 := by decide

theorem le32_zero : le32 0 = zeros 4 := by decide

end Pad

/-- for EVERY metadata value, EVERY proper prefix of its flag file and EVERY amount of zero padding the flag does not
read, or reads as the metadata with the tail of its last written string replaced by NUL bytes (`zeroTail m i`, which is
`m` itself when that tail is empty or was zero anyway) -/
theorem flag_pad (comps : Nat → Compression) (hc : comps 0 = none) (m : RawMeta)
    (hf : (encCompMeta m).length < 2 ^ 64) (k : Nat) (hk : k < (flagBytes m).length) (z : Nat) :
    readFlag comps (some ((flagBytes m).take k ++ zeros z)) = none ∨
    ∃ i, readFlag comps (some ((flagBytes m).take k ++ zeros z)) = some (zeroTail m i) := by
  have hfl : (fileHeader currentVersion 0).length = 8 := fileHeader_length _ _
  have h8 : fileHeaderSize = 8 := rfl
  unfold flagBytes at hk ⊢
  rw [List.length_append, hfl] at hk
  by_cases hk8 : 8 ≤ k
  · -- the file header is there: the record level decides
    obtain ⟨j, rfl⟩ := Nat.exists_eq_add_of_le hk8
    rw [← hfl, List.take_length_add_append, List.append_assoc, readFlag_hdr, hc, flagRecord]
    rcases rec_pad (encCompMeta m) hf j (Nat.lt_of_add_lt_add_left hk) z with ⟨e, he⟩ | ⟨j, n', hj, hr⟩
    · rw [he]; exact Or.inl rfl
    · rw [hr]
      exact decCompMeta_padCut m hf j hj
  · -- cut inside the file header
    left
    rw [List.take_append_of_le_length (by omega)]
    by_cases hshort : k + z < 8
    · exact readFlag_short comps _ (by rw [List.length_append, List.length_take, zeros_length, hfl, h8]; omega)
    obtain ⟨d, hd⟩ := Nat.exists_eq_add_of_le (Nat.le_of_not_lt hshort)
    cases k with
    | zero =>
      -- all zeros: version 0
      rw [Nat.zero_add] at hd
      rw [List.take_zero, List.nil_append, hd,
        show zeros (8 + d) = le32 0 ++ le32 0 ++ zeros d by rw [le32_zero, zeros_add, zeros_add]]
      exact readFlag_of_parse_err comps _ _
        (file_header_rejected 0 0 (zeros d) (by decide) (by decide) (Or.inr (Or.inl (by decide))))
    | succ k' =>
      -- the version byte is there, the rest of the header is zero anyway: an EMPTY flag file followed by zeros
      have hz : (fileHeader currentVersion 0).take (k' + 1) ++ zeros z = fileHeader currentVersion 0 ++ zeros d := by
        rw [fileHeader_eq_zeros, List.take_succ_cons, zeros_take, Nat.min_eq_left (by omega), List.cons_append, List.cons_append,
          zeros_add, zeros_add, show k' + z = 7 + d by omega]
      rw [hz, readFlag_hdr, zeros, zero_tail_is_eof (comps 0) d]

end File

theorem zeroTailStr_ge (s : Bytes) (i : Nat) (h : s.length ≤ i) : zeroTailStr s i = s := by
  unfold zeroTailStr zeros
  rw [List.take_of_length_le h, Nat.sub_eq_zero_of_le h]; simp

theorem zeroTailStr_mem_zero (s : Bytes) (i : Nat) (h : i < s.length) : (0 : UInt8) ∈ zeroTailStr s i := by
  unfold zeroTailStr zeros
  apply List.mem_append_right
  rw [List.mem_replicate]
  exact ⟨by omega, rfl⟩

theorem tableName_no_zero (g : Nat) : (0 : UInt8) ∉ tableName g := by
  intro h
  unfold tableName at h
  rcases List.mem_append.mp h with h | h
  · revert h; decide
  · have := padZeros_isDigit 15 g 0 h
    unfold IsDigit at this
    have h0 : (0 : UInt8).toNat = 0 := rfl
    omega

/-- a table name with its tail zeroed is the name itself (nothing was zeroed) or, holding a NUL byte, names no table -/
theorem tableOfName_zeroTailStr (g i : Nat) :
    zeroTailStr (tableName g) i = tableName g ∨ tableOfName (zeroTailStr (tableName g) i) = none := by
  by_cases hi : (tableName g).length ≤ i
  · exact .inl (zeroTailStr_ge _ _ hi)
  · right
    cases hq : tableOfName (zeroTailStr (tableName g) i) with
    | none => rfl
    | some g' =>
      have hz := zeroTailStr_mem_zero (tableName g) i (Nat.lt_of_not_le hi)
      rw [tableOfName_some hq] at hz
      exact absurd hz (tableName_no_zero g')

theorem dropLast_getLast? {α : Type} (l : List α) (a : α) (h : l.getLast? = some a) : l.dropLast ++ [a] = l := by
  obtain ⟨ys, rfl⟩ := List.getLast?_eq_some_iff.mp h
  rw [List.dropLast_concat]

theorem mapM_append_none (f : Bytes → Option Nat) (xs : List Bytes) (b : Bytes) (h : f b = none) :
    (xs ++ [b]).mapM f = none := by
  simp [List.mapM_append, h]

/-- a zero-padded cut of the flag written for directory `id` and tables `cm` reads — if at all — as that flag, or as
metadata that names no table list: never as a finished compaction of OTHER tables -/
theorem flag_pad_generated (comps : Nat → Compression) (hc : comps 0 = none) (id : Nat) (cm : FS.CompMeta)
    (hf : (encCompMeta (rawOf id cm)).length < 2 ^ 64) (k : Nat) (hk : k < (flagBytes (rawOf id cm)).length) (z : Nat)
    (r : RawMeta) (hr : readFlag comps (some ((flagBytes (rawOf id cm)).take k ++ zeros z)) = some r) :
    r = rawOf id cm ∨ absMeta r = none := by
  rcases flag_pad comps hc _ hf k hk z with h | ⟨i, h⟩
  · rw [h] at hr; cases hr
  · rw [h] at hr
    cases hr
    unfold zeroTail
    cases hl : (rawOf id cm).sstablePaths.getLast? with
    | some l =>
      simp only
      have hl' : (cm.inputs.map tableName).getLast? = some l := hl
      rw [List.getLast?_map] at hl'
      cases hg : cm.inputs.getLast? with
      | none => rw [hg] at hl'; cases hl'
      | some g =>
        rw [hg] at hl'
        simp only [Option.map_some, Option.some.injEq] at hl'
        subst hl'
        rcases tableOfName_zeroTailStr g i with hz | hz
        · left
          rw [hz, dropLast_getLast? _ _ hl]
        · right
          unfold absMeta
          simp only
          rw [mapM_append_none _ _ _ hz]
    | none =>
      simp only
      have hne : (rawOf id cm).replacementPath.length ≠ 0 := by
        show (tableName cm.replacement).length ≠ 0
        unfold tableName
        simp [tablePrefix]
      rw [if_pos hne]
      rcases tableOfName_zeroTailStr cm.replacement i with hz | hz
      · left
        show { rawOf id cm with replacementPath := zeroTailStr (tableName cm.replacement) i } = rawOf id cm
        rw [hz]; rfl
      · right
        unfold absMeta
        simp only
        have : tableOfName (zeroTailStr (rawOf id cm).replacementPath i) = none := hz
        rw [this]
        cases List.mapM tableOfName (rawOf id cm).sstablePaths <;> rfl

end SST.Proofs.CompDir
