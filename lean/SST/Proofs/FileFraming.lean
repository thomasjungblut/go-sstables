/-
A file of records over ANY record framing.  `enc` writes one record, `next` reads one from the front of a stream,
`rdAt` reads one at an offset of a file; all that the file-level statements (round trip, anything behind the
records on which `next` fails, cut file, random access, cut file with random access) need from the framing are the
eight per-record facts of `IsFraming`.  Each file version is an instance (`isFraming_v4`, `Legacy.isFramingL`).
-/
import SST.Proofs.FrontToBack
namespace SST.Proofs
open SST

/-- the records back to back (`encAll c` and `encAllL v c` are this by `rfl`) -/
abbrev catRecs (enc : GoBytes → Bytes) (rs : List GoBytes) : Bytes := (rs.map enc).flatten

/-- `next` until the first error: the loop of `readAllS` and `readAllSL` -/
def readAllG (next : Bytes → Except Err (GoBytes × Nat)) : Nat → Bytes → List GoBytes × Err
  | 0, _ => ([], .other)
  | fuel + 1, s =>
    match next s with
    | .error e => ([], e)
    | .ok (r, n) =>
      let (rs, e) := readAllG next fuel (s.drop n)
      (r :: rs, e)

/-- number of leading records that fit completely into `b` bytes: `wholeInAux` and `wholeInAuxL` -/
def wholeG (enc : GoBytes → Bytes) : List GoBytes → Nat → Nat
  | [], _ => 0
  | r :: rs, b => if (enc r).length ≤ b then 1 + wholeG enc rs (b - (enc r).length) else 0

/-- offset of record `k` behind a file header of `h` bytes (`offsetOf`, `offsetOfL` with `h = 8`) -/
abbrev offs (enc : GoBytes → Bytes) (h : Nat) (rs : List GoBytes) (k : Nat) : Nat :=
  h + (catRecs enc (rs.take k)).length

section
variable {enc : GoBytes → Bytes}

theorem catRecs_cons (r : GoBytes) (rs : List GoBytes) : catRecs enc (r :: rs) = enc r ++ catRecs enc rs := rfl

theorem catRecs_append (xs ys : List GoBytes) : catRecs enc (xs ++ ys) = catRecs enc xs ++ catRecs enc ys := by
  simp [catRecs]

/-- a cut through the records leaves the whole records in front of it, and behind them nothing or a proper prefix
of the next one -/
theorem take_catRecs (rs : List GoBytes) : ∀ b,
    ∃ tail, (catRecs enc rs).take b = catRecs enc (rs.take (wholeG enc rs b)) ++ tail ∧
      (tail = [] ∨ ∃ r ∈ rs, ∃ m, m < (enc r).length ∧ tail = (enc r).take m) := by
  induction rs with
  | nil => intro b; exact ⟨[], by simp [catRecs, wholeG], Or.inl rfl⟩
  | cons r rs ih =>
    intro b
    unfold wholeG
    by_cases hb : (enc r).length ≤ b
    · obtain ⟨j, rfl⟩ := Nat.exists_eq_add_of_le hb
      obtain ⟨tail, h1, h2⟩ := ih j
      refine ⟨tail, ?_, h2.imp_right fun ⟨x, hx, m⟩ => ⟨x, List.mem_cons_of_mem _ hx, m⟩⟩
      rw [if_pos hb, Nat.add_sub_cancel_left, catRecs_cons, List.take_length_add_append, h1, Nat.add_comm 1,
        List.take_succ_cons, catRecs_cons, List.append_assoc]
    · rw [if_neg hb, catRecs_cons, List.take_append_of_le_length (Nat.le_of_not_le hb)]
      exact ⟨_, rfl, Or.inr ⟨r, List.mem_cons_self .., b, Nat.lt_of_not_le hb, rfl⟩⟩

/-- `take_catRecs` for a reader `next` that runs out on nothing and on a cut record: it runs out at what is left
behind the whole records -/
theorem take_ranOut {next : Bytes → Except Err (GoBytes × Nat)} {fits : GoBytes → Prop}
    (hnil : next [] = .error .eof)
    (hcut : ∀ r m, fits r → m < (enc r).length → RanOut (next ((enc r).take m)))
    (rs : List GoBytes) (hf : ∀ r ∈ rs, fits r) (b : Nat) :
    ∃ tail, (catRecs enc rs).take b = catRecs enc (rs.take (wholeG enc rs b)) ++ tail ∧ RanOut (next tail) := by
  obtain ⟨tail, h1, h2⟩ := take_catRecs (enc := enc) rs b
  refine ⟨tail, h1, ?_⟩
  rcases h2 with rfl | ⟨r, hr, m, hm, rfl⟩
  · exact Or.inl hnil
  · exact hcut r m (hf r hr) hm

theorem catRecs_split (hdr : Bytes) (rs : List GoBytes) (k : Nat) (hk : k < rs.length) :
    hdr ++ catRecs enc rs =
      (hdr ++ catRecs enc (rs.take k)) ++ (enc rs[k] ++ catRecs enc (rs.drop (k + 1))) := by
  have := congrArg (catRecs enc) (show rs = rs.take k ++ rs[k] :: rs.drop (k + 1) by simp)
  rw [catRecs_append, catRecs_cons] at this
  rw [List.append_assoc, ← this]

theorem offs_eq (hdr : Bytes) (rs : List GoBytes) (k : Nat) :
    offs enc hdr.length rs k = (hdr ++ catRecs enc (rs.take k)).length := (List.length_append).symm

theorem offs_succ (h : Nat) (rs : List GoBytes) (k : Nat) (hk : k < rs.length) :
    offs enc h rs (k + 1) = offs enc h rs k + (enc rs[k]).length := by
  have h1 : rs.take (k + 1) = rs.take k ++ [rs[k]] := by simp
  show h + _ = h + _ + _
  rw [h1, catRecs_append, List.length_append, Nat.add_assoc]
  simp [catRecs]

theorem catRecs_take_le (rs : List GoBytes) (k : Nat) :
    (catRecs enc (rs.take k)).length ≤ (catRecs enc rs).length := by
  have := congrArg (fun l => (catRecs enc l).length) (List.take_append_drop k rs)
  simp only [catRecs_append, List.length_append] at this
  omega

end

theorem lt_of_succ_steps {f : Nat → Nat} {n : Nat} (hstep : ∀ k, k < n → f k < f (k + 1)) (j : Nat) :
    ∀ k, j < k → k ≤ n → f j < f k := by
  intro k
  induction k with
  | zero => intro h; exact absurd h (Nat.not_lt_zero j)
  | succ k ih =>
    intro hjk hk
    rcases Nat.lt_succ_iff_lt_or_eq.mp hjk with h | rfl
    · exact Nat.lt_trans (ih h (Nat.le_of_lt hk)) (hstep k hk)
    · exact hstep j hk

section
variable {enc : GoBytes → Bytes} (hpos : ∀ r, 0 < (enc r).length)
include hpos

theorem length_le_catRecs (rs : List GoBytes) : rs.length ≤ (catRecs enc rs).length := by
  induction rs with
  | nil => exact Nat.le_refl 0
  | cons r rs ih =>
    have := hpos r
    rw [catRecs_cons, List.length_cons, List.length_append]; omega

theorem offs_lt (h : Nat) (rs : List GoBytes) (j : Nat) :
    ∀ k, j < k → k ≤ rs.length → offs enc h rs j < offs enc h rs k :=
  lt_of_succ_steps (fun k hk => by rw [offs_succ h rs k hk]; exact Nat.lt_add_of_pos_right (hpos _)) j

theorem wholeG_le (rs : List GoBytes) :
    ∀ b, wholeG enc rs b ≤ ((catRecs enc rs).take b).length ∧ wholeG enc rs b ≤ rs.length := by
  induction rs with
  | nil => intro b; exact ⟨Nat.zero_le _, Nat.zero_le _⟩
  | cons r rs ih =>
    intro b
    unfold wholeG
    by_cases hb : (enc r).length ≤ b
    · obtain ⟨j, rfl⟩ := Nat.exists_eq_add_of_le hb
      rw [if_pos hb, Nat.add_sub_cancel_left, catRecs_cons, List.take_length_add_append, List.length_append,
        List.length_cons, Nat.add_comm 1 (wholeG enc rs j)]
      exact ⟨Nat.add_comm _ 1 ▸ Nat.add_le_add (hpos r) (ih j).1, Nat.succ_le_succ (ih j).2⟩
    · rw [if_neg hb]; exact ⟨Nat.zero_le _, Nat.zero_le _⟩

end

/-- One record framing: `enc` writes a record; `next`, `skip` and `rdAt` are the sequential reader, `SkipNext` and
the random-access reader; `back` is what the readers hand back for a record; `fits` is the side condition on a
record (its sizes fit the header fields); `law` is what reading a record BACK needs on top (the compressor is lawful):
the laws about cut records hold without it. -/
structure IsFraming (law : Prop) (enc : GoBytes → Bytes) (back : GoBytes → GoBytes) (fits : GoBytes → Prop)
    (next : Bytes → Except Err (GoBytes × Nat)) (skip : Bytes → Except Err Nat)
    (rdAt : Bytes → Nat → Except Err GoBytes) : Prop where
  pos : ∀ r, 0 < (enc r).length
  next_enc : law → ∀ r rest, fits r → next (enc r ++ rest) = .ok (back r, (enc r).length)
  next_nil : next [] = .error .eof
  next_cut : ∀ r m, fits r → m < (enc r).length → RanOut (next ((enc r).take m))
  skip_enc : ∀ r rest, fits r → skip (enc r ++ rest) = .ok (enc r).length
  at_enc : law → ∀ pre r rest, fits r → rdAt (pre ++ (enc r ++ rest)) pre.length = .ok (back r)
  at_cut : ∀ pre r m, fits r → m < (enc r).length → ∃ e, rdAt (pre ++ (enc r).take m) pre.length = .error e
  at_beyond : ∀ f off, f.length < off → ∃ e, rdAt f off = .error e

namespace IsFraming
variable {law : Prop} {enc : GoBytes → Bytes} {back : GoBytes → GoBytes} {fits : GoBytes → Prop}
  {next : Bytes → Except Err (GoBytes × Nat)} {skip : Bytes → Except Err Nat}
  {rdAt : Bytes → Nat → Except Err GoBytes} (F : IsFraming law enc back fits next skip rdAt)
include F

/-- the round trip: the records, then whatever `next` says about what stands behind them (nothing: EOF; zero
padding; the stump of a cut record) -/
theorem readAll_append (hl : law) {tail : Bytes} {e : Err} (ht : next tail = .error e) (rs : List GoBytes) :
    ∀ fuel, (∀ r ∈ rs, fits r) → rs.length < fuel →
      readAllG next fuel (catRecs enc rs ++ tail) = (rs.map back, e) := by
  induction rs with
  | nil =>
    intro fuel _ hfu
    obtain ⟨f, rfl⟩ := Nat.exists_eq_succ_of_ne_zero (Nat.ne_of_gt hfu)
    simp only [catRecs, List.map_nil, List.flatten_nil, List.nil_append, readAllG, ht]
  | cons r rs ih =>
    intro fuel hf hfu
    obtain ⟨f, rfl⟩ := Nat.exists_eq_succ_of_ne_zero (Nat.ne_of_gt (Nat.zero_lt_of_lt hfu))
    rw [catRecs_cons, List.append_assoc]
    simp only [readAllG, F.next_enc hl r _ (hf r (List.mem_cons_self ..)), List.drop_left,
      ih f (fun x hx => hf x (List.mem_cons_of_mem _ hx)) (Nat.lt_of_succ_lt_succ hfu), List.map_cons]

/-- a cut file: the records wholly in front of the cut, then EOF or unexpected EOF -/
theorem readAll_take (hl : law) (rs : List GoBytes) (hf : ∀ r ∈ rs, fits r) (b fuel : Nat)
    (hfu : wholeG enc rs b < fuel) :
    ∃ e, (e = .eof ∨ e = .unexpectedEof) ∧
      readAllG next fuel ((catRecs enc rs).take b) = ((rs.take (wholeG enc rs b)).map back, e) := by
  obtain ⟨tail, h1, hk⟩ := take_ranOut F.next_nil F.next_cut rs hf b
  have hrun : ∀ e, next tail = .error e → readAllG next fuel ((catRecs enc rs).take b) =
      ((rs.take (wholeG enc rs b)).map back, e) := fun e he => by
    rw [h1]
    exact F.readAll_append hl he _ fuel (fun x hx => hf x (List.mem_of_mem_take hx))
      (Nat.lt_of_le_of_lt (List.length_take_le _ _) hfu)
  rcases hk with he | he
  · exact ⟨_, Or.inl rfl, hrun _ he⟩
  · exact ⟨_, Or.inr rfl, hrun _ he⟩

/-! `opn` is `Open` + `ReadNext` until the first error (`openReadAll`, `openReadAllL`), `hdr` the file header it
accepts: all that is used of it is that on a file too short for a header it fails with EOF / unexpected EOF and
that behind `hdr` it reads records with `next`. -/

/-- a written file, with anything behind the records on which `next` fails -/
theorem open_append (hl : law) (opn : Bytes → List GoBytes × Err) (hdr : Bytes)
    (hopen : ∀ rest, opn (hdr ++ rest) = readAllG next ((hdr ++ rest).length + 1) rest)
    {tail : Bytes} {e : Err} (ht : next tail = .error e) (rs : List GoBytes) (hf : ∀ r ∈ rs, fits r) :
    opn (hdr ++ (catRecs enc rs ++ tail)) = (rs.map back, e) := by
  rw [hopen]
  apply F.readAll_append hl ht rs _ hf
  rw [List.length_append, List.length_append]
  exact Nat.lt_succ_of_le (Nat.le_trans (length_le_catRecs F.pos rs)
    (Nat.le_trans (Nat.le_add_right _ _) (Nat.le_add_left _ _)))

/-- a written file cut at ANY length -/
theorem open_take (hl : law) (opn : Bytes → List GoBytes × Err) (hdr : Bytes)
    (hshort : ∀ f, f.length < hdr.length → ∃ e, (e = .eof ∨ e = .unexpectedEof) ∧ opn f = ([], e))
    (hopen : ∀ rest, opn (hdr ++ rest) = readAllG next ((hdr ++ rest).length + 1) rest)
    (rs : List GoBytes) (hf : ∀ r ∈ rs, fits r) (n : Nat) :
    ∃ e, (e = .eof ∨ e = .unexpectedEof) ∧ opn ((hdr ++ catRecs enc rs).take n) =
      ((rs.take (wholeG enc rs (n - hdr.length))).map back, e) := by
  by_cases hn : n < hdr.length
  · have h0 : wholeG enc rs 0 = 0 := Nat.le_zero.mp (wholeG_le F.pos rs 0).1
    rw [Nat.sub_eq_zero_of_le (Nat.le_of_lt hn), h0]
    exact hshort _ (Nat.lt_of_le_of_lt (List.length_take_le _ _) hn)
  · obtain ⟨j, rfl⟩ := Nat.exists_eq_add_of_le (Nat.le_of_not_lt hn)
    rw [Nat.add_sub_cancel_left, List.take_length_add_append, hopen]
    apply F.readAll_take hl rs hf
    rw [List.length_append]
    exact Nat.lt_succ_of_le (Nat.le_trans (wholeG_le F.pos rs j).1 (Nat.le_add_left _ _))

/-- random access at the offset of record `k`, with anything behind the records -/
theorem at_offs (hl : law) (hdr : Bytes) (rs : List GoBytes) (z : Bytes) (k : Nat) (hk : k < rs.length)
    (hf : ∀ r ∈ rs, fits r) :
    rdAt (hdr ++ catRecs enc rs ++ z) (offs enc hdr.length rs k) = .ok (back rs[k]) := by
  rw [catRecs_split hdr rs k hk, offs_eq, List.append_assoc _ _ z, List.append_assoc _ _ z]
  exact F.at_enc hl _ _ _ (hf _ (List.getElem_mem hk))

/-- random access on a cut file: record `k` iff all of it is left -/
theorem at_offs_take (hl : law) (hdr : Bytes) (rs : List GoBytes) (k : Nat) (hk : k < rs.length)
    (hf : ∀ r ∈ rs, fits r) (n : Nat) :
    (offs enc hdr.length rs (k + 1) ≤ n →
      rdAt ((hdr ++ catRecs enc rs).take n) (offs enc hdr.length rs k) = .ok (back rs[k])) ∧
    (n < offs enc hdr.length rs (k + 1) →
      ∃ e, rdAt ((hdr ++ catRecs enc rs).take n) (offs enc hdr.length rs k) = .error e) := by
  have hfit : fits rs[k] := hf _ (List.getElem_mem hk)
  rw [catRecs_split hdr rs k hk, offs_succ _ rs k hk, offs_eq]
  generalize hdr ++ catRecs enc (rs.take k) = pre
  generalize catRecs enc (rs.drop (k + 1)) = tail
  constructor
  · intro hn
    obtain ⟨j, rfl⟩ := Nat.exists_eq_add_of_le hn
    rw [Nat.add_assoc, List.take_length_add_append, List.take_length_add_append]
    exact F.at_enc hl _ _ _ hfit
  · intro hn
    by_cases hp : n < pre.length
    · exact F.at_beyond _ _ (Nat.lt_of_le_of_lt (List.length_take_le _ _) hp)
    · obtain ⟨j, rfl⟩ := Nat.exists_eq_add_of_le (Nat.le_of_not_lt hp)
      have hj := Nat.lt_of_add_lt_add_left hn
      rw [List.take_length_add_append, List.take_append_of_le_length (Nat.le_of_lt hj)]
      exact F.at_cut pre _ _ hfit hj

end IsFraming
end SST.Proofs
