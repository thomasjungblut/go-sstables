/-
L6-fs, interleaved: the moves of Model/FSInterleave.lean as a relation.  `FSI.move` is a function with nested matches
and guards; `Move` lists what an enabled move has found and what it leaves, one constructor per outcome, so that a
fact about all moves is one `cases`.  Where the invariants do not care, `Move` says less than `move` (the compactor
may start on any run of the reader list, a logged call may or may not ask for a rotation).  Before it: the mutation a
call logs (`Op.accepted`) and the two tests on the compactor's job of Model/FSSessions.lean (`FSS.reflecting`,
`FSS.kIdle`).
-/
import SST.Model.FSSessions
import SST.Spec.FS
namespace SST.Proofs.FSI
open SST SST.DBM SST.FS SST.FSI SST.FSS

/-- the mutation an accepted call logs -/
def Op.accepted : Op → Option Mutation
  | .put k v _ => if k.isEmpty || v.isEmpty then none else some (.put k v)
  | .del k => some (.del k)
  | _ => none

theorem Op.accepted_ok {op : Op} {m : Mutation} (h : Op.accepted op = some m) : m.ok = true := by
  cases op with
  | put k v rot =>
    simp only [Op.accepted] at h
    split at h
    · cases h
    · rename_i hv
      cases h
      simp only [Bool.or_eq_true, not_or, Bool.not_eq_true] at hv
      simp [Mutation.ok, hv.2]
  | del k => cases h; rfl
  | rotate => cases h
  | nop => cases h

theorem reflecting_eq_false {c : Cfg} : reflecting c = false ↔ ∀ a b cl j s J, c.kj ≠ .reflecting a b cl j s J := by
  unfold reflecting
  constructor
  · intro h a b cl j s J hk
    rw [hk] at h
    cases h
  · intro h
    split
    · rename_i hk; exact absurd hk (h _ _ _ _ _ _)
    · rfl

theorem kIdle_congr {c c' : Cfg} (h : c'.kj = c.kj) : kIdle c' = kIdle c := by
  unfold kIdle
  rw [h]

theorem kIdle_kj {c : Cfg} (h : kIdle c = true) : c.kj = .idle := by
  unfold kIdle at h
  split at h
  · assumption
  · cases h

inductive Move (async : Bool) (c : Cfg) : Mv → Option Ev → Cfg → Prop
  | reject {op rest} (hpc : c.pc = .idle) (hnr : reflecting c = false) (hp : c.prog = op :: rest)
      (ha : Op.accepted op = none) : Move async c .begin none { c with prog := rest }
  | rotate {rest} (hpc : c.pc = .idle) (hnr : reflecting c = false) (hp : c.prog = .rotate :: rest) :
      Move async c .begin none { c with prog := rest, pc := .rot0 }
  | log {op rest m rot} (hpc : c.pc = .idle) (hnr : reflecting c = false) (hp : c.prog = op :: rest)
      (ha : Op.accepted op = some m) :
      Move async c .begin none
        { c with prog := rest, pc := .app rot, queue := c.queue ++ [m], w := m.apply c.w, hist := c.hist ++ [m] }
  | torn (hl : c.pc.logging = true) (hq : c.queue ≠ []) :
      Move async c .torn (some (.walTorn c.cur)) { c with d := applyEv c.d (.walTorn c.cur), tn := true }
  | append {m q} (hl : c.pc.logging = true) (hq : c.queue = m :: q) :
      Move async c .append (some (.walAppend c.cur m))
        { c with d := applyEv c.d (.walAppend c.cur m), rc := c.rc ++ [m], queue := q, tn := false }
  | doneRotate (hpc : c.pc = .app true) (hq : async = false → c.queue = []) :
      Move async c .done none { c with pc := .rot0 }
  | doneIdle (hpc : c.pc = .app false) (hq : async = false → c.queue = []) :
      Move async c .done none { c with pc := .idle, acked := c.hist.length }
  | close (hpc : c.pc = .rot0) (hq : c.queue = []) (htn : c.tn = false) :
      Move async c .close (some (.walClose c.cur)) { c with pc := .rot1 }
  | create (hpc : c.pc = .rot1) :
      Move async c .create (some (.walCreate (c.cur + 1)))
        { c with d := applyEv c.d (.walCreate (c.cur + 1)), pc := .rot2 }
  | header (hpc : c.pc = .rot2) :
      Move async c .header (some (.walHeader (c.cur + 1)))
        { c with d := applyEv c.d (.walHeader (c.cur + 1)), pc := .rot3 }
  | handoffEmpty (hpc : c.pc = .rot3) (hfl : c.fl = none) (hw : c.w = []) :
      Move async c .handoff none
        { c with pc := .idle, acked := c.hist.length, mark := c.hist.length,
                 junk := c.junk ++ [{ num := c.cur, recs := c.rc }], cur := c.cur + 1, rc := [] }
  | handoff (hpc : c.pc = .rot3) (hfl : c.fl = none) (hw : c.w ≠ []) :
      Move async c .handoff none
        { c with pc := .idle, acked := c.hist.length, mark := c.hist.length, gen := c.gen + 1,
                 fl := some { r := c.w, ro := c.rc, on := c.cur, g := c.gen + 1, stage := 0 },
                 cur := c.cur + 1, rc := [], w := [] }
  | fstep {j ev} (hfl : c.fl = some j) (he : (flushCalls j)[j.stage]? = some ev) :
      Move async c .fstep (some ev) { c with d := applyEv c.d ev, fl := some { j with stage := j.stage + 1 } }
  | fadd {j} (hfl : c.fl = some j) (hs : j.stage = 6) (hnr : reflecting c = false) :
      Move async c .fadd none { c with fl := none, tables := c.tables ++ [{ gen := j.g, cells := j.r }] }
  | kstart {sizes th o npre nsel} (hk : c.kj = .idle) (hg : npre + nsel ≤ c.tables.length) (hn : 1 ≤ nsel) :
      Move async c (.kstart sizes th o) none
        { c with kj := .merging npre nsel (mergeRun (kIns c.tables npre nsel) (npre == 0)) 0 }
  | kmerge {npre nsel cells st ev jk} (hk : c.kj = .merging npre nsel cells st)
      (he : (mergeCalls (kMeta c.tables npre nsel) cells)[st]? = some ev) :
      Move async c (.kstep jk) (some ev) { c with d := applyEv c.d ev, kj := .merging npre nsel cells (st + 1) }
  | kreflect {npre nsel cells} (hk : c.kj = .merging npre nsel cells 5) (hpc : c.pc = .idle) :
      Move async c .kreflect none { c with kj := .reflecting npre nsel cells 0 0 [] }
  | kload {npre nsel cells j J t J'} (hk : c.kj = .reflecting npre nsel cells j 0 J)
      (ht : (kIns c.tables npre nsel)[j]? = some t) :
      Move async c (.kstep (some J')) (some (.tblLoadable t.gen J'))
        { c with d := applyEv c.d (.tblLoadable t.gen J'), kj := .reflecting npre nsel cells j 1 J' }
  | kunlinkMeta {npre nsel cells j sub J t jk} (hk : c.kj = .reflecting npre nsel cells j sub J)
      (ht : (kIns c.tables npre nsel)[j]? = some t) (hs : sub ≤ 1) :
      Move async c (.kstep jk) (some (.tblUnlinkPart t.gen true))
        { c with d := applyEv c.d (.tblUnlinkPart t.gen true), kj := .reflecting npre nsel cells j 2 J }
  | kunlink {npre nsel cells j J t jk} (hk : c.kj = .reflecting npre nsel cells j 2 J)
      (ht : (kIns c.tables npre nsel)[j]? = some t) :
      Move async c (.kstep jk) (some (.tblUnlinkPart t.gen false))
        { c with d := applyEv c.d (.tblUnlinkPart t.gen false), kj := .reflecting npre nsel cells j 3 J }
  | krmdir {npre nsel cells j sub J t jk} (hk : c.kj = .reflecting npre nsel cells j sub J)
      (ht : (kIns c.tables npre nsel)[j]? = some t) (hs : 3 ≤ sub) :
      Move async c (.kstep jk) (some (.tblRmdir t.gen))
        { c with d := applyEv c.d (.tblRmdir t.gen), kj := .reflecting npre nsel cells (j + 1) 0 J }
  | krename {npre nsel cells j sub J jk} (hk : c.kj = .reflecting npre nsel cells j sub J)
      (ht : (kIns c.tables npre nsel)[j]? = none) :
      Move async c (.kstep jk) (some (.compRename kId (kMeta c.tables npre nsel).replacement))
        { c with d := applyEv c.d (.compRename kId (kMeta c.tables npre nsel).replacement), kj := .idle,
                 tables := c.tables.take npre ++ [{ gen := (kMeta c.tables npre nsel).replacement, cells := cells }] ++
                   c.tables.drop (npre + nsel) }

theorem Move.of_move {async : Bool} {c c' : Cfg} {mv : Mv} {e : Option Ev} (hm : move async c mv = some (e, c')) :
    Move async c mv e c' := by
  cases mv with
  | begin =>
    simp only [move] at hm
    split at hm
    · cases hm
    · rename_i op rest hpc hp hnr
      have hnr := reflecting_eq_false.2 hnr
      cases op with
      | nop => cases hm; exact .reject hpc hnr hp rfl
      | rotate => cases hm; exact .rotate hpc hnr hp
      | put k v rot =>
        simp only at hm
        split at hm
        · rename_i hv
          cases hm
          exact .reject hpc hnr hp (by simp only [Op.accepted, hv, if_true])
        · rename_i hv
          cases hm
          exact .log hpc hnr hp (by simp only [Op.accepted, hv, Bool.false_eq_true, if_false])
      | del k => cases hm; exact .log hpc hnr hp rfl
    · cases hm
  | torn =>
    simp only [move] at hm
    split at hm
    · rename_i hc
      simp only [Bool.and_eq_true, Bool.not_eq_true', List.isEmpty_eq_false_iff] at hc
      cases hm
      exact .torn hc.1 hc.2
    · cases hm
  | append =>
    simp only [move] at hm
    split at hm
    · rename_i m q hq
      split at hm
      · rename_i hl
        cases hm
        exact .append hl hq
      · cases hm
    · cases hm
  | done =>
    simp only [move] at hm
    split at hm
    · rename_i rot hpc
      split at hm
      · cases hm
      · rename_i hc
        have hq : async = false → c.queue = [] := by
          intro ha
          simpa [ha] using hc
        cases rot with
        | true => cases hm; exact .doneRotate hpc hq
        | false => cases hm; exact .doneIdle hpc hq
    · cases hm
  | close =>
    simp only [move] at hm
    split at hm
    · rename_i hc
      simp only [Bool.and_eq_true, beq_iff_eq, List.isEmpty_iff, Bool.not_eq_true'] at hc
      cases hm
      exact .close hc.1.1 hc.1.2 hc.2
    · cases hm
  | create =>
    simp only [move] at hm
    split at hm
    · rename_i hc
      cases hm
      exact .create (by simpa using hc)
    · cases hm
  | header =>
    simp only [move] at hm
    split at hm
    · rename_i hc
      cases hm
      exact .header (by simpa using hc)
    · cases hm
  | handoff =>
    simp only [move] at hm
    split at hm
    · rename_i hpc hfl
      split at hm
      · rename_i hw
        cases hm
        exact .handoffEmpty hpc hfl (by simpa using hw)
      · rename_i hw
        cases hm
        exact .handoff hpc hfl (by simpa using hw)
    · cases hm
  | fstep =>
    simp only [move] at hm
    split at hm
    · rename_i j hfl
      split at hm
      · rename_i ev he
        cases hm
        exact .fstep hfl he
      · cases hm
    · cases hm
  | fadd =>
    simp only [move] at hm
    split at hm
    · cases hm
    · rename_i j hfl hnr
      split at hm
      · rename_i hs
        cases hm
        exact .fadd hfl hs (reflecting_eq_false.2 hnr)
      · cases hm
    · cases hm
  | kstart sizes th o =>
    simp only [move] at hm
    split at hm
    · rename_i hk
      split at hm
      · cases hm
      · rename_i g0 rest hsel
        split at hm
        · rename_i hg
          cases hm
          exact .kstart hk hg (by rw [hsel]; simp)
        · cases hm
    · cases hm
  | kstep jk =>
    simp only [move] at hm
    split at hm
    · rename_i npre nsel cells st hk
      split at hm
      · rename_i ev he
        cases hm
        exact .kmerge hk he
      · cases hm
    · rename_i npre nsel cells j sub J hk
      split at hm
      · rename_i t ht
        split at hm
        · cases hm; exact .kload hk ht
        · cases hm; exact .kunlinkMeta hk ht (Nat.zero_le _)
        · cases hm; exact .kunlinkMeta hk ht (Nat.le_refl _)
        · cases hm; exact .kunlink hk ht
        · rename_i h0 h1 h2 h3
          cases hm
          refine .krmdir hk ht ?_
          have h4 : sub ≠ 0 := fun hs => by
            cases jk with
            | none => exact h3 hs rfl
            | some J' => exact h2 J' hs rfl
          have h0 : sub ≠ 1 := h0
          have h1 : sub ≠ 2 := h1
          omega
      · rename_i ht
        cases hm
        exact .krename hk ht
    · cases hm
  | kreflect =>
    simp only [move] at hm
    split at hm
    · rename_i npre nsel cells hk hpc
      cases hm
      exact .kreflect hk hpc
    · cases hm

/-! ## what a move leaves alone -/

/-- the effect of at most one call -/
def applyOpt (d : Disk) : Option Ev → Disk
  | some ev => applyEv d ev
  | none => d

theorem Move.disk {async : Bool} {c c' : Cfg} {mv : Mv} {e : Option Ev} (hm : Move async c mv e c') :
    c'.d = applyOpt c.d e := by
  cases hm <;> rfl

/-- a move either leaves program and history alone, or is the beginning of the next call -/
theorem Move.prog {async : Bool} {c c' : Cfg} {mv : Mv} {e : Option Ev} (hm : Move async c mv e c') :
    (c'.prog = c.prog ∧ c'.hist = c.hist) ∨
    ∃ op, mv = .begin ∧ c.prog = op :: c'.prog ∧ c'.hist = c.hist ++ (Op.accepted op).toList := by
  cases hm with
  | reject _ _ hp ha => exact .inr ⟨_, rfl, hp, by rw [ha]; exact (List.append_nil _).symm⟩
  | rotate _ _ hp => exact .inr ⟨_, rfl, hp, (List.append_nil _).symm⟩
  | log _ _ hp ha => exact .inr ⟨_, rfl, hp, by rw [ha]; rfl⟩
  | _ => exact .inl ⟨rfl, rfl⟩

/-- the compactor's moves -/
def isK : Mv → Bool
  | .kstart .. => true
  | .kstep _ => true
  | .kreflect => true
  | _ => false

/-- only the compactor's moves touch the compactor, and they touch only the disk, the compactor and the reader
list; `kstart` needs an idle compactor, the others a busy one -/
theorem Move.compactor {async : Bool} {c c' : Cfg} {e : Option Ev} {mv : Mv} (hm : Move async c mv e c') :
    (isK mv = false → c'.kj = c.kj) ∧
      (isK mv = true → c' = { c with d := c'.d, kj := c'.kj, tables := c'.tables } ∧
        (kIdle c = true → ∃ sizes th o, mv = .kstart sizes th o)) := by
  cases hm with
  | kstart => exact ⟨nofun, fun _ => ⟨rfl, fun _ => ⟨_, _, _, rfl⟩⟩⟩
  | kmerge hkj | kreflect hkj | kload hkj | kunlinkMeta hkj | kunlink hkj | krmdir hkj | krename hkj =>
    refine ⟨nofun, fun _ => ⟨rfl, fun hi => ?_⟩⟩
    rw [kIdle_kj hi] at hkj
    cases hkj
  | _ => exact ⟨fun _ => rfl, nofun⟩

/-- what every enabled move preserves holds along every schedule -/
theorem run_invariant {P : Cfg → Prop} {async : Bool}
    (hstep : ∀ {c c' mv e}, P c → Move async c mv e c' → P c') (sched : List Mv) :
    ∀ c, P c → P (FSI.run async c sched) := by
  induction sched with
  | nil => exact fun _ h => h
  | cons mv rest ih =>
    intro c h
    simp only [FSI.run]
    cases hm : move async c mv with
    | none => exact ih c h
    | some r => exact ih r.2 (hstep h (.of_move hm))

end SST.Proofs.FSI
