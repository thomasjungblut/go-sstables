/-
The abstract disk keeps its directory listings (tables, WAL files, compaction directories) as lists in the order
of a numeric name.  Updating and erasing a name are a `map` and a `filter` by definition, so their facts are stated
for those, over the name as a variable `key`; the inserts of the model are one function `insertK`.
-/
import SST.Model.FS
import SST.Proofs.ListFacts
namespace SST.Proofs.Keyed
open SST SST.FS

variable {α : Type} (key : α → Nat)

theorem upd_mid (n : Nat) (f : α → α) (a b : List α) (x : α) (ha : ∀ y ∈ a, key y ≠ n) (hb : ∀ y ∈ b, key y ≠ n)
    (hx : key x = n) : (a ++ x :: b).map (fun y => if key y == n then f y else y) = a ++ f x :: b := by
  have hid : ∀ l : List α, (∀ y ∈ l, key y ≠ n) → l.map (fun y => if key y == n then f y else y) = l := fun l hl =>
    (List.map_congr_left fun y hy => if_neg (by simpa using hl y hy)).trans (List.map_id' l)
  rw [List.map_append, List.map_cons, hid a ha, hid b hb, if_pos (by simpa using hx)]

theorem erase_mid (n : Nat) (a b : List α) (x : α) (ha : ∀ y ∈ a, key y ≠ n) (hb : ∀ y ∈ b, key y ≠ n)
    (hx : key x = n) : (a ++ x :: b).filter (fun y => key y != n) = a ++ b := by
  have hid : ∀ l : List α, (∀ y ∈ l, key y ≠ n) → l.filter (fun y => key y != n) = l := fun l hl =>
    List.filter_eq_self.2 fun y hy => by simpa using hl y hy
  rw [List.filter_append, List.filter_cons_of_neg (by simpa using hx), hid a ha, hid b hb]

/-- in name order a name occurs once -/
theorem ne_of_sorted {a b : List α} {x : α} (h : ((a ++ x :: b).map key).Pairwise (· < ·)) :
    (∀ y ∈ a, key y ≠ key x) ∧ ∀ y ∈ b, key y ≠ key x := by
  obtain ⟨_, hb, hab⟩ := (sortedBy_append key).1 h
  exact ⟨fun y hy => Nat.ne_of_lt (hab y hy x List.mem_cons_self),
    fun y hy => Nat.ne_of_gt ((List.pairwise_cons.1 (List.pairwise_map.1 hb)).1 y hy)⟩

theorem erase_sorted (a b : List α) (x : α) (h : ((a ++ x :: b).map key).Pairwise (· < ·)) :
    (a ++ x :: b).filter (fun y => key y != key x) = a ++ b :=
  erase_mid key _ a b x (ne_of_sorted key h).1 (ne_of_sorted key h).2 rfl

/-- a listing in which names occur once splits at a present entry -/
theorem split_of_mem {l : List α} (h : (l.map key).Pairwise (· ≠ ·)) {x : α} (hx : x ∈ l) :
    ∃ a b, l = a ++ x :: b ∧ (∀ y ∈ a, key y ≠ key x) ∧ ∀ y ∈ b, key y ≠ key x := by
  obtain ⟨a, b, rfl⟩ := List.append_of_mem hx
  rw [List.map_append, List.map_cons, List.pairwise_append, List.pairwise_cons] at h
  exact ⟨a, b, rfl, fun y hy => h.2.2 _ (List.mem_map_of_mem hy) _ List.mem_cons_self,
    fun y hy => (h.2.1.1 _ (List.mem_map_of_mem hy)).symm⟩

/-- `insertT` and `insertW` of Model/FS.lean, over the name -/
def insertK (x : α) : List α → List α
  | [] => [x]
  | y :: r => if key x < key y then x :: y :: r else if key x = key y then y :: r else y :: insertK x r

theorem insertK_mid (x : α) (a b : List α) (ha : ∀ y ∈ a, key y < key x) (hb : ∀ y ∈ b, key x < key y) :
    insertK key x (a ++ b) = a ++ x :: b := by
  induction a with
  | nil =>
    cases b with
    | nil => rfl
    | cons q r => exact if_pos (hb q List.mem_cons_self)
  | cons q r ih =>
    have hq := ha q List.mem_cons_self
    simp only [List.cons_append, insertK]
    rw [if_neg (Nat.lt_asymm hq), if_neg (Nat.ne_of_gt hq), ih fun p hp => ha p (List.mem_cons_of_mem _ hp)]

theorem insertK_last (x : α) (l : List α) (h : ∀ y ∈ l, key y < key x) : insertK key x l = l ++ [x] := by
  have := insertK_mid key x l [] h nofun
  rwa [List.append_nil] at this

theorem insertT_eq (g : Nat) (t : TableDir) (ts : List (Nat × TableDir)) :
    insertT g t ts = insertK (fun p : Nat × TableDir => p.1) (g, t) ts := by
  induction ts with
  | nil => rfl
  | cons p r ih => simp only [insertT, insertK, ih]

theorem insertW_eq (x : WalFile) (fs : List WalFile) : insertW x fs = insertK (·.num) x fs := by
  induction fs with
  | nil => rfl
  | cons p r ih => simp only [insertW, insertK, ih]

theorem updW_last (n : Nat) (f : WalFile → WalFile) (pre : List WalFile) (x : WalFile)
    (hpre : ∀ y ∈ pre, y.num ≠ n) (hx : x.num = n) : updW n f (pre ++ [x]) = pre ++ [f x] :=
  upd_mid (fun y : WalFile => y.num) n f pre [] x hpre nofun hx

theorem insertW_last (x : WalFile) (fs : List WalFile) (h : ∀ y ∈ fs, y.num < x.num) : insertW x fs = fs ++ [x] :=
  (insertW_eq x fs).trans (insertK_last (·.num) x fs h)

theorem eraseW_sorted (a b : List WalFile) (x : WalFile) (h : ((a ++ [x] ++ b).map (·.num)).Pairwise (· < ·)) :
    eraseW x.num (a ++ [x] ++ b) = a ++ b :=
  (congrArg (eraseW x.num) (List.append_assoc a [x] b)).trans
    (erase_sorted (fun y : WalFile => y.num) a b x (List.append_assoc a [x] b ▸ h))

end SST.Proofs.Keyed
