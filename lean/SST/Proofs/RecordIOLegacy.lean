/-
The legacy recordio layer (file versions 1–3), one record: read back by the sequential readers, by `SkipNext` and
by the random-access readers, and what the readers do on a cut record.  Versions 2 and 3: the header parsers read
front to back, a written record is an `IsRec` of the version's parser (`isRec_v2`, `isRec_v3`), and their readers
are the common ones of `Proofs/RecordFraming` (`readAtV3 c` is `readAtW readHeaderS3 headerWinV3 c` by unfolding).
Version 1 (fixed-size header) has its own lemmas.  So every version is a record framing, and so are the dispatchers
`encRecordL v` / `readNextL en v` / `skipNextL v` / `readAtL en v` for every supported `v` (`isFramingL`).  Then the
layout of a written file, the whole-file round trips of the sequential and random-access readers for every file
version 1–4, and the `emptyNil` parameter.
-/
import SST.Spec.RecordIOLegacy
import SST.Proofs.RecordIO
namespace SST.Proofs.Legacy
open SST Generated SST.Legacy SST.Buf

/-- a recordio file version the readers accept -/
def IsVersion (v : Nat) : Prop := 1 ≤ v ∧ v ≤ 4

theorem isVersion_of_legacy {v : Nat} (h : IsLegacy v) : IsVersion v := by
  unfold IsLegacy at h; unfold IsVersion; omega

theorem isVersion_cases {v : Nat} (h : IsVersion v) : v = 1 ∨ v = 2 ∨ v = 3 ∨ v = 4 := by
  unfold IsVersion at h; omega

theorem parse_fileHeaderL (v ct : Nat) (rest : Bytes) (hv : IsVersion v) (hct : ct ≤ maxCompression) :
    parseFileHeader (fileHeader v ct ++ rest) = .ok (v, ct) := by
  unfold fileHeader
  exact file_header_accepted v ct rest (by unfold IsVersion at hv; exact ⟨hv.1, hv.2⟩) hct

theorem fitsRec_of_fitsL (c : Compression) (r : GoBytes) (hf : FitsL c r) : FitsRec c r := by
  cases r with
  | none => exact hf.2
  | some r => exact hf

theorem le64_length (n : Nat) : (le64 n).length = 8 := rfl

theorem le64Dec_le64 (n : Nat) (h : n < 2 ^ 64) : le64Dec (le64 n) = some n := by
  unfold le64Dec le64
  rw [List.take_left' (le32_length n), List.drop_left' (le32_length n), le32Dec_le32_mod,
    le32Dec_le32 _ (by omega)]
  simp only []
  rw [Nat.mul_comm, Nat.mod_add_div]

theorem encHeaderV1_length (u cl : Nat) : (encHeaderV1 u cl).length = headerSizeV1 := rfl

theorem readRecordHeaderV1_enc (u cl : Nat) (hu : u < 2 ^ 64) (hc : cl < 2 ^ 64) :
    readRecordHeaderV1 (encHeaderV1 u cl) = .ok (u, cl) := by
  have h1 : (encHeaderV1 u cl).take 4 = le32 magicNumber := by
    unfold encHeaderV1; rw [List.append_assoc, List.take_left' (le32_length _)]
  have h2 : ((encHeaderV1 u cl).drop 4).take 8 = le64 u := by
    unfold encHeaderV1
    rw [List.append_assoc, List.drop_left' (le32_length _), List.take_left' (le64_length _)]
  have h3 : ((encHeaderV1 u cl).drop 12).take 8 = le64 cl := by
    unfold encHeaderV1
    rw [List.drop_left' (by rfl : (le32 magicNumber ++ le64 u).length = 12)]
    exact List.take_of_length_le (Nat.le_of_eq (le64_length cl))
  unfold readRecordHeaderV1
  rw [if_neg (fun h => h (encHeaderV1_length u cl)), h1, h2, h3, le32Dec_le32 _ (by decide),
    le64Dec_le64 _ hu, le64Dec_le64 _ hc]
  rfl

theorem expectedV1_enc (c : Compression) (r : Bytes) :
    expectedV1 c r.length (clenOf c r) = (stored c r).length := by
  cases c <;> rfl

theorem encRecordV1_length (c : Compression) (r : Bytes) :
    (encRecordV1 c r).length = headerSizeV1 + (stored c r).length := by
  unfold encRecordV1; rw [List.length_append, encHeaderV1_length]

theorem readNextS1_enc (en : Bool) (c : Compression) (r rest : Bytes) (hl : LawfulC c)
    (h1 : r.length < 2 ^ 64) (h2 : clenOf c r < 2 ^ 64) :
    readNextS1 en c (encRecordV1 c r ++ rest) = .ok (v1Result en c r, (encRecordV1 c r).length) := by
  unfold readNextS1
  rw [encRecordV1_length, encRecordV1, List.append_assoc, ← encHeaderV1_length r.length (clenOf c r),
    specFull_append]
  simp only []
  rw [readRecordHeaderV1_enc _ _ h1 h2]
  simp only []
  rw [expectedV1_enc, specFull_append]
  simp only []
  rw [decodePayload_stored c r hl]

theorem skipNextS1_enc (c : Compression) (r rest : Bytes)
    (h1 : r.length < 2 ^ 64) (h2 : clenOf c r < 2 ^ 64) :
    skipNextS1 c (encRecordV1 c r ++ rest) = .ok (encRecordV1 c r).length := by
  unfold skipNextS1
  rw [encRecordV1_length, encRecordV1, List.append_assoc, ← encHeaderV1_length r.length (clenOf c r),
    specFull_append]
  simp only []
  rw [readRecordHeaderV1_enc _ _ h1 h2]
  simp only []
  rw [expectedV1_enc]

theorem readAtV1_enc (en : Bool) (c : Compression) (pre r rest : Bytes) (hl : LawfulC c)
    (h1 : r.length < 2 ^ 64) (h2 : clenOf c r < 2 ^ 64) :
    readAtV1 en c (pre ++ (encRecordV1 c r ++ rest)) pre.length = .ok (v1Result en c r) := by
  unfold readAtV1
  rw [if_neg (by simp), List.drop_left, encRecordV1, List.append_assoc,
    ← encHeaderV1_length r.length (clenOf c r)]
  simp only [List.take_left, List.drop_left]
  rw [if_neg (by simp), readRecordHeaderV1_enc _ _ h1 h2]
  simp only []
  rw [expectedV1_enc, if_neg (by simp), List.take_left, decodePayload_stored c r hl]
  rfl

theorem magic_lt : magicNumber < 2 ^ 64 := by decide

theorem encHeaderV2_length (u cl : Nat) :
    (encHeaderV2 u cl).length = 3 + (uvarintEnc u).length + (uvarintEnc cl).length := by
  simp [encHeaderV2, magicBytes]; omega

theorem encHeaderV3_length (nf : Bool) (u cl : Nat) :
    (encHeaderV3 nf u cl).length = 4 + (uvarintEnc u).length + (uvarintEnc cl).length :=
  headerBody_length nf u cl

theorem encHeaderV2_le (u cl : Nat) (hu : u < 2 ^ 64) (hc : cl < 2 ^ 64) :
    (encHeaderV2 u cl).length ≤ headerWinV3 := by
  have := uvarintEnc_len64 u hu
  have := uvarintEnc_len64 cl hc
  rw [encHeaderV2_length, headerWinV3]; omega

theorem encHeaderV3_le (nf : Bool) (u cl : Nat) (hu : u < 2 ^ 64) (hc : cl < 2 ^ 64) :
    (encHeaderV3 nf u cl).length ≤ headerWinV3 := by
  have := uvarintEnc_len64 u hu
  have := uvarintEnc_len64 cl hc
  rw [encHeaderV3_length, headerWinV3]; omega

theorem readHeaderS2_enc (u cl : Nat) (t : Bytes) (hu : u < 2 ^ 64) (hc : cl < 2 ^ 64) :
    readHeaderS2 (encHeaderV2 u cl ++ t) =
      .ok { ulen := u, clen := cl, isNil := false, hlen := (encHeaderV2 u cl).length } := by
  have hw : encHeaderV2 u cl ++ t = uvarintEnc magicNumber ++ (uvarintEnc u ++ (uvarintEnc cl ++ t)) := by
    rw [encHeaderV2, uvarintEnc_magic]; simp
  rw [hw]
  unfold readHeaderS2
  simp only [uvarintDec_enc _ _ magic_lt, uvarintDec_enc _ _ hu, uvarintDec_enc _ _ hc, List.drop_left,
    ne_eq, not_true_eq_false, if_false]
  rw [encHeaderV2_length, magicEnc_length]

theorem readHeaderS3_enc (nf : Bool) (u cl : Nat) (t : Bytes) (hu : u < 2 ^ 64) (hc : cl < 2 ^ 64) :
    readHeaderS3 (encHeaderV3 nf u cl ++ t) =
      .ok { ulen := u, clen := cl, isNil := nf, hlen := (encHeaderV3 nf u cl).length } := by
  have hw : encHeaderV3 nf u cl ++ t =
      uvarintEnc magicNumber ++ ((if nf then 1 else 0) :: (uvarintEnc u ++ (uvarintEnc cl ++ t))) := by
    rw [encHeaderV3, headerBody, uvarintEnc_magic]; simp
  rw [hw]
  unfold readHeaderS3
  simp only [uvarintDec_enc _ _ magic_lt, uvarintDec_enc _ _ hu, uvarintDec_enc _ _ hc, List.drop_left,
    ne_eq, not_true_eq_false, if_false]
  rw [encHeaderV3_length, magicEnc_length]
  cases nf <;> rfl

theorem encRecordV2_length (c : Compression) (r : Bytes) :
    (encRecordV2 c r).length = (encHeaderV2 r.length (clenOf c r)).length + (stored c r).length := by
  simp [encRecordV2]

theorem encRecordV3_pos (c : Compression) (r : GoBytes) : 0 < (encRecordV3 c r).length := by
  cases r with
  | none => simp only [encRecordV3]; rw [encHeaderV3_length]; omega
  | some r => simp only [encRecordV3, List.length_append]; rw [encHeaderV3_length]; omega

theorem readHeaderS2_frontToBack : FrontToBack readHeaderS2 := by
  unfold readHeaderS2
  refine F2B.bind uvarintDec_f2b fun m c1 p hp => ?_
  simp only [List.drop_left' hp]
  by_cases hm : m ≠ magicNumber
  · simp only [if_pos hm]; exact F2B.error _ _ _
  simp only [if_neg hm]
  refine F2B.bind uvarintDec_f2b fun u c2 p2 hp2 => ?_
  simp only [List.drop_left' hp2]
  exact F2B.bind uvarintDec_f2b fun cl c3 _ _ => F2B.ok _ (by simp only []; omega)

theorem readHeaderS3_frontToBack : FrontToBack readHeaderS3 := by
  unfold readHeaderS3
  refine F2B.bind uvarintDec_f2b fun m c1 p hp => ?_
  simp only [List.drop_left' hp]
  by_cases hm : m ≠ magicNumber
  · simp only [if_pos hm]; exact F2B.error _ _ _
  simp only [if_neg hm]
  refine F2B.byte fun nb => F2B.bind uvarintDec_f2b fun u c2 p2 hp2 => ?_
  simp only [List.drop_left' hp2]
  exact F2B.bind uvarintDec_f2b fun cl c3 _ _ => F2B.ok _ (by simp only []; omega)

theorem isRec_v2 (c : Compression) (r : Bytes) (h1 : r.length < 2 ^ 64) (h2 : clenOf c r < 2 ^ 64) :
    IsRec readHeaderS2 headerWinV3 c (encRecordV2 c r) (some r) :=
  ⟨_, _, IsHdr.of_frontToBack readHeaderS2_frontToBack (fun t => readHeaderS2_enc _ _ t h1 h2) rfl,
    by rw [encHeaderV2_length]; omega, encHeaderV2_le _ _ h1 h2, rfl, rfl, expectedLen_enc c false r _⟩

theorem isRec_v3 (c : Compression) (r : GoBytes) (hf : FitsRec c r) :
    IsRec readHeaderS3 headerWinV3 c (encRecordV3 c r) r := by
  have hdr := fun nf u cl hu hc => IsHdr.of_frontToBack readHeaderS3_frontToBack
    (fun t => readHeaderS3_enc nf u cl t hu hc) rfl
  cases r with
  | none =>
    exact ⟨_, _, hdr true 0 _ (by decide) hf, by rw [encHeaderV3_length]; omega,
      encHeaderV3_le _ _ _ (by decide) hf, rfl, rfl⟩
  | some r =>
    exact ⟨_, _, hdr false _ _ hf.1 hf.2, by rw [encHeaderV3_length]; omega, encHeaderV3_le _ _ _ hf.1 hf.2,
      rfl, rfl, expectedLen_enc c false r _⟩

/-- the version 2 parser never reports a nil record, so versions 2 and 3 share their readers behind the header -/
theorem readAtV2_eq (c : Compression) (file : Bytes) (off : Nat) :
    readAtV2 c file off = readAtW readHeaderS2 headerWinV3 c file off := by
  unfold readAtV2 readAtW
  split
  · rfl
  split
  · rfl
  simp only [Legacy.readRecordHeaderV2]
  cases h : readHeaderS2 ((file.drop off).take headerWinV3) with
  | error e => rfl
  | ok H => simp only [readHeaderS2_isNil h, Bool.false_eq_true, if_false]; rfl

theorem skipNextS2_eq (c : Compression) (s : Bytes) :
    skipNextS2 c s = (readHeaderS2 s).map fun h => h.hlen + skipLen c h := by
  unfold skipNextS2
  cases h : readHeaderS2 s with
  | error e => rfl
  | ok H => simp only [Except.map, skipLen, readHeaderS2_isNil h, Bool.false_eq_true, if_false]

/-- of a header and the payload it announces, cut behind the header, too few payload bytes are left -/
theorem payload_cut {X : Bytes} {a e m : Nat} (he : a + e = X.length) (ha : a ≤ m) (hm : m < X.length) :
    ((X.take m).drop a).length < e := by
  rw [List.length_drop, List.length_take_of_le (Nat.le_of_lt hm)]
  exact Nat.sub_lt_left_of_lt_add ha (he ▸ hm)

/-- one whole version 1 record: the 20 header bytes and exactly the payload they announce -/
def WholeRec1 (c : Compression) (X : Bytes) : Prop :=
  ∃ u cl, readRecordHeaderV1 (X.take headerSizeV1) = .ok (u, cl) ∧ headerSizeV1 + expectedV1 c u cl = X.length

theorem wholeRec1_enc (c : Compression) (r : Bytes) (h1 : r.length < 2 ^ 64) (h2 : clenOf c r < 2 ^ 64) :
    WholeRec1 c (encRecordV1 c r) := by
  refine ⟨r.length, clenOf c r, ?_, ?_⟩
  · unfold encRecordV1
    rw [← encHeaderV1_length r.length (clenOf c r), List.take_left]
    exact readRecordHeaderV1_enc _ _ h1 h2
  · rw [expectedV1_enc, encRecordV1_length]

theorem readNextS1_cut (en : Bool) (c : Compression) {X : Bytes} (hX : WholeRec1 c X) {m : Nat}
    (hm : m < X.length) : RanOut (readNextS1 en c (X.take m)) := by
  obtain ⟨u, cl, hh, hlen⟩ := hX
  have hl : (X.take m).length = m := List.length_take_of_le (Nat.le_of_lt hm)
  unfold readNextS1
  by_cases h20 : m < headerSizeV1
  · rw [specFull_gt (by rw [hl]; exact h20)]
    exact RanOut.ite _
  · rw [specFull_le (by rw [hl]; exact Nat.le_of_not_lt h20), List.take_take,
      Nat.min_eq_left (Nat.le_of_not_lt h20)]
    simp only []
    rw [hh]
    simp only []
    rw [specFull_gt (payload_cut hlen (Nat.le_of_not_lt h20) hm)]
    exact RanOut.ite _

theorem readAtV1_cut (en : Bool) (c : Compression) (pre : Bytes) {X : Bytes} (hX : WholeRec1 c X) {m : Nat}
    (hm : m < X.length) : ∃ e, readAtV1 en c (pre ++ X.take m) pre.length = .error e := by
  obtain ⟨u, cl, hh, hlen⟩ := hX
  have hl : (X.take m).length = m := List.length_take_of_le (Nat.le_of_lt hm)
  unfold readAtV1
  rw [if_neg (by simp), List.drop_left]
  simp only []
  by_cases h20 : m < headerSizeV1
  · rw [if_pos (by rw [hl]; exact h20)]; exact ⟨_, rfl⟩
  · rw [if_neg (by rw [hl]; exact h20), List.take_take, Nat.min_eq_left (Nat.le_of_not_lt h20), hh]
    simp only []
    rw [if_pos (payload_cut hlen (Nat.le_of_not_lt h20) hm)]
    exact ⟨_, rfl⟩

theorem readNextS2_nil (c : Compression) : readNextS2 c [] = .error .eof := by
  simp [readNextS2, readHeaderS2, readBodyS, uvarintDec, uvarintDecAux]

theorem readNextS3_nil (c : Compression) : readNextS3 c [] = .error .eof := by
  simp [readNextS3, readHeaderS3, readBodyS, uvarintDec, uvarintDecAux]

theorem isFraming_v1 (en : Bool) (c : Compression) :
    IsFraming (LawfulC c) (fun r => encRecordV1 c (r.getD [])) (fun r => v1Result en c (r.getD [])) (FitsL c)
      (readNextS1 en c) (skipNextS1 c) (readAtV1 en c) where
  pos r := by rw [encRecordV1_length]; exact Nat.lt_add_right _ (by decide)
  next_enc hl r rest hf := readNextS1_enc en c _ rest hl hf.1 hf.2
  next_nil := by simp [readNextS1, specFull, headerSizeV1]
  next_cut r m hf hm := readNextS1_cut en c (wholeRec1_enc c _ hf.1 hf.2) hm
  skip_enc r rest hf := skipNextS1_enc c _ rest hf.1 hf.2
  at_enc hl pre r rest hf := readAtV1_enc en c pre _ rest hl hf.1 hf.2
  at_cut pre r m hf hm := readAtV1_cut en c pre (wholeRec1_enc c _ hf.1 hf.2) hm
  at_beyond f off h := ⟨.other, by unfold readAtV1; rw [if_pos h]⟩

theorem isFraming_v2 (c : Compression) :
    IsFraming (LawfulC c) (fun r => encRecordV2 c (r.getD [])) (fun r => some (r.getD [])) (FitsL c)
      (readNextS2 c) (skipNextS2 c) (readAtV2 c) := by
  have := isFraming_of_isRec (fits := FitsL c) readHeaderS2 readHeaderS2 headerWinV3 c
    (fun r hf => isRec_v2 c (r.getD []) hf.1 hf.2) (fun r hf => isRec_v2 c (r.getD []) hf.1 hf.2)
    (fun r => by rw [encRecordV2_length, encHeaderV2_length]; omega) (readNextS2_nil c)
  rwa [← funext (skipNextS2_eq c), ← funext fun f => funext (readAtV2_eq c f)] at this

theorem isFraming_v3 (c : Compression) :
    IsFraming (LawfulC c) (encRecordV3 c) (fun r => r) (FitsL c) (readNextS3 c) (skipNextS3 c) (readAtV3 c) :=
  isFraming_of_isRec readHeaderS3 readHeaderS3 headerWinV3 c (fun r hf => isRec_v3 c r (fitsRec_of_fitsL c r hf))
    (fun r hf => isRec_v3 c r (fitsRec_of_fitsL c r hf)) (encRecordV3_pos c) (readNextS3_nil c)

/-- the dispatch: the writer and the readers selected by the file version are a record framing, for every
supported version (each case by unfolding `if v = …` at the numeral) -/
theorem isFramingL (en : Bool) {v : Nat} (hv : IsVersion v) (c : Compression) :
    IsFraming (LawfulC c) (encRecordL v c) (backL en v c) (FitsL c) (readNextL en v c) (skipNextL v c)
      (readAtL en v c) := by
  rcases isVersion_cases hv with rfl | rfl | rfl | rfl
  · exact isFraming_v1 en c
  · exact isFraming_v2 c
  · exact isFraming_v3 c
  · exact isFraming_v4 c (fitsRec_of_fitsL c)

theorem encAllL_nil (v : Nat) (c : Compression) : encAllL v c [] = [] := rfl

theorem encAllL_cons (v : Nat) (c : Compression) (r : GoBytes) (rs : List GoBytes) :
    encAllL v c (r :: rs) = encRecordL v c r ++ encAllL v c rs := rfl

theorem openReadAllL_of_parse (en : Bool) (comps : Nat → Compression) (file : Bytes) (v ct : Nat)
    (h : parseFileHeader file = .ok (v, ct)) :
    openReadAllL en comps file =
      readAllSL en v (comps ct) (file.length + 1) (file.drop fileHeaderSize) := by
  unfold openReadAllL; rw [h]

theorem readAllSL_eq (en : Bool) (v : Nat) (c : Compression) :
    ∀ fuel s, readAllSL en v c fuel s = readAllG (readNextL en v c) fuel s := by
  intro fuel
  induction fuel with
  | zero => intro s; rfl
  | succ f ih => intro s; unfold readAllSL readAllG; simp only [ih]; rfl

theorem openReadAllL_hdr (en : Bool) (comps : Nat → Compression) (v ct : Nat) (c : Compression)
    (hv : IsVersion v) (hct : ct ≤ maxCompression) (hc : comps ct = c) (rest : Bytes) :
    openReadAllL en comps (fileHeader v ct ++ rest) =
      readAllG (readNextL en v c) ((fileHeader v ct ++ rest).length + 1) rest := by
  rw [openReadAllL_of_parse en comps _ v ct (parse_fileHeaderL v ct rest hv hct), hc, drop_fileHeader, readAllSL_eq]

theorem encFileL_eq (v : Nat) (c : Compression) (ct : Nat) (rs : List GoBytes) :
    encFileL v c ct rs = fileHeader v ct ++ encAllL v c rs := rfl

theorem encFileL_split (v : Nat) (c : Compression) (ct : Nat) (rs : List GoBytes) (k : Nat)
    (hk : k < rs.length) :
    encFileL v c ct rs = (fileHeader v ct ++ encAllL v c (rs.take k)) ++
      (encRecordL v c rs[k] ++ encAllL v c (rs.drop (k + 1))) :=
  catRecs_split (fileHeader v ct) rs k hk

theorem offsetOfL_eq (v : Nat) (c : Compression) (ct : Nat) (rs : List GoBytes) (k : Nat) :
    offsetOfL v c rs k = (fileHeader v ct ++ encAllL v c (rs.take k)).length :=
  offs_eq (fileHeader v ct) rs k

/-! ## a written file reads back: `Proofs/FileFraming` at `isFramingL` -/

/-- `Open` + `ReadNext` until the first error on a written file of version 1–4: the records (as the version
can express them), then end-of-file -/
theorem legacy_seq_roundtrip (en : Bool) (comps : Nat → Compression) (v ct : Nat) (c : Compression)
    (rs : List GoBytes) (hv : IsVersion v) (hct : ct ≤ maxCompression) (hc : comps ct = c)
    (hl : LawfulC c) (hf : ∀ r ∈ rs, FitsL c r) :
    openReadAllL en comps (encFileL v c ct rs) = (rs.map (backL en v c), .eof) := by
  have F := isFramingL en hv c
  have := F.open_append hl _ _ (openReadAllL_hdr en comps v ct c hv hct hc) F.next_nil rs hf
  rwa [List.append_nil] at this

theorem legacy_readAt_offset (en : Bool) (v ct : Nat) (c : Compression) (rs : List GoBytes) (k : Nat)
    (hk : k < rs.length) (hv : IsVersion v) (hl : LawfulC c) (hf : ∀ r ∈ rs, FitsL c r) :
    readAtL en v c (encFileL v c ct rs) (offsetOfL v c rs k) = .ok (backL en v c rs[k]) := by
  have := (isFramingL en hv c).at_offs hl (fileHeader v ct) rs [] k hk hf
  rwa [List.append_nil] at this

/-- `SkipNext` moves exactly as far as `ReadNext` -/
theorem legacy_skip_eq_read_discard (en : Bool) (v : Nat) (hv : IsVersion v) (c : Compression) (r : GoBytes)
    (rest : Bytes) (hl : LawfulC c) (hf : FitsL c r) :
    skipNextL v c (encRecordL v c r ++ rest) = .ok (encRecordL v c r).length ∧
    readNextL en v c (encRecordL v c r ++ rest) = .ok (backL en v c r, (encRecordL v c r).length) :=
  ⟨(isFramingL en hv c).skip_enc r rest hf, (isFramingL en hv c).next_enc hl r rest hf⟩

theorem v1Result_getD (en : Bool) (c : Compression) (r : Bytes) : (v1Result en c r).getD [] = r := by
  cases c with
  | none => rfl
  | some cc =>
    cases r with
    | nil => cases en <;> rfl
    | cons a t => cases en <;> rfl

theorem readAtV1_getD (en : Bool) (c : Compression) (file : Bytes) (off : Nat) :
    (readAtV1 en c file off).map (·.getD []) =
      (readAtV1 false c file off).map (·.getD []) := by
  unfold readAtV1
  by_cases h1 : off > file.length
  · rw [if_pos h1, if_pos h1]
  rw [if_neg h1, if_neg h1]
  simp only []
  by_cases h2 : (file.drop off).length < headerSizeV1
  · rw [if_pos h2, if_pos h2]
  rw [if_neg h2, if_neg h2]
  cases readRecordHeaderV1 ((file.drop off).take headerSizeV1) with
  | error e => rfl
  | ok p =>
    obtain ⟨u, cl⟩ := p
    simp only []
    split
    · rfl
    · cases decodePayload c (List.take (expectedV1 c u cl) (List.drop headerSizeV1 (List.drop off file))) with
      | error e => rfl
      | ok x => simp [Except.map, v1Result_getD]

/-- the `emptyNil` parameter only decides between nil and empty -/
theorem readAtL_getD_emptyNil (en : Bool) (v : Nat) (c : Compression) (file : Bytes) (off : Nat) :
    (readAtL en v c file off).map (·.getD []) = (readAtL false v c file off).map (·.getD []) := by
  unfold readAtL
  by_cases h : v = 1
  · rw [if_pos h, if_pos h]; exact readAtV1_getD en c file off
  · rw [if_neg h, if_neg h]

theorem readNextS1_getD (en : Bool) (c : Compression) (s : Bytes) :
    (readNextS1 en c s).map (fun p => (p.1.getD [], p.2)) =
      (readNextS1 false c s).map (fun p => (p.1.getD [], p.2)) := by
  unfold readNextS1
  split
  · rfl
  · rfl
  · split
    · rfl
    · split
      · rfl
      · rfl
      · split
        · rfl
        · simp [Except.map, v1Result_getD]

theorem readNextL_getD_emptyNil (en : Bool) (v : Nat) (c : Compression) (s : Bytes) :
    (readNextL en v c s).map (fun p => (p.1.getD [], p.2)) =
      (readNextL false v c s).map (fun p => (p.1.getD [], p.2)) := by
  unfold readNextL
  by_cases h : v = 1
  · rw [if_pos h, if_pos h]; exact readNextS1_getD en c s
  · rw [if_neg h, if_neg h]

theorem backL_false_some (v : Nat) (c : Compression) (b : Bytes) : backL false v c (some b) = some b := by
  unfold backL
  split
  · cases c <;> simp [v1Result]
  · split <;> simp

theorem encRecordL_congr (v : Nat) (c1 c2 : Comp) (b : Bytes) (h : c1.enc b = c2.enc b) :
    encRecordL v (some c1) (some b) = encRecordL v (some c2) (some b) := by
  simp only [encRecordL, encRecordV1, encRecordV2, encRecordV3, encRecord, clenOf, stored, Option.getD_some, h]

end SST.Proofs.Legacy
