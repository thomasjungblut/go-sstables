/-
Facts about lists in general that core has under no name: what the packages need of `Pairwise` over a key, of
`find?`, `getD`, sums and the like stands here once.  No definition of the model occurs and nothing is imported.
The two about `zip` with `range'` are in `SST.Proofs.DB`, the namespace of the proofs that call them.
-/
namespace SST.Proofs

variable {α β : Type}

/-! ## sorted by a key: `(l.map f).Pairwise R` -/

/-- an append is sorted by `f` iff both halves are and every element of the first stands before every element of the
second: the cross condition is on the elements, so that no `List.mem_map` is left to the caller -/
theorem sortedBy_append {R : β → β → Prop} (f : α → β) {l₁ l₂ : List α} :
    ((l₁ ++ l₂).map f).Pairwise R ↔
      (l₁.map f).Pairwise R ∧ (l₂.map f).Pairwise R ∧ ∀ a ∈ l₁, ∀ b ∈ l₂, R (f a) (f b) := by
  simp only [List.pairwise_map, List.pairwise_append]

theorem snoc_sorted {R : β → β → Prop} (f : α → β) {l : List α} {x : α} (hs : (l.map f).Pairwise R)
    (hlt : ∀ y ∈ l, R (f y) (f x)) : ((l ++ [x]).map f).Pairwise R :=
  (sortedBy_append f).2 ⟨hs, List.pairwise_singleton _ _, fun a ha _ hb => List.mem_singleton.1 hb ▸ hlt a ha⟩

theorem sorted_last {R : β → β → Prop} {f : α → β} {pre : List α} {x : α} (h : ((pre ++ [x]).map f).Pairwise R) :
    ∀ y ∈ pre, R (f y) (f x) :=
  fun y hy => ((sortedBy_append f).1 h).2.2 y hy x (List.mem_singleton.2 rfl)

theorem filter_sorted {R : β → β → Prop} {f : α → β} (q : α → Bool) (l : List α) (h : (l.map f).Pairwise R) :
    ((l.filter q).map f).Pairwise R :=
  List.Pairwise.sublist (List.Sublist.map _ List.filter_sublist) h

theorem eq_of_key_eq (f : α → β) {l : List α} (h : l.Pairwise fun a b => f a ≠ f b) {x y : α}
    (hx : x ∈ l) (hy : y ∈ l) (hxy : f x = f y) : x = y :=
  List.Pairwise.forall_of_forall_of_flip (R := fun a b => f a = f b → a = b) (fun _ _ _ => rfl)
    (h.imp fun hne e => absurd e hne) (h.imp fun hne e => absurd e.symm hne) hx hy hxy

/-- where an earlier element never matches when a later one does (distinct or ascending keys and a probe for one
key), the first match is the only match -/
theorem find?_eq_some_of_pairwise {R : α → α → Prop} {q : α → Bool} (hR : ∀ a b, R a b → q b = true → q a = false) :
    ∀ {l : List α}, l.Pairwise R → ∀ {x : α}, x ∈ l → q x = true → l.find? q = some x
  | [], _, _, hx, _ => nomatch hx
  | a :: t, hp, x, hx, hq => by
    have hp' := List.pairwise_cons.1 hp
    rcases List.mem_cons.1 hx with rfl | hx
    · rw [List.find?_cons, hq]
    · rw [List.find?_cons, hR a x (hp'.1 x hx) hq]
      exact find?_eq_some_of_pairwise hR hp'.2 hx hq

theorem find?_congr_mem {p q : α → Bool} :
    ∀ l : List α, (∀ a ∈ l, p a = q a) → l.find? p = l.find? q := by
  intro l
  induction l with
  | nil => intro _; rfl
  | cons a t ih =>
    intro h
    rw [List.find?_cons, List.find?_cons, h a List.mem_cons_self,
      ih (fun b hb => h b (List.mem_cons_of_mem _ hb))]

theorem find?_reverse_unique {q : α → Bool} (l : List α)
    (h : l.Pairwise (fun a b => ¬ (q a = true ∧ q b = true))) : l.reverse.find? q = l.find? q := by
  cases hf : l.find? q with
  | none => exact List.find?_eq_none.2 fun x hx => List.find?_eq_none.1 hf x (List.mem_reverse.1 hx)
  | some x =>
    exact find?_eq_some_of_pairwise (R := fun a b => ¬ (q b = true ∧ q a = true))
      (fun a b hab hb => Bool.eq_false_iff.2 fun ha => hab ⟨hb, ha⟩) (List.pairwise_reverse.2 h)
      (List.mem_reverse.2 (List.mem_of_find?_eq_some hf)) (List.find?_some hf)

theorem find?_update (key : α → Nat) (k : Nat) (f : α → α) (hf : ∀ a, key (f a) = key a) (l : List α) :
    (l.map fun a => if key a == k then f a else a).find? (key · == k) = (l.find? (key · == k)).map f := by
  induction l with
  | nil => rfl
  | cons a r ih =>
    rw [List.map_cons, List.find?_cons, List.find?_cons]
    by_cases h : (key a == k) = true
    · rw [if_pos h, hf, h]; rfl
    · rw [if_neg h, Bool.eq_false_iff.mpr h]; exact ih

theorem getD_append_left {d : α} (l t : List α) (k : Nat) (h : k < l.length) : (l ++ t).getD k d = l.getD k d := by
  rw [List.getD_eq_getElem?_getD, List.getElem?_append_left h, ← List.getD_eq_getElem?_getD]

theorem getD_true_lt (a : List Bool) (x : Nat) (h : a.getD x false = true) : x < a.length := by
  rw [List.getD_eq_getElem?_getD] at h
  by_cases hx : x < a.length
  · exact hx
  · simp [List.getElem?_eq_none (Nat.le_of_not_lt hx)] at h

theorem boolList_ext (a b : List Bool) (hl : a.length = b.length)
    (h : ∀ x, a.getD x false = true ↔ b.getD x false = true) : a = b := by
  apply List.ext_getElem hl
  intro i h1 h2
  rw [List.getElem_eq_getD false, List.getElem_eq_getD false]
  exact Bool.eq_iff_iff.2 (h i)

theorem drop_eq_replicate {d : α} (l : List α) (m : Nat) (h : ∀ j, m ≤ j → l.getD j d = d) :
    l.drop m = List.replicate (l.length - m) d := by
  rw [List.eq_replicate_iff]
  refine ⟨List.length_drop, fun b hb => ?_⟩
  obtain ⟨i, hi, rfl⟩ := List.getElem_of_mem hb
  have := h (m + i) (Nat.le_add_right _ _)
  rw [List.length_drop] at hi
  rwa [List.getD_eq_getElem?_getD, List.getElem?_eq_getElem (Nat.add_lt_of_lt_sub' hi), Option.getD_some,
    ← List.getElem_drop] at this

theorem drop_getElem? {l : List α} {j : Nat} {t : α} (h : l[j]? = some t) : l.drop j = t :: l.drop (j + 1) := by
  obtain ⟨hlt, rfl⟩ := List.getElem?_eq_some_iff.1 h
  exact List.drop_eq_getElem_cons hlt

theorem take_succ_flatten (full : List (List α)) (j : Nat) (hj : j < full.length) :
    (full.take (j + 1)).flatten = (full.take j).flatten ++ full.getD j [] := by
  rw [List.take_add_one, List.getD_eq_getElem?_getD, List.getElem?_eq_getElem hj]
  simp only [Option.toList, List.flatten_append, List.flatten_cons, List.flatten_nil, List.append_nil,
    Option.getD_some]

theorem forall_getD {P : α → Prop} (full : List (List α)) (h : ∀ rs ∈ full, ∀ r ∈ rs, P r) (i : Nat) :
    ∀ r ∈ full.getD i [], P r := by
  intro r hr
  by_cases hi : i < full.length
  · rw [List.getD_eq_getElem?_getD, List.getElem?_eq_getElem hi] at hr
    exact h _ (List.getElem_mem hi) r hr
  · rw [List.getD_eq_getElem?_getD, List.getElem?_eq_none (Nat.le_of_not_lt hi)] at hr; simp at hr

theorem range_map_getD (full : List (List α)) (j : Nat) (hj : j ≤ full.length) :
    (List.range j).map (fun i => full.getD i []) = full.take j := by
  induction j with
  | zero => rfl
  | succ j ih =>
    rw [List.range_succ, List.map_append, ih (Nat.le_of_succ_le hj), List.take_add_one, List.map_singleton,
      List.getD_eq_getElem?_getD, List.getElem?_eq_getElem hj]
    rfl

theorem sum_map_mid (w : α → Nat) (a b : List α) (x : α) : ((a ++ x :: b).map w).sum = w x + ((a ++ b).map w).sum := by
  rw [List.map_append, List.map_append, List.map_cons, List.sum_append_nat, List.sum_append_nat, List.sum_cons,
    Nat.add_left_comm]

theorem sum_map_add (r : List α) (f g : α → Nat) :
    (r.map fun i => f i + g i).sum = (r.map f).sum + (r.map g).sum := by
  induction r with
  | nil => rfl
  | cons i r ih =>
    simp only [List.map_cons, List.sum_cons, ih]
    omega

theorem sum_ite_range (k x n : Nat) :
    ((List.range n).map fun i => if k == i then x else 0).sum = if k < n then x else 0 := by
  induction n with
  | zero => rfl
  | succ n ih =>
    rw [List.range_succ, List.map_append, List.sum_append_nat, ih]
    simp only [List.map_cons, List.map_nil, List.sum_cons, List.sum_nil, beq_iff_eq]
    split <;> split <;> split <;> omega

theorem sum_map_eq_sum_buckets (key f : α → Nat) {n : Nat} {t : List α} (h : ∀ a ∈ t, key a < n) :
    (t.map f).sum = ((List.range n).map fun i => ((t.filter (key · == i)).map f).sum).sum := by
  induction t with
  | nil => simp [List.map_const', List.sum_replicate_nat]
  | cons a t ih =>
    have hp (i : Nat) : (((a :: t).filter (key · == i)).map f).sum =
        (if key a == i then f a else 0) + ((t.filter (key · == i)).map f).sum := by
      rw [List.filter_cons]
      split <;> simp
    simp only [hp, sum_map_add, sum_ite_range, if_pos (h a List.mem_cons_self), List.map_cons, List.sum_cons]
    rw [ih fun b hb => h b (List.mem_cons_of_mem a hb)]

theorem foldl_max_le (l : List Nat) (a x : Nat) (h : x ≤ a ∨ x ∈ l) : x ≤ l.foldl max a := by
  induction l generalizing a with
  | nil => exact h.resolve_right List.not_mem_nil
  | cons b l ih =>
    refine ih _ (h.elim (fun h => .inl (Nat.le_trans h (Nat.le_max_left a b))) fun h => ?_)
    exact (List.mem_cons.1 h).imp (fun e => Nat.le_trans (Nat.le_of_eq e) (Nat.le_max_right a b)) id

theorem filterMap_snoc (f : α → Option β) (l : List α) (a : α) :
    (l ++ [a]).filterMap f = l.filterMap f ++ (f a).toList := by
  rw [List.filterMap_append]
  cases h : f a <;> simp [h]

theorem map_mapIdx {γ : Type} (f : Nat → α → β) (g : β → γ) (l : List α) :
    (l.mapIdx f).map g = l.mapIdx fun i a => g (f i a) :=
  List.ext_getElem (by simp) fun i _ _ => by simp

theorem mapIdx_eq_map (h : α → β) (l : List α) : (l.mapIdx fun _ a => h a) = l.map h :=
  List.ext_getElem (by simp) fun i _ _ => by simp

theorem nodup_eraseDups [BEq α] [LawfulBEq α] : ∀ l : List α, l.eraseDups.Nodup
  | [] => by rw [List.eraseDups_nil]; exact List.nodup_nil
  | a :: as => by
    rw [List.eraseDups_cons, List.nodup_cons, List.mem_eraseDups, List.mem_filter]
    exact ⟨fun hm => by simpa using hm.2, nodup_eraseDups _⟩
termination_by l => l.length
decreasing_by exact Nat.lt_succ_of_le (List.length_filter_le _ as)

theorem zipIdx_nodup (l : List α) (n : Nat) : ((l.zipIdx n).map (·.2)).Nodup := by
  rw [List.zipIdx_map_snd]; exact List.nodup_range'

theorem perm_eq_of_length_le_one {l l' : List α} (p : l.Perm l') (hlen : l.length ≤ 1) :
    l = l' := by
  match l, hlen with
  | [], _ => exact (List.nil_perm.mp p).symm
  | [a], _ => exact List.singleton_perm.mp p

end SST.Proofs

namespace SST.Proofs.DB

/-- where `g` does not look at the number, the numbering can be forgotten -/
theorem zip_flatMap_congr {α β : Type} (g : Nat × α → List β) (f : α → List β) (o : Nat) (ts : List α)
    (h : ∀ i t, o ≤ i → i < o + ts.length → g (i, t) = f t) :
    ((List.range' o ts.length).zip ts).flatMap g = ts.flatMap f := by
  induction ts generalizing o with
  | nil => rfl
  | cons t ts ih =>
    rw [List.length_cons, List.range'_succ, List.zip_cons_cons, List.flatMap_cons, List.flatMap_cons,
      h o t (Nat.le_refl _) (Nat.lt_add_of_pos_right (Nat.succ_pos _)),
      ih (o + 1) fun i t h1 h2 => h i t (Nat.le_of_succ_le h1) (Nat.lt_of_lt_of_eq h2 (Nat.add_right_comm o 1 _))]

theorem zip_range'_append {α : Type} (o : Nat) (l1 l2 : List α) :
    (List.range' o (l1 ++ l2).length).zip (l1 ++ l2) =
      (List.range' o l1.length).zip l1 ++ (List.range' (o + l1.length) l2.length).zip l2 := by
  rw [List.length_append, ← List.range'_append_1, List.zip_append (by simp)]

end SST.Proofs.DB
