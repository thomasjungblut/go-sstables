/-
L6-fs, sessions: what the invariants give at the end of a session (any cut, inside `Close` or not), what a completed
`Close` leaves behind, killed `Open`s, and the composition over a whole history.
-/
import SST.Proofs.FSSessions
namespace SST.Proofs.FSS
open SST SST.DBM SST.FS SST.FSI SST.FSS SST.Proofs.DB SST.Proofs.FS SST.Proofs.FSI

/-- the reference: session by session, the first `p` mutations of the session's history -/
def refAfter (E : Key → Option Bytes) : List (Ghost × Nat) → Key → Option Bytes
  | [] => E
  | x :: rest => refAfter (applySpec E (x.1.hist.take x.2)) rest

/-- the same as ONE list of mutations applied to the initial content -/
def chosenMuts : List (Ghost × Nat) → List Mutation
  | [] => []
  | x :: rest => x.1.hist.take x.2 ++ chosenMuts rest

theorem refAfter_eq (E : Key → Option Bytes) (xs : List (Ghost × Nat)) : refAfter E xs = applySpec E (chosenMuts xs) := by
  induction xs generalizing E with
  | nil => rfl
  | cons x rest ih => simp only [refAfter, chosenMuts, applySpec_append]; exact ih _

theorem closed_is_quiescent {async : Bool} {E : Key → Option Bytes} {sc : SCfg} (h : Inv async E sc)
    (hph : sc.ph = .closed) : quiescent sc = true := by
  have hp : sc.ph.rejecting = true := by rw [hph]; rfl
  obtain ⟨hfl, ⟨hq, _, _, htn⟩, _⟩ := h.w.rej hp
  have hpc := h.w.pcU (Or.inr hph)
  have hk := h.w.kst (h.w.wk (Or.inr hph))
  unfold quiescent
  rw [hph, hpc, hfl, hk, hq, htn]
  rfl

/-- what a completed `Close` leaves on the disk: exactly the live tables, all complete; no compaction directory; WAL
files that hold a header and nothing else (the files of rotations with an empty store — `Close`'s own rotation
included — and the file `Close`'s rotation created) -/
theorem closed_disk {async : Bool} {E : Key → Option Bytes} {sc : SCfg} (h : Inv async E sc) (hph : sc.ph = .closed) :
    sc.c.d.tables = encT sc.c.tables ∧ sc.c.d.comps = [] ∧ sc.c.d.walDir = true ∧
      sc.c.d.wal = sc.c.junk ++ [{ num := sc.c.cur }] ∧ Junk sc.c.d.wal := by
  have hp : sc.ph.rejecting = true := by rw [hph]; rfl
  obtain ⟨hfl, ⟨_, hrc, _, htn⟩, _⟩ := h.w.rej hp
  have hpc := h.w.pcU (Or.inr hph)
  have hk := kIdle_kj (h.w.kst (h.w.wk (Or.inr hph)))
  have ht : sc.c.d.tables = encT sc.c.tables := by
    rw [h.s.tbl]
    unfold kTables fTables
    rw [hk, hfl]
    simp
  have hc : sc.c.d.comps = [] := by
    rw [h.s.comps]
    unfold kComps
    rw [hk]
  have hw : sc.c.d.wal = sc.c.junk ++ [{ num := sc.c.cur }] := by
    rw [h.s.wal]
    unfold fFile nextFile curFile
    rw [hfl, hpc, hrc, htn]
    simp
  refine ⟨ht, hc, h.s.walDir, hw, ?_⟩
  rw [hw]
  exact junk_append h.s.jk fun f hf => by rw [List.mem_singleton.1 hf]; exact ⟨rfl, rfl, rfl⟩

theorem killedOpens_events : ∀ (ms : List KilledOpen) (d : Disk),
    killedOpens d ms = applyEvs d (killedOpensEvents d ms) := by
  intro ms
  induction ms with
  | nil => intro d; rfl
  | cons m ms ih =>
    intro d
    simp only [killedOpens, killedOpensEvents]
    rw [applyEvs_append]
    exact ih _

/-- `Open` on a well-formed disk, after any number of killed attempts: it succeeds, and the session starts in a state
satisfying the invariants with the reference = what the disk served before, its program ahead and no history -/
theorem sessionStart_inv (d : Disk) (h : DiskOk d) (s : Session) :
    ∃ sc, sessionStart d s = some sc ∧ Inv s.async (logical d) sc ∧ sc.c.prog = s.prog ∧ sc.c.hist = [] := by
  obtain ⟨h0, hl0⟩ := killedOpens_ok s.opens d h
  obtain ⟨d1, s1, hr⟩ := recover_ok (killedOpens d s.opens) h0 s.opts
  have hev : openDisk d s = d1 := recover_events _ h0 s.opts d1 s1 hr s.junk
  obtain ⟨hS, hG⟩ := start_SG (killedOpens d s.opens) h0 s.opts d1 s1 hr s.prog s.async
  refine ⟨{ c := start d1 (openedVol s1) s.prog, comp := s.comp }, ?_, ⟨hS, ?_, ?_⟩, rfl, rfl⟩
  · unfold sessionStart
    rw [hr, hev]
    rfl
  · rw [← hl0]; exact hG
  · exact ⟨fun _ => rfl, nofun, nofun, nofun, nofun, nofun⟩

theorem sessionEnd_some {d : Disk} {s : Session} {sc0 : SCfg} (h0 : sessionStart d s = some sc0) :
    sessionEnd d s = some (runS s.async sc0 s.sched) := by
  unfold sessionEnd
  rw [h0]

theorem sessionEnd_inv (d : Disk) (h : DiskOk d) (s : Session) :
    ∃ sc, sessionEnd d s = some sc ∧ Inv s.async (logical d) sc := by
  obtain ⟨sc0, h0, hi, _⟩ := sessionStart_inv d h s
  exact ⟨runS s.async sc0 s.sched, sessionEnd_some h0, Inv_run s.async (logical d) s.sched sc0 hi⟩

/-- the calls begun before `Close` (`pre`), the calls rejected after it (`rej`), the calls not yet made -/
def ProgInv (prog0 : List Op) (sc : SCfg) : Prop :=
  ∃ pre rej, prog0 = pre ++ rej ++ sc.c.prog ∧ sc.c.hist = pre.filterMap Op.accepted ∧ (sc.ph = .running → rej = [])

theorem ProgInv_step {async : Bool} {prog0 : List Op} {sc sc' : SCfg} {e : Option Ev} {mv : SMv}
    (h : ProgInv prog0 sc) (hm : SMove async sc mv e sc') : ProgInv prog0 sc' := by
  obtain ⟨pre, rej, h1, h2, h3⟩ := h
  cases hm with
  | @sys _ _ c' hm hb =>
    rcases hm.prog with ⟨hp, hh⟩ | ⟨op, hmv, hp, hh⟩
    · exact ⟨pre, rej, by show prog0 = pre ++ rej ++ c'.prog; rw [hp]; exact h1, by show c'.hist = _; rw [hh]; exact h2, h3⟩
    · have hr := h3 (hb hmv)
      subst hr
      refine ⟨pre ++ [op], [], ?_, ?_, fun _ => rfl⟩
      · show prog0 = pre ++ [op] ++ [] ++ c'.prog
        rw [h1, hp]; simp
      · show c'.hist = _
        rw [hh, h2, filterMap_snoc]
  | @rejected op rest hph hp =>
    refine ⟨pre, rej ++ [op], ?_, h2, fun hx => absurd hx hph⟩
    show prog0 = pre ++ (rej ++ [op]) ++ rest
    rw [h1, hp]; simp
  | cbegin | cwal | cfinish => exact ⟨pre, rej, h1, h2, nofun⟩
  | cunlock hph => exact ⟨pre, rej, h1, h2, nofun⟩
  | kexit => exact ⟨pre, rej, h1, h2, h3⟩

theorem SMove.disk {async : Bool} {sc sc' : SCfg} {mv : SMv} {e : Option Ev} (hm : SMove async sc mv e sc') :
    sc'.c.d = applyOpt sc.c.d e := by
  cases hm with
  | sys hm => exact hm.disk
  | _ => rfl

theorem runS_disk (async : Bool) (sched : List SMv) :
    ∀ sc, (runS async sc sched).c.d = applyEvs sc.c.d (traceS async sc sched) := by
  induction sched with
  | nil => intro sc; rfl
  | cons mv rest ih =>
    intro sc
    simp only [runS, traceS]
    cases hm : smove async sc mv with
    | none => exact ih sc
    | some r =>
      obtain ⟨e, sc'⟩ := r
      have hd := (SMove.of_smove hm).disk
      cases e with
      | none => simp only [applyOpt] at hd ⊢; rw [ih sc', hd]
      | some ev => simp only [applyOpt] at hd ⊢; rw [ih sc', hd, applyEvs_cons]

theorem runS_append (async : Bool) (s1 s2 : List SMv) :
    ∀ sc, runS async sc (s1 ++ s2) = runS async (runS async sc s1) s2 := by
  induction s1 with
  | nil => intro sc; rfl
  | cons mv rest ih =>
    intro sc
    simp only [List.cons_append, runS]
    cases smove async sc mv with
    | none => exact ih sc
    | some r => exact ih r.2

/-- what holds for a session `s`, its ghost data `g` and the number `p` of its mutations that are durable when it ends -/
structure SessOk (s : Session) (g : Ghost) (p : Nat) : Prop where
  opened : g.opened = true                        -- `Open` succeeded
  a1 : g.acked ≤ g.hist.length
  a2 : g.hist.length ≤ g.acked + 1                -- at most one call in flight
  mark : g.mark ≤ p                               -- everything up to the last completed rotation
  le : p ≤ g.hist.length                          -- a prefix: no holes, no reordering
  sync : s.async = false → g.acked ≤ p            -- synchronous WAL: every acknowledged mutation
  all : g.ph.rejecting = true → p = g.hist.length ∧ g.acked = g.hist.length   -- `Close` got past the flusher: everything
  prog : ∃ pre rej post, s.prog = pre ++ rej ++ post ∧ g.hist = pre.filterMap Op.accepted ∧ (g.ph = .running → rej = [])

theorem SessOk.sync_cases {s : Session} {g : Ghost} {p : Nat} (h : SessOk s g p) (hs : s.async = false) :
    p = g.acked ∨ p = g.hist.length :=
  acked_or_all (h.sync hs) h.le h.a2

/-- the disk a completed `Close` leaves: every table directory loads, no compaction directory, the WAL directory
holds header-only files -/
def CleanlyClosed (d : Disk) : Prop :=
  (∀ p ∈ d.tables, isComplete p.2 = true) ∧ d.comps = [] ∧ d.walDir = true ∧ Junk d.wal

theorem session_good (d : Disk) (h : DiskOk d) (s : Session) :
    DiskOk (runSession d s).1 ∧ ∃ p, SessOk s (runSession d s).2 p ∧
      logical (runSession d s).1 = applySpec (logical d) ((runSession d s).2.hist.take p) ∧
      ((runSession d s).2.ph = .closed → CleanlyClosed (runSession d s).1 ∧
        (∃ sc, sessionEnd d s = some sc ∧ quiescent sc = true)) := by
  obtain ⟨sc0, h0, hi0, hprog0, hhist0⟩ := sessionStart_inv d h s
  have hend := sessionEnd_some h0
  have hi := Inv_run s.async (logical d) s.sched sc0 hi0
  have hpi : ProgInv s.prog (runS s.async sc0 s.sched) := by
    refine runS_invariant ProgInv_step s.sched sc0 ?_
    exact ⟨[], [], by rw [hprog0]; rfl, by rw [hhist0]; rfl, fun _ => rfl⟩
  have hrun : runSession d s = ((runS s.async sc0 s.sched).c.d, ghostOf (runS s.async sc0 s.sched)) := by
    unfold runSession; rw [hend]
  rw [hrun]
  obtain ⟨hok, ha1, ha2, p, hm, hle, hsy, hq, hlog⟩ := SG_good hi.s hi.g
  -- once `Close` has released the lock nothing sits in the appender: the prefix is everything
  have hall := fun hp => And.intro (hq (hi.w.rej hp).2.1.1) (hi.w.rej hp).2.2
  obtain ⟨pre, rej, hp1, hp2, hp3⟩ := hpi
  refine ⟨hok, p, ⟨rfl, ha1, ha2, hm, hle, hsy, hall, ⟨pre, rej, _, hp1, hp2, hp3⟩⟩, hlog, ?_⟩
  intro hc
  have hc' : (runS s.async sc0 s.sched).ph = .closed := hc
  obtain ⟨ht, hcm, hwd, _, hj⟩ := closed_disk hi hc'
  exact ⟨⟨fun q hq => encT_complete _ q (ht ▸ hq), hcm, hwd, hj⟩, _, hend, closed_is_quiescent hi hc'⟩

theorem runSessions_length : ∀ (ss : List Session) (d : Disk), (runSessions d ss).2.length = ss.length := by
  intro ss
  induction ss with
  | nil => intro d; rfl
  | cons s rest ih => intro d; simp only [runSessions, List.length_cons]; rw [ih]

/-- every session of a history, with its ghost data and the chosen number of durable mutations -/
def triples (ss : List Session) (gs : List Ghost) (ps : List Nat) : List (Session × Ghost × Nat) := ss.zip (gs.zip ps)

theorem sessions_good : ∀ (ss : List Session) (d : Disk), DiskOk d →
    DiskOk (runSessions d ss).1 ∧ ∃ ps : List Nat, ps.length = ss.length ∧
      (∀ x ∈ triples ss (runSessions d ss).2 ps, SessOk x.1 x.2.1 x.2.2) ∧
      logical (runSessions d ss).1 = refAfter (logical d) ((runSessions d ss).2.zip ps) := by
  intro ss
  induction ss with
  | nil =>
    intro d h
    exact ⟨h, [], rfl, fun x hx => (by cases hx), rfl⟩
  | cons s rest ih =>
    intro d h
    obtain ⟨h1, p, hso, hl, _⟩ := session_good d h s
    obtain ⟨h2, ps, hlen, hall, hl2⟩ := ih (runSession d s).1 h1
    refine ⟨h2, p :: ps, by simp [hlen], ?_, ?_⟩
    · intro x hx
      simp only [runSessions, triples, List.zip_cons_cons, List.mem_cons] at hx
      rcases hx with (rfl | hx)
      · exact hso
      · exact hall x hx
    · simp only [runSessions, List.zip_cons_cons, refAfter]
      rw [hl2, hl]

/-- the general form of the history theorems (sessions may differ in their WAL flavour) -/
theorem history_good (d0 : Disk) (h0 : DiskOk d0) (H : History) (o : Opts) :
    DiskOk (runHistory d0 H).1 ∧ (runHistory d0 H).2.length = H.sessions.length ∧
      ∃ ps : List Nat, ps.length = H.sessions.length ∧
        (∀ x ∈ triples H.sessions (runHistory d0 H).2 ps, SessOk x.1 x.2.1 x.2.2) ∧
        ∃ d' s, recover (runHistory d0 H).1 o = .ok (d', s) ∧
          abs s = refAfter (logical d0) ((runHistory d0 H).2.zip ps) := by
  obtain ⟨h1, ps, hlen, hall, hl⟩ := sessions_good H.sessions d0 h0
  obtain ⟨h2, hl2⟩ := killedOpens_ok H.lastOpens _ h1
  obtain ⟨d', s, hr, ha⟩ := recover_serves _ h2 o
  exact ⟨h2, runSessions_length _ _, ps, hlen, hall, d', s, hr, ha.trans (hl2.trans hl)⟩

theorem sessionStart_disk (d : Disk) (s : Session) (sc : SCfg) (h : sessionStart d s = some sc) :
    sc.c.d = openDisk d s := by
  unfold sessionStart at h
  split at h
  · simp only [Option.some.injEq] at h
    subst h
    rfl
  · cases h

theorem runSession_events (d : Disk) (s : Session) : (runSession d s).1 = applyEvs d (sessionEvents d s) := by
  have hopen : openDisk d s = applyEvs d (killedOpensEvents d s.opens ++ recoverEvents (killedOpens d s.opens) s.junk) := by
    unfold openDisk
    rw [applyEvs_append, ← killedOpens_events]
  unfold runSession sessionEnd sessionEvents
  cases hs : sessionStart d s with
  | none => simp only [List.append_nil]; exact hopen
  | some sc =>
    simp only
    rw [runS_disk, sessionStart_disk d s sc hs, hopen, ← applyEvs_append]

theorem runSessions_events : ∀ (ss : List Session) (d : Disk),
    (runSessions d ss).1 = applyEvs d (sessionsEvents d ss) := by
  intro ss
  induction ss with
  | nil => intro d; rfl
  | cons s rest ih =>
    intro d
    simp only [runSessions, sessionsEvents]
    rw [applyEvs_append, ← runSession_events, ih]

/-! ## a session without `Close` moves is a run of the interleaved model -/

theorem smove_running (async : Bool) (sc : SCfg) (mv : Mv) (hph : sc.ph = .running) (hc : sc.comp = true)
    (hk : sc.kstop = false) : smove async sc (.sys mv) = pass async sc mv := by
  cases mv <;> simp [smove, hph, hc, hk]

theorem runS_sys (async : Bool) (sched : List Mv) : ∀ (sc : SCfg), sc.ph = .running → sc.comp = true → sc.kstop = false →
    runS async sc (sched.map .sys) = { sc with c := FSI.run async sc.c sched } := by
  induction sched with
  | nil => intro sc _ _ _; rfl
  | cons mv rest ih =>
    intro sc hph hc hk
    simp only [List.map_cons, runS, FSI.run]
    rw [smove_running async sc mv hph hc hk]
    unfold pass
    cases hm : move async sc.c mv with
    | none => exact ih sc hph hc hk
    | some r =>
      obtain ⟨e, c'⟩ := r
      simp only
      rw [ih { sc with c := c' } hph hc hk]

end SST.Proofs.FSS
