/-
The heap-order invariant of the array heap (1-based, as in priority_queue.go) and the two sift loops (`upLoop`,
`downLoop`) that restore it.  Both move a hole whose content is never read: the heap is ordered with a suitable
element in the hole, and the element being sifted fits on the side the hole leaves behind; one lemma
(`heapOrd_hset`) says when an element may be put into the hole.  What `init` and `Next` do to the heap is
`upHeap_append`, `downHeap_ok` (root replaced, or removed: `root_dropLast`) and, whatever the order, `downHeap_perm`.
-/
import SST.Model.PQ
import SST.Proofs.BytesOrd
namespace SST.Proofs.PQB
open SST PQ

variable {K V : Type} {cmp : K → K → Ordering}

/-- `a ≤ b` on heap elements (by key) -/
def ele (cmp : K → K → Ordering) (a b : PElem K V) : Prop := cmp a.key b.key ≠ .gt

theorem ele_refl (hl : LawfulCmp cmp) (a : PElem K V) : ele cmp a a := by
  simp [ele, hl.refl]

theorem ele_trans (hl : LawfulCmp cmp) {a b c : PElem K V}
    (h1 : ele cmp a b) (h2 : ele cmp b c) : ele cmp a c := cmp_le_trans hl h1 h2

theorem ele_of_less {a b : PElem K V} (h : less cmp a b = true) : ele cmp a b := by
  simp [less] at h
  simp [ele, h]

theorem ele_of_not_less (hl : LawfulCmp cmp) {a b : PElem K V}
    (h : ¬ less cmp a b = true) : ele cmp b a := by
  simp [less] at h
  unfold ele
  rw [hl.swap]
  cases hab : cmp a.key b.key <;> simp_all [Ordering.swap]

theorem hget_zero (h : Heap K V) : hget h 0 = none := by simp [hget]

theorem hget_succ (h : Heap K V) (j : Nat) : hget h (j + 1) = h[j]? := rfl

theorem hset_succ (h : Heap K V) (j : Nat) (e : PElem K V) : hset h (j + 1) e = h.set j e := rfl

theorem hget_isSome {h : Heap K V} {i : Nat} {a : PElem K V} (hh : hget h i = some a) :
    1 ≤ i ∧ i ≤ h.length := by
  cases i with
  | zero => cases hh
  | succ j => exact ⟨Nat.succ_pos j, (List.getElem?_eq_some_iff.mp hh).1⟩

theorem hget_of_valid (h : Heap K V) {i : Nat} (h1 : 1 ≤ i) (h2 : i ≤ h.length) :
    ∃ a, hget h i = some a := by
  match i, h1 with
  | j + 1, _ => exact ⟨h[j], List.getElem?_eq_getElem h2⟩

theorem hget_none_of_gt (h : Heap K V) {i : Nat} (h2 : h.length < i) : hget h i = none := by
  cases i with
  | zero => rfl
  | succ j => exact List.getElem?_eq_none (Nat.le_of_lt_succ h2)

@[simp] theorem hset_length (h : Heap K V) (i : Nat) (e : PElem K V) :
    (hset h i e).length = h.length := by simp [hset]

theorem hget_hset_self {h : Heap K V} {i : Nat} {e : PElem K V} (hi1 : 1 ≤ i) (hi2 : i ≤ h.length) :
    hget (hset h i e) i = some e := by
  match i, hi1 with
  | j + 1, _ => exact List.getElem?_set_self hi2

theorem hget_hset_ne {h : Heap K V} {i k : Nat} {e : PElem K V} (hi1 : 1 ≤ i) (hk : k ≠ i) :
    hget (hset h i e) k = hget h k := by
  match i, hi1, k with
  | _ + 1, _, 0 => rfl
  | j + 1, _, k + 1 => exact List.getElem?_set_ne fun e => hk (congrArg (· + 1) e.symm)

theorem hset_hset (h : Heap K V) (i : Nat) (a b : PElem K V) :
    hset (hset h i a) i b = hset h i b := by simp [hset]

theorem hset_self {h : Heap K V} {i : Nat} {e : PElem K V} (hh : hget h i = some e) :
    hset h i e = h := by
  cases i with
  | zero => cases hh
  | succ j =>
    obtain ⟨hlt, he⟩ := List.getElem?_eq_some_iff.mp hh
    rw [hset_succ, ← he]
    exact List.set_getElem_self hlt

/-- moving the content `p` of slot `j` into slot `i` and `e` into slot `j` permutes the heap that has `e`
in slot `i` -/
theorem swap_perm {h : Heap K V} {i j : Nat} (e : PElem K V) {p : PElem K V} (hi1 : 1 ≤ i)
    (hi2 : i ≤ h.length) (hj : hget h j = some p) (hji : j ≠ i) :
    (hset (hset h i p) j e).Perm (hset h i e) := by
  match i, hi1, j, hj with
  | i + 1, _, j + 1, hj =>
    obtain ⟨hj', ej⟩ := List.getElem?_eq_some_iff.mp (hget_succ h j ▸ hj)
    have hij : i ≠ j := fun e => hji (congrArg (· + 1) e.symm)
    have := List.set_set_perm (as := h.set i e) (i := i) (j := j) (by rw [List.length_set]; exact hi2)
      (by rw [List.length_set]; exact hj')
    rw [List.getElem_set_self, List.getElem_set_ne hij, ej, List.set_set] at this
    exact this

theorem hget_append_left (h l : Heap K V) {k : Nat} (hk : k ≤ h.length) : hget (h ++ l) k = hget h k := by
  cases k with
  | zero => rfl
  | succ k => exact List.getElem?_append_left hk

/-! ### index arithmetic: parent `i / 2`, children `2 * i` and `2 * i + 1` -/

theorem half_lt {i : Nat} (h : 1 ≤ i) : i / 2 < i := Nat.div_lt_self h (by decide)

theorem two_le_iff_half_pos {i : Nat} : 2 ≤ i ↔ 1 ≤ i / 2 :=
  (Nat.le_div_iff_mul_le (k := 2) (x := 1) (by decide)).symm

theorem two_le_child {k i : Nat} (hk : k / 2 = i) (hi : 1 ≤ i) : 2 ≤ k := two_le_iff_half_pos.mpr (hk ▸ hi)

theorem child_gt {k i : Nat} (hk : k / 2 = i) (hi : 1 ≤ i) : i < k :=
  hk ▸ half_lt (Nat.le_trans (by decide) (two_le_child hk hi))

theorem child_cases {k i : Nat} (hk : k / 2 = i) : k = 2 * i ∨ k = 2 * i + 1 := by
  have h := Nat.div_add_mod k 2
  rw [hk] at h
  rcases Nat.mod_two_eq_zero_or_one k with h0 | h1
  · exact Or.inl (by rw [h0] at h; exact h.symm)
  · exact Or.inr (by rw [h1] at h; exact h.symm)

theorem child_half {j i : Nat} (h : j = 2 * i ∨ j = 2 * i + 1) : j / 2 = i := by
  rcases h with rfl | rfl
  · exact Nat.mul_div_cancel_left i (by decide)
  · rw [Nat.mul_add_div (by decide)]; rfl

/-- parent ≤ child everywhere -/
def HeapOrd (cmp : K → K → Ordering) (h : Heap K V) : Prop :=
  ∀ k a p, 2 ≤ k → hget h k = some a → hget h (k / 2) = some p → ele cmp p a

theorem heapOrd_nil : HeapOrd cmp ([] : Heap K V) := by
  intro k a p _ ha; simp [hget] at ha

theorem heapOrd_prefix {h l : Heap K V} (ho : HeapOrd cmp (h ++ l)) : HeapOrd cmp h := by
  intro k a p hk ha hp
  have vk := hget_isSome ha
  exact ho k a p hk (by rw [hget_append_left _ _ vk.2]; exact ha)
    (by rw [hget_append_left _ _ (hget_isSome hp).2]; exact hp)

theorem heapOrd_concat {h : Heap K V} {a : PElem K V} (ho : HeapOrd cmp h)
    (hp : ∀ p, hget h ((h.length + 1) / 2) = some p → ele cmp p a) : HeapOrd cmp (h ++ [a]) := by
  intro k x p hk hx hp'
  have vk := hget_isSome hx
  simp only [List.length_append, List.length_singleton] at vk
  rw [hget_append_left _ _ (Nat.le_of_lt_succ (Nat.lt_of_lt_of_le (half_lt vk.1) vk.2))] at hp'
  by_cases hkn : k = h.length + 1
  · subst hkn
    simp [hget] at hx
    subst hx
    exact hp p hp'
  · rw [hget_append_left _ _ (Nat.le_of_lt_succ (Nat.lt_of_le_of_ne vk.2 hkn))] at hx
    exact ho k x p hk hx hp'

/-- Both sift loops work with a hole at `i` whose content is never read.  With some `a` in the hole the heap is
ordered; any `e` that is ≥ the parent of `i` and ≤ the children of `i` may be put there instead. -/
theorem heapOrd_hset {h : Heap K V} {i : Nat} {a e : PElem K V} (ho : HeapOrd cmp (hset h i a))
    (hi1 : 1 ≤ i) (hi2 : i ≤ h.length)
    (hp : ∀ p, 2 ≤ i → hget h (i / 2) = some p → ele cmp p e)
    (hc : ∀ k c, k / 2 = i → hget h k = some c → ele cmp e c) : HeapOrd cmp (hset h i e) := by
  intro k x p hk hx hp'
  by_cases hki : k = i
  · subst hki
    rw [hget_hset_self hi1 hi2] at hx
    cases hx
    rw [hget_hset_ne hi1 (Nat.ne_of_lt (half_lt hi1))] at hp'
    exact hp p hk hp'
  · rw [hget_hset_ne hi1 hki] at hx
    by_cases hk2 : k / 2 = i
    · subst hk2
      rw [hget_hset_self hi1 hi2] at hp'
      cases hp'
      exact hc k x rfl hx
    · rw [hget_hset_ne hi1 hk2] at hp'
      exact ho k x p hk (by rwa [hget_hset_ne hi1 hki]) (by rwa [hget_hset_ne hi1 hk2])

/-- The loops move a HOLE, not `e`: the heap is ordered with SOME element `a` at position `i`, and `e` fits on the side
the loop has come from (here: `e` ≤ every child of `i`; in `down_ok`: the parent of `i` ≤ `e`).  Then the loop ends in
an ordered heap that is `h` with `e` put at `i`, up to order. -/
theorem up_ok (hl : LawfulCmp cmp) (e : PElem K V) :
    ∀ (fuel : Nat) (h : Heap K V) (i : Nat) (a : PElem K V), 1 ≤ i → i ≤ h.length →
      HeapOrd cmp (hset h i a) → (∀ k c, k / 2 = i → hget h k = some c → ele cmp e c) → i < fuel →
      HeapOrd cmp (upLoop cmp e fuel h i) ∧ (upLoop cmp e fuel h i).Perm (hset h i e) := by
  intro fuel
  induction fuel with
  | zero => intro h i _ _ _ _ _ hf; exact absurd hf (Nat.not_lt_zero _)
  | succ n ih =>
    intro h i a hi1 hi2 ho hc hf
    have stop : (∀ p, 2 ≤ i → hget h (i / 2) = some p → ele cmp p e) →
        HeapOrd cmp (hset h i e) ∧ (hset h i e).Perm (hset h i e) :=
      fun hp => ⟨heapOrd_hset ho hi1 hi2 hp hc, .refl _⟩
    unfold upLoop
    simp only []
    by_cases hj : i / 2 > 0
    · rw [if_pos hj]
      have hpi := half_lt hi1
      have hne : i / 2 ≠ i := Nat.ne_of_lt hpi
      obtain ⟨p, hp⟩ := hget_of_valid h (i := i / 2) hj (Nat.le_trans (Nat.le_of_lt hpi) hi2)
      rw [hp]
      simp only []
      by_cases hlt : less cmp e p = true
      · rw [if_pos hlt]
        -- `p ≤ a ≤` the children of `i`: the parent's content may stand in the hole, which moves up
        have hpa : ele cmp p a :=
          ho i a p (two_le_iff_half_pos.mpr hj) (hget_hset_self hi1 hi2) (by rw [hget_hset_ne hi1 hne]; exact hp)
        have ho' : HeapOrd cmp (hset h i p) :=
          heapOrd_hset ho hi1 hi2 (fun q _ hq => by rw [hp] at hq; cases hq; exact ele_refl hl _)
            (fun k c hk hkc => ele_trans hl hpa (ho k c a (two_le_child hk hi1)
              (by rw [hget_hset_ne hi1 (Nat.ne_of_gt (child_gt hk hi1))]; exact hkc)
              (by rw [hk]; exact hget_hset_self hi1 hi2)))
        have hp' : hget (hset h i p) (i / 2) = some p := by rw [hget_hset_ne hi1 hne]; exact hp
        have := ih (hset h i p) (i / 2) p hj (by rw [hset_length]; exact Nat.le_trans (Nat.le_of_lt hpi) hi2)
          (by rw [hset_self hp']; exact ho') ?_ (Nat.lt_of_lt_of_le hpi (Nat.le_of_lt_succ hf))
        · exact ⟨this.1, this.2.trans (swap_perm e hi1 hi2 hp hne)⟩
        · intro k c hk hkc
          by_cases hki : k = i
          · subst hki
            rw [hget_hset_self hi1 hi2] at hkc
            cases hkc
            exact ele_of_less hlt
          · exact ele_trans hl (ele_of_less hlt) (ho' k c p (two_le_child hk hj) hkc (by rw [hk]; exact hp'))
      · rw [if_neg hlt]
        exact stop fun q _ hq => by rw [hp] at hq; cases hq; exact ele_of_not_less hl hlt
    · rw [if_neg hj]
      exact stop fun _ h2 => absurd (two_le_iff_half_pos.mp h2) hj

theorem upHeap_append (hl : LawfulCmp cmp) (h : Heap K V) (x : PElem K V) (ho : HeapOrd cmp h) :
    HeapOrd cmp (upHeap cmp (h ++ [x]) (h ++ [x]).length) ∧
      (upHeap cmp (h ++ [x]) (h ++ [x]).length).Perm (h ++ [x]) := by
  have hx : hget (h ++ [x]) (h ++ [x]).length = some x := by
    simp [hget]
  unfold upHeap
  rw [hx]
  simp only []
  -- with the parent's content (if there is a parent) in the new slot the heap is ordered
  have ha : HeapOrd cmp (hset (h ++ [x]) (h ++ [x]).length ((hget h ((h.length + 1) / 2)).getD x)) := by
    have : ∀ a, hset (h ++ [x]) (h ++ [x]).length a = h ++ [a] := by simp [hset]
    rw [this]
    exact heapOrd_concat ho fun p hp => by rw [hp]; exact ele_refl hl p
  have := up_ok hl x _ _ _ _ (by simp) (Nat.le_refl _) ha
    (fun k c hk hkc => absurd (hget_isSome hkc).2 (Nat.not_le_of_gt (child_gt hk (by simp)))) (Nat.lt_succ_self _)
  rwa [hset_self hx] at this

theorem pickChild_cases (cmp : K → K → Ordering) (h : Heap K V) (i : Nat) :
    pickChild cmp h i = 2 * i ∨ pickChild cmp h i = 2 * i + 1 := by
  unfold pickChild
  simp only []
  split
  · split
    · exact Or.inr rfl
    · exact Or.inl rfl
  · exact Or.inl rfl

theorem pickChild_min (hl : LawfulCmp cmp) {h : Heap K V} {i k : Nat} {a : PElem K V} (hi : 1 ≤ i)
    (hk : k / 2 = i) (ha : hget h k = some a) :
    ∃ ej, hget h (pickChild cmp h i) = some ej ∧ ele cmp ej a := by
  have hk' := child_cases hk
  unfold pickChild
  simp only []
  cases h1 : hget h (2 * i + 1) with
  | none =>
    rcases hk' with rfl | rfl
    · exact ⟨a, ha, ele_refl hl _⟩
    · rw [h1] at ha; cases ha
  | some ek =>
    have v1 := hget_isSome h1
    obtain ⟨e2, h2⟩ := hget_of_valid h (i := 2 * i) (Nat.mul_pos (by decide) hi) (Nat.le_of_succ_le v1.2)
    simp only [h2]
    by_cases hlt : less cmp ek e2 = true
    · rw [if_pos ⟨v1.2, hlt⟩]
      refine ⟨ek, h1, ?_⟩
      rcases hk' with rfl | rfl
      · rw [h2] at ha; cases ha; exact ele_of_less hlt
      · rw [h1] at ha; cases ha; exact ele_refl hl _
    · rw [if_neg (fun hc => hlt hc.2)]
      refine ⟨e2, h2, ?_⟩
      rcases hk' with rfl | rfl
      · rw [h2] at ha; cases ha; exact ele_refl hl _
      · rw [h1] at ha; cases ha; exact ele_of_not_less hl hlt

/-- the sift-down loop only moves elements, whatever their order -/
theorem down_perm (e : PElem K V) : ∀ (fuel : Nat) (h : Heap K V) (i j : Nat), 1 ≤ i → i ≤ h.length → i < j →
    (downLoop cmp e fuel h i j).Perm (hset h i e) := by
  intro fuel
  induction fuel with
  | zero => intro h i j _ _ _; exact .refl _
  | succ n ih =>
    intro h i j hi1 hi2 hij
    unfold downLoop
    cases hj : hget h j with
    | none => exact .refl _
    | some ej =>
      simp only []
      split
      · have vj := hget_isSome hj
        exact (ih (hset h i ej) j _ vj.1 (by rw [hset_length]; exact vj.2)
          (child_gt (child_half (pickChild_cases cmp _ j)) vj.1)).trans (swap_perm e hi1 hi2 hj (Nat.ne_of_gt hij))
      · exact .refl _

theorem down_ok (hl : LawfulCmp cmp) (e : PElem K V) :
    ∀ (fuel : Nat) (h : Heap K V) (i : Nat) (a : PElem K V), 1 ≤ i → i ≤ h.length →
      HeapOrd cmp (hset h i a) → (∀ p, 2 ≤ i → hget h (i / 2) = some p → ele cmp p e) →
      h.length < fuel + i → HeapOrd cmp (downLoop cmp e fuel h i (pickChild cmp h i)) := by
  intro fuel
  induction fuel with
  | zero => intro h i _ _ hi2 _ _ hf; exact absurd (Nat.zero_add i ▸ hf) (Nat.not_lt_of_le hi2)
  | succ n ih =>
    intro h i a hi1 hi2 ho hp hf
    have hcases := pickChild_cases cmp h i
    have hmin := fun k c => pickChild_min (cmp := cmp) hl (h := h) (k := k) (a := c) hi1
    generalize pickChild cmp h i = j at hcases hmin
    unfold downLoop
    cases hj : hget h j with
    | none =>
      simp only []
      refine heapOrd_hset ho hi1 hi2 hp ?_
      intro k c hk hkc
      obtain ⟨ej, h1, _⟩ := hmin k c hk hkc
      rw [hj] at h1; cases h1
    | some ej =>
      simp only []
      have vj := hget_isSome hj
      have hch : ∀ k c, k / 2 = i → hget h k = some c → ele cmp ej c := by
        intro k c hk hkc
        obtain ⟨ej', h1, h2⟩ := hmin k c hk hkc
        rw [hj] at h1; cases h1; exact h2
      by_cases hlt : less cmp ej e = true
      · rw [if_pos ⟨vj.2, hlt⟩]
        -- parent of `i` ≤ `a ≤ ej`: the child's content may stand in the hole, which moves down
        have hji := child_half hcases
        have hij := child_gt hji hi1
        have hj' : hget (hset h i ej) j = some ej := by rw [hget_hset_ne hi1 (Nat.ne_of_gt hij)]; exact hj
        have haj : ele cmp a ej := ho j ej a (two_le_child hji hi1)
          (by rw [hget_hset_ne hi1 (Nat.ne_of_gt hij)]; exact hj) (by rw [hji]; exact hget_hset_self hi1 hi2)
        have ho' : HeapOrd cmp (hset h i ej) :=
          heapOrd_hset ho hi1 hi2 (fun p h2 hpp => ele_trans hl (ho i a p h2 (hget_hset_self hi1 hi2)
            (by rw [hget_hset_ne hi1 (Nat.ne_of_lt (half_lt hi1))]; exact hpp)) haj) hch
        have hf' : h.length < n + j :=
          Nat.lt_of_lt_of_le hf (by rw [Nat.add_assoc, Nat.add_comm 1 i]; exact Nat.add_le_add_left hij n)
        exact ih (hset h i ej) j ej vj.1 (by simpa using vj.2) (by rw [hset_self hj']; exact ho')
          (fun p _ hpp => by
            rw [hji, hget_hset_self hi1 hi2] at hpp; cases hpp; exact ele_of_less hlt)
          (by rw [hset_length]; exact hf')
      · rw [if_neg (fun hc => hlt hc.2)]
        exact heapOrd_hset ho hi1 hi2 hp fun k c hk hkc =>
          ele_trans hl (ele_of_not_less hl hlt) (hch k c hk hkc)

theorem downHeap_perm (cmp : K → K → Ordering) (h : Heap K V) : (downHeap cmp h).Perm h := by
  unfold downHeap
  cases h1 : hget h 1 with
  | none => exact .refl _
  | some e =>
    have v := hget_isSome h1
    have := down_perm (cmp := cmp) e (h.length + 1) h 1 _ v.1 v.2
      (child_gt (child_half (pickChild_cases cmp h 1)) v.1)
    rwa [hset_self h1] at this

/-- `downHeap` repairs a heap whose root was replaced -/
theorem downHeap_ok (hl : LawfulCmp cmp) {h : Heap K V} {a : PElem K V} (ho : HeapOrd cmp (hset h 1 a)) :
    HeapOrd cmp (downHeap cmp h) := by
  unfold downHeap
  cases h1 : hget h 1 with
  | none =>
    cases h with
    | nil => exact heapOrd_nil
    | cons t tl => simp [hget] at h1
  | some e =>
    have v := hget_isSome h1
    exact down_ok hl e (h.length + 1) h 1 a v.1 v.2 ho (fun _ h2 => absurd h2 (by decide))
      (Nat.lt_succ_of_lt (Nat.lt_succ_self _))

/-- removing the root: the last element takes its slot and the last slot is chopped; what is left to sift down is the
tail up to order, and ordered with the old root in slot 1 -/
theorem root_dropLast {top last : PElem K V} {tl : Heap K V} (hlast : (top :: tl).getLast? = some last) :
    ((hset (top :: tl) 1 last).dropLast).Perm tl ∧
      (HeapOrd cmp (top :: tl) → HeapOrd cmp (hset (hset (top :: tl) 1 last).dropLast 1 top)) := by
  cases tl with
  | nil => exact ⟨.refl _, fun _ => heapOrd_nil⟩
  | cons y ys =>
    obtain rfl : (y :: ys).getLast (List.cons_ne_nil y ys) = last := Option.some.inj hlast
    have hd := List.dropLast_concat_getLast (List.cons_ne_nil y ys)
    exact ⟨(List.perm_append_singleton _ _).symm.trans (.of_eq hd), fun ho =>
      heapOrd_prefix (h := top :: (y :: ys).dropLast) (l := [_]) (by rw [List.cons_append, hd]; exact ho)⟩

theorem root_min (hl : LawfulCmp cmp) {h : Heap K V} (ho : HeapOrd cmp h)
    {r : PElem K V} (hr : hget h 1 = some r) : ∀ (k : Nat) (a : PElem K V), hget h k = some a → ele cmp r a := by
  intro k
  induction k using Nat.strongRecOn with
  | ind k ih =>
    intro a ha
    have vk := hget_isSome ha
    by_cases hk1 : k = 1
    · subst hk1; rw [hr] at ha; cases ha; exact ele_refl hl _
    · have h2 : 2 ≤ k := Nat.lt_of_le_of_ne vk.1 (Ne.symm hk1)
      have hlt := half_lt vk.1
      obtain ⟨p, hp⟩ := hget_of_valid h (i := k / 2) (two_le_iff_half_pos.mp h2)
        (Nat.le_trans (Nat.le_of_lt hlt) vk.2)
      exact ele_trans hl (ih (k / 2) hlt p hp) (ho k a p h2 ha hp)

theorem root_min_mem (hl : LawfulCmp cmp) {top : PElem K V} {tl : Heap K V}
    (ho : HeapOrd cmp (top :: tl)) : ∀ a ∈ top :: tl, ele cmp top a := by
  intro a ha
  obtain ⟨n, hn, rfl⟩ := List.mem_iff_getElem.mp ha
  apply root_min hl ho (r := top) (by simp [hget]) (n + 1)
  simp [hget]

end SST.Proofs.PQB
