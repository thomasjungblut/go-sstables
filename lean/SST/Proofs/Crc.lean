/-
Single-byte error detection of CRC-32C and CRC-64/ISO (table algorithm of SST/Model/Bytes.lean): one step is
injective in the byte and in the state, because the top byte of a table entry determines its index.  Only that is
computed: index ↦ top byte is GF(2)-linear, and a sweep over the 256 indices checks that the map with eight given
columns (`xorCols`) inverts it, on a copy of the table construction over `Nat` (`tabN`).  The argument is made once,
for the table step over `Nat` (`stepN`) with polynomial and width as variables; a width adds that its step is
`stepN` on `toNat`, and its sweep.
-/
import SST.Model.Bytes
namespace SST.Proofs
open SST

theorem foldl_state_inj {σ : Type} (step : σ → UInt8 → σ)
    (hc : ∀ c c' b, step c b = step c' b → c = c') (t : Bytes) :
    ∀ s s', t.foldl step s = t.foldl step s' → s = s' := by
  induction t with
  | nil => intro s s' h; exact h
  | cons b t ih => intro s s' h; exact hc _ _ b (ih _ _ h)

theorem foldl_single_byte {σ : Type} (step : σ → UInt8 → σ)
    (hb : ∀ c b b', step c b = step c b' → b = b')
    (hc : ∀ c c' b, step c b = step c' b → c = c') (a : Bytes) :
    ∀ (i : Nat) (hi : i < a.length) (x : UInt8), x ≠ a[i] → ∀ s,
      (a.set i x).foldl step s ≠ a.foldl step s := by
  induction a with
  | nil => intro i hi; simp at hi
  | cons b t ih =>
    intro i hi x hx s
    cases i with
    | zero =>
      intro h
      exact hx (hb _ _ _ (foldl_state_inj step hc t _ _ h))
    | succ j => exact ih j (by simpa using hi) x hx (step s b)

/-- the GF(2)-linear map on bytes with columns `cols`, applied to `y`; like `shiftN` below on `Nat` and without `if`,
so that the kernel evaluates it with its big-number primitives -/
def xorCols : List Nat → Nat → Nat
  | [], _ => 0
  | c :: cs, y => y % 2 * c ^^^ xorCols cs (y / 2)

/-- one step of the bitwise table construction (`crc32Shift`, `crc64Shift`) -/
def shiftN (poly c : Nat) : Nat := c / 2 ^^^ c % 2 * poly

theorem shiftN_if (poly c : Nat) : shiftN poly c = if c % 2 = 1 then c / 2 ^^^ poly else c / 2 := by
  rcases Nat.mod_two_eq_zero_or_one c with h | h <;> simp [shiftN, h]

def tabN (poly i : Nat) : Nat :=
  shiftN poly (shiftN poly (shiftN poly (shiftN poly (shiftN poly (shiftN poly (shiftN poly (shiftN poly i)))))))

/-- the table step (`crc32Step`, `crc64Step`) on `Nat` -/
def stepN (poly c b : Nat) : Nat := tabN poly ((c ^^^ b) % 256) ^^^ c / 256

theorem xor_cancel {a b c : Nat} (h : a ^^^ b = a ^^^ c) : b = c := by
  have := congrArg (a ^^^ ·) h
  simpa [← Nat.xor_assoc] using this

/-- a table whose top byte (bits `k … k+7`) determines the index: what the sweep over the 256 indices checks -/
abbrev TopInj (poly k : Nat) (cols : List Nat) : Prop :=
  ∀ i : Fin 256, xorCols cols (tabN poly i.val / 2 ^ k % 256) = i.val

section
variable {poly k : Nat} {cols : List Nat} (hinv : TopInj poly k cols)
include hinv

/-- the top byte of a step's result gives the table index back (states are below `2 ^ (k + 8)`) -/
theorem stepN_index {c c' b b' : Nat} (hc : c < 2 ^ (k + 8)) (hc' : c' < 2 ^ (k + 8))
    (h : stepN poly c b = stepN poly c' b') : (c ^^^ b) % 256 = (c' ^^^ b') % 256 := by
  have h1 := congrArg (· / 2 ^ k % 256) h
  have z : ∀ x, x < 2 ^ (k + 8) → x / 256 / 2 ^ k = 0 := fun x hx => by
    rw [Nat.div_div_eq_div_mul, Nat.mul_comm, show 2 ^ k * 256 = 2 ^ (k + 8) from (Nat.pow_add 2 k 8).symm]
    exact Nat.div_eq_of_lt hx
  simp only [stepN, Nat.xor_div_two_pow, z c hc, z c' hc', Nat.xor_zero] at h1
  have hi := hinv ⟨(c ^^^ b) % 256, Nat.mod_lt _ (by decide)⟩
  have hj := hinv ⟨(c' ^^^ b') % 256, Nat.mod_lt _ (by decide)⟩
  simp only at hi hj
  rw [← hi, ← hj, h1]

theorem stepN_inj_byte {c b b' : Nat} (hc : c < 2 ^ (k + 8)) (hb : b < 256) (hb' : b' < 256)
    (h : stepN poly c b = stepN poly c b') : b = b' := by
  have h2 := stepN_index hinv hc hc h
  rw [show 256 = 2 ^ 8 from rfl, Nat.xor_mod_two_pow, Nat.xor_mod_two_pow] at h2
  have := xor_cancel h2
  rwa [Nat.mod_eq_of_lt hb, Nat.mod_eq_of_lt hb'] at this

theorem stepN_inj_state {c c' b : Nat} (hc : c < 2 ^ (k + 8)) (hc' : c' < 2 ^ (k + 8))
    (h : stepN poly c b = stepN poly c' b) : c = c' := by
  have h2 := stepN_index hinv hc hc' h
  unfold stepN at h
  rw [h2] at h
  have hhi : c / 256 = c' / 256 := xor_cancel h
  rw [show 256 = 2 ^ 8 from rfl, Nat.xor_mod_two_pow, Nat.xor_mod_two_pow, Nat.xor_comm, Nat.xor_comm (c' % _)] at h2
  rw [← Nat.div_add_mod c 256, ← Nat.div_add_mod c' 256, hhi]
  exact congrArg _ (xor_cancel h2)

theorem stepN_single_byte {σ : Type} (step : σ → UInt8 → σ) (toN : σ → Nat) (hinj : ∀ s s', toN s = toN s' → s = s')
    (hlt : ∀ s, toN s < 2 ^ (k + 8)) (hstep : ∀ s b, toN (step s b) = stepN poly (toN s) b.toNat)
    (a : Bytes) (i : Nat) (hi : i < a.length) (x : UInt8) (hx : x ≠ a[i]) (s : σ) :
    (a.set i x).foldl step s ≠ a.foldl step s :=
  foldl_single_byte step
    (fun c b b' h => UInt8.toNat_inj.mp (stepN_inj_byte hinv (hlt c) b.toNat_lt b'.toNat_lt
      (by rw [← hstep, ← hstep, h])))
    (fun c c' b h => hinj _ _ (stepN_inj_state hinv (hlt c) (hlt c') (by rw [← hstep, ← hstep, h])))
    a i hi x hx s
end

theorem crc32Shift_toNat (c : UInt32) : (crc32Shift c).toNat = shiftN 0x82F63B78 c.toNat := by
  have low : (c &&& 1 = 1) = (c.toNat % 2 = 1) := by
    rw [← UInt32.toNat_inj, UInt32.toNat_and]
    simp [Nat.and_one_is_mod]
  simp only [shiftN_if, crc32Shift, beq_iff_eq, low, apply_ite UInt32.toNat, UInt32.toNat_xor, UInt32.toNat_shiftRight]
  rfl

theorem crc32Step_toNat (c : UInt32) (b : UInt8) : (crc32Step c b).toNat = stepN 0x82F63B78 c.toNat b.toNat := by
  simp only [crc32Step, crc32Tab, stepN, tabN, crc32Shift_toNat, UInt32.toNat_xor, UInt32.toNat_shiftRight,
    UInt8.toNat_toUInt32, UInt32.toNat_toUInt8, Nat.shiftRight_eq_div_pow]
  rfl

/-- CRC-32C detects every single-byte change: two byte strings of equal length that differ in exactly one
position have different checksums. -/
theorem crc32c_single_byte (a : Bytes) (i : Nat) (hi : i < a.length) (x : UInt8) (hx : x ≠ a[i]) :
    crc32c (a.set i x) ≠ crc32c a := fun h =>
  -- column `j` is the index whose table entry has top byte `2 ^ j`
  stepN_single_byte (poly := 0x82F63B78) (k := 24) (cols := [241, 226, 196, 136, 16, 32, 177, 98]) (by decide +kernel)
    crc32Step UInt32.toNat (fun _ _ => UInt32.toNat_inj.mp) UInt32.toNat_lt crc32Step_toNat a i hi x hx _
    ((UInt32.xor_left_inj _).mp h)

theorem crc64Shift_toNat (c : UInt64) : (crc64Shift c).toNat = shiftN 0xD800000000000000 c.toNat := by
  have low : (c &&& 1 = 1) = (c.toNat % 2 = 1) := by
    rw [← UInt64.toNat_inj, UInt64.toNat_and]
    simp [Nat.and_one_is_mod]
  simp only [shiftN_if, crc64Shift, beq_iff_eq, low, apply_ite UInt64.toNat, UInt64.toNat_xor, UInt64.toNat_shiftRight]
  rfl

theorem crc64Step_toNat (c : UInt64) (b : UInt8) :
    (crc64Step c b).toNat = stepN 0xD800000000000000 c.toNat b.toNat := by
  simp only [crc64Step, crc64Tab, stepN, tabN, crc64Shift_toNat, UInt64.toNat_xor, UInt64.toNat_shiftRight,
    UInt8.toNat_toUInt64, UInt64.toNat_toUInt8, Nat.shiftRight_eq_div_pow]
  rfl

/-- CRC-64/ISO detects every single-byte change -/
theorem crc64_single_byte (a : Bytes) (i : Nat) (hi : i < a.length) (x : UInt8) (hx : x ≠ a[i]) :
    crc64iso (a.set i x) ≠ crc64iso a := fun h =>
  stepN_single_byte (poly := 0xD800000000000000) (k := 56) (cols := [1, 3, 7, 14, 28, 56, 113, 227]) (by decide +kernel)
    crc64Step UInt64.toNat (fun _ _ => UInt64.toNat_inj.mp) UInt64.toNat_lt crc64Step_toNat a i hi x hx _
    ((UInt64.xor_left_inj _).mp h)

end SST.Proofs
