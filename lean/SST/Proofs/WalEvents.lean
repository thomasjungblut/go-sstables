/-
The event sequences an appender may issue towards the final contents of its log (`Adm`): every prefix of one leaves
a crash image (`Img`), and the records an image holds (`imgRecords`: of the last file the records wholly inside it,
`wholeIn`, which grows with the bytes) only grow along it.  The facts about the bytes of one log file
(`fileBytes`) stand here too.
-/
import SST.Spec.Wal
import SST.Proofs.RecordIODamage
namespace SST.Proofs
open SST Generated

/-- An event the appender may issue in directory `d` of a log whose files will finally hold `F 0 .. F (m-1)`:
create the next file only when the current one is complete, write to the current file only bytes that extend
it towards its final content. -/
def AdmEv (F : Nat → Bytes) (m : Nat) (d : DirN) : FsEvent → Prop
  | .create f => d = completeDir F f ∧ f < m
  | .write f bs => ∃ b, f < m ∧ d = completeDir F f ++ [(f, b)] ∧ b ++ bs <+: F f
  | .fsync _ => True
  | .close _ => True

def Adm (F : Nat → Bytes) (m : Nat) : DirN → List FsEvent → Prop
  | _, [] => True
  | d, e :: es => AdmEv F m d e ∧ Adm F m (applyEvent d e) es

theorem adm_nil (F : Nat → Bytes) (m : Nat) (d : DirN) : Adm F m d [] := trivial

theorem adm_cons (F : Nat → Bytes) (m : Nat) (d : DirN) (e : FsEvent) (es : List FsEvent) :
    Adm F m d (e :: es) ↔ AdmEv F m d e ∧ Adm F m (applyEvent d e) es := Iff.rfl

/- `Adm` is used through these two only.  Left reducible, it makes the elaborator evaluate the event list of a
whole run (down into the buffered writer's loop) wherever a term has a type `Adm .. (walEvents ..)`. -/
attribute [irreducible] Adm

theorem completeDir_succ (F : Nat → Bytes) (j : Nat) :
    completeDir F (j + 1) = completeDir F j ++ [(j, F j)] := by
  simp [completeDir, List.range_succ]

theorem completeDir_congr (F F' : Nat → Bytes) (j : Nat) (h : ∀ i, i < j → F' i = F i) :
    completeDir F' j = completeDir F j := by
  unfold completeDir
  apply List.map_congr_left
  intro i hi
  rw [h i (List.mem_range.mp hi)]

theorem lt_of_mem_completeDir {F : Nat → Bytes} {f : Nat} {x : Nat × Bytes} (h : x ∈ completeDir F f) : x.1 < f := by
  simp only [completeDir, List.mem_map, List.mem_range] at h
  obtain ⟨i, hi, rfl⟩ := h
  exact hi

theorem apply_create (F : Nat → Bytes) (f : Nat) :
    applyEvent (completeDir F f) (.create f) = completeDir F f ++ [(f, [])] := by
  have : (completeDir F f).any (fun e => e.1 == f) = false := by
    rw [List.any_eq_false]
    intro x hx
    simpa using Nat.ne_of_lt (lt_of_mem_completeDir hx)
  simp only [applyEvent, this]
  rfl

theorem apply_write (F : Nat → Bytes) (f : Nat) (b bs : Bytes) :
    applyEvent (completeDir F f ++ [(f, b)]) (.write f bs) = completeDir F f ++ [(f, b ++ bs)] := by
  simp only [applyEvent, List.map_append, List.map_cons, List.map_nil, beq_self_eq_true, if_true]
  congr 1
  unfold completeDir
  rw [List.map_map]
  apply List.map_congr_left
  intro i hi
  have : i < f := List.mem_range.mp hi
  have hne : ¬ i = f := by omega
  simp [hne]

theorem img_step (F : Nat → Bytes) (m : Nat) (d : DirN) (e : FsEvent)
    (hd : Img F m d) (ha : AdmEv F m d e) : Img F m (applyEvent d e) := by
  cases e with
  | create f =>
    obtain ⟨rfl, hf⟩ := ha
    exact Or.inr ⟨f, [], hf, List.nil_prefix, apply_create F f⟩
  | write f bs =>
    obtain ⟨b, hf, rfl, hp⟩ := ha
    right
    exact ⟨f, b ++ bs, hf, hp, apply_write F f b bs⟩
  | fsync f => exact hd
  | close f => exact hd

theorem adm_append (F : Nat → Bytes) (m : Nat) (d : DirN) (xs ys : List FsEvent) :
    Adm F m d (xs ++ ys) ↔ Adm F m d xs ∧ Adm F m (xs.foldl applyEvent d) ys := by
  induction xs generalizing d with
  | nil => simp [adm_nil]
  | cons x xs ih => simp only [List.cons_append, adm_cons, List.foldl_cons, ih, and_assoc]

theorem adm_take (F : Nat → Bytes) (m : Nat) (d : DirN) (evs : List FsEvent) (n : Nat)
    (h : Adm F m d evs) : Adm F m d (evs.take n) := by
  rw [← List.take_append_drop n evs] at h
  exact ((adm_append F m d _ _).mp h).1

theorem img_foldl (F : Nat → Bytes) (m : Nat) (d : DirN) (evs : List FsEvent)
    (hd : Img F m d) (ha : Adm F m d evs) : Img F m (evs.foldl applyEvent d) := by
  induction evs generalizing d with
  | nil => exact hd
  | cons e es ih =>
    rw [adm_cons] at ha
    exact ih _ (img_step F m d e hd ha.1) ha.2

theorem img_take (F : Nat → Bytes) (m : Nat) (evs : List FsEvent) (n : Nat) (ha : Adm F m [] evs) :
    Img F m (dirAfterN (evs.take n)) :=
  img_foldl F m [] _ (Or.inl rfl) (adm_take F m [] evs n ha)

theorem img_complete (F : Nat → Bytes) (m : Nat) : Img F m (completeDir F m) := by
  cases m with
  | zero => exact Or.inl rfl
  | succ j => exact Or.inr ⟨j, F j, Nat.lt_succ_self j, List.prefix_refl _, completeDir_succ F j⟩

theorem adm_writes (F : Nat → Bytes) (m f : Nat) (hf : f < m) (b : Bytes) (chs : List Bytes)
    (hp : b ++ chs.flatten <+: F f) : Adm F m (completeDir F f ++ [(f, b)]) (chs.map (.write f)) := by
  induction chs generalizing b with
  | nil => exact adm_nil _ _ _
  | cons ch chs ih =>
    rw [List.flatten_cons, ← List.append_assoc] at hp
    rw [List.map_cons, adm_cons, apply_write]
    exact ⟨⟨b, hf, rfl, (List.prefix_append _ _).trans hp⟩, ih _ hp⟩

theorem foldl_writes (F : Nat → Bytes) (f : Nat) (b : Bytes) (chs : List Bytes) :
    (chs.map (FsEvent.write f)).foldl applyEvent (completeDir F f ++ [(f, b)]) =
      completeDir F f ++ [(f, b ++ chs.flatten)] := by
  induction chs generalizing b with
  | nil => rw [List.flatten_nil, List.append_nil]; rfl
  | cons ch chs ih => rw [List.map_cons, List.foldl_cons, apply_write, ih, List.flatten_cons, List.append_assoc]

theorem dirAfterN_append (xs ys : List FsEvent) :
    dirAfterN (xs ++ ys) = ys.foldl applyEvent (dirAfterN xs) := by
  simp [dirAfterN, List.foldl_append]

theorem fileBytes_length (c : Compression) (ct : Nat) (rs : List GoBytes) :
    (fileBytes c ct rs).length = fileHeaderSize + (encAll c rs).length := by
  unfold fileBytes
  rw [List.length_append, fileHeader_length]
  rfl

theorem fileBytes_snoc (c : Compression) (ct : Nat) (rs : List GoBytes) (r : GoBytes) :
    fileBytes c ct (rs ++ [r]) = fileBytes c ct rs ++ encRecord c r := by
  simp [fileBytes, encAll]

theorem fileBytes_nil (c : Compression) (ct : Nat) : fileBytes c ct [] = fileHeader currentVersion ct := by
  simp [fileBytes]

theorem wholeIn_all (c : Compression) (ct : Nat) (rs : List GoBytes) (n : Nat)
    (h : (fileBytes c ct rs).length ≤ n) : wholeIn c rs n = rs.length := by
  rw [fileBytes_length, Nat.add_comm] at h
  exact wholeInAux_all c rs _ (Nat.le_sub_of_add_le h)

theorem imgRecords_nil (c : Compression) (full : List (List GoBytes)) : imgRecords c full [] = [] := rfl

theorem imgRecords_snoc (c : Compression) (full : List (List GoBytes)) (pre : DirN) (j : Nat) (b : Bytes) :
    imgRecords c full (pre ++ [(j, b)]) =
      (full.take j).flatten ++ (full.getD j []).take (wholeIn c (full.getD j []) b.length) := by
  simp [imgRecords]

theorem imgRecords_complete (c : Compression) (ct : Nat) (full : List (List GoBytes)) (j : Nat)
    (hj : j ≤ full.length) : imgRecords c full (completeDir (fileOf c ct full) j) = (full.take j).flatten := by
  cases j with
  | zero => rfl
  | succ j =>
    rw [completeDir_succ, imgRecords_snoc, take_succ_flatten full j hj]
    show _ ++ List.take (wholeIn c _ (fileBytes c ct _).length) _ = _
    rw [wholeIn_all c ct _ _ (Nat.le_refl _), List.take_length]

theorem imgRecords_prefix (c : Compression) (ct : Nat) (full : List (List GoBytes)) (d : DirN)
    (hd : Img (fileOf c ct full) full.length d) : imgRecords c full d <+: full.flatten := by
  rcases hd with rfl | ⟨j, b, hj, _, rfl⟩
  · exact List.nil_prefix
  · rw [imgRecords_snoc]
    have h1 : (full.take (j + 1)).flatten <+: full.flatten := by
      conv => rhs; rw [← List.take_append_drop (j + 1) full]
      rw [List.flatten_append]; exact List.prefix_append _ _
    refine List.IsPrefix.trans ?_ h1
    rw [take_succ_flatten full j hj]
    exact (List.prefix_append_right_inj _).mpr (List.take_prefix _ _)

theorem imgRecords_mono (c : Compression) (ct : Nat) (full : List (List GoBytes)) (d : DirN) (e : FsEvent)
    (ha : AdmEv (fileOf c ct full) full.length d e) :
    (imgRecords c full d).length ≤ (imgRecords c full (applyEvent d e)).length := by
  cases e with
  | create f =>
    obtain ⟨rfl, hf⟩ := ha
    rw [apply_create, imgRecords_complete c ct full f (by omega), imgRecords_snoc, List.length_append]
    exact Nat.le_add_right _ _
  | write f bs =>
    obtain ⟨b, hf, rfl, hp⟩ := ha
    rw [apply_write, imgRecords_snoc, imgRecords_snoc, List.length_append, List.length_append]
    have := wholeIn_mono c (full.getD f []) b.length (b ++ bs).length
      (by rw [List.length_append]; exact Nat.le_add_right _ _)
    exact Nat.add_le_add_left (List.take_prefix_take_left this).length_le _
  | fsync f => exact Nat.le_refl _
  | close f => exact Nat.le_refl _

theorem imgRecords_mono_foldl (c : Compression) (ct : Nat) (full : List (List GoBytes)) (d : DirN)
    (evs : List FsEvent) (ha : Adm (fileOf c ct full) full.length d evs) :
    (imgRecords c full d).length ≤ (imgRecords c full (evs.foldl applyEvent d)).length := by
  induction evs generalizing d with
  | nil => exact Nat.le_refl _
  | cons e es ih =>
    rw [adm_cons] at ha
    exact Nat.le_trans (imgRecords_mono c ct full d e ha.1) (ih _ ha.2)

theorem imgRecords_mono_take (c : Compression) (ct : Nat) (full : List (List GoBytes))
    (evs : List FsEvent) (ha : Adm (fileOf c ct full) full.length [] evs) (n1 n2 : Nat) (h : n1 ≤ n2) :
    (imgRecords c full (dirAfterN (evs.take n1))).length ≤
      (imgRecords c full (dirAfterN (evs.take n2))).length := by
  obtain ⟨k, rfl⟩ := Nat.exists_eq_add_of_le h
  have h2 := adm_take _ _ [] evs (n1 + k) ha
  rw [List.take_add, adm_append] at h2
  rw [List.take_add, dirAfterN_append]
  exact imgRecords_mono_foldl c ct full _ _ h2.2

end SST.Proofs
