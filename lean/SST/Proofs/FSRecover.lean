/-
L6-fs: recovery as a whole — it never fails on a well-formed disk, it serves `logical`, its event sequence
produces the disk the big-step function computes, and interrupted anywhere it leaves a well-formed disk with the
same `logical` content (the core of C10, also used by C02 for the `reopen` step); so does any number of killed `Open`s
(`killedOpens_ok`).  `Clean` is what the clean-up half (FSClean.lean) leaves for `phase3`.
-/
import SST.Proofs.FSClean
import SST.Proofs.DBInv
import SST.Model.FSSessions
namespace SST.Proofs.FS
open SST SST.DBM SST.FS SST.Proofs.DB

/-- what a key reads as with memstore content `mem` over the tables `tbls` -/
def rd (mem : Layer) (tbls : List Tbl) (k : Key) : Option Bytes :=
  match mem.get k with
  | some (some v) => some v
  | some none => none
  | none => vis (tablesGet tbls k)

theorem logical_eq (d : Disk) (k : Key) : logical d k = rd (applyMuts [] (walMuts d.wal)) (effTables d) k := rfl

theorem effTables_nocomp (d : Disk) (h : d.comps = []) : effTables d = tblsOf d.tables := by
  simp [effTables, phase1, h]

theorem logical_of_norm {d d' : Disk} (h : norm d' = norm d) : logical d' = logical d := by
  funext k
  have hw0 : (norm d').wal = (norm d).wal := congrArg Disk.wal h
  have hw : d'.wal = d.wal := hw0
  rw [logical_eq, logical_eq, effTables_eq, effTables_eq, h, hw]

theorem rd_nil (tbls : List Tbl) (k : Key) : rd [] tbls k = vis (tablesGet tbls k) := rfl

/-- a newest table that binds only keys the memstore binds is never consulted -/
theorem rd_snoc (mem : Layer) (tbls : List Tbl) (t : Tbl) (k : Key)
    (h : Layer.get t.cells k ≠ none → Layer.get mem k ≠ none) : rd mem (tbls ++ [t]) k = rd mem tbls k := by
  unfold rd
  rw [tablesGet_append, tablesGet_single]
  cases hm : Layer.get mem k with
  | some x => cases x <;> rfl
  | none =>
    cases hj : Layer.get t.cells k with
    | none => rfl
    | some y => exact absurd hm (h (by rw [hj]; simp))

/-- a table that holds the replay of `pre ++ suf`, with `suf` replayed again on top, reads like the replay of
`pre ++ suf` without that table: replaying a suffix of the log a second time changes nothing -/
theorem rd_flushed (tbls : List Tbl) (g : Nat) (pre suf : List Mutation) (hok : ∀ m ∈ pre, m.ok = true) (k : Key) :
    rd (applyMuts [] suf) (tbls ++ [{ gen := g, cells := applyMuts [] (pre ++ suf) }]) k =
      rd (applyMuts [] (pre ++ suf)) tbls k := by
  unfold rd
  rw [tablesGet_append, tablesGet_single, get_applyMuts_append]
  cases hs : Layer.get (applyMuts [] suf) k with
  | some x => cases x <;> rfl
  | none =>
    simp only [Option.none_or]
    cases hp : Layer.get (applyMuts [] pre) k with
    | none => simp
    | some x =>
      cases x with
      | none => simp [vis]
      | some v =>
        simp only [Option.some_or]
        exact vis_nonempty v (applyMuts_val_ok pre hok k v hp)

/-- reading through validated records: a stored value is never empty, so `rd` is `vis` of the stack -/
theorem rd_eq_vis (mem : Layer) (tbls : List Tbl) (hok : ∀ k v, Layer.get mem k = some (some v) → v ≠ []) (k : Key) :
    rd mem tbls k = vis ((Layer.get mem k).or (tablesGet tbls k)) := by
  unfold rd
  cases hm : Layer.get mem k with
  | none => simp
  | some x =>
    cases x with
    | none => rfl
    | some v => simp only [Option.some_or]; exact (vis_nonempty v (hok k v hm)).symm

theorem walReadable_norm (d : Disk) : (norm d).wal = d.wal := rfl

theorem recover_eq (d : Disk) (h : DiskOk d) (o : Opts) : recover d o = phase3 (norm d) o := by
  unfold recover
  rw [phase12_ok d h]

theorem phase3_ok (d : Disk) (hr : walReadable d.wal = true) (o : Opts) : ∃ d' s, phase3 d o = .ok (d', s) := by
  unfold phase3
  rw [hr]
  simp only [Bool.not_true, Bool.false_eq_true, if_false]
  split <;> exact ⟨_, _, rfl⟩

/-- `Open` succeeds on every well-formed disk -/
theorem recover_ok (d : Disk) (h : DiskOk d) (o : Opts) : ∃ d' s, recover d o = .ok (d', s) := by
  rw [recover_eq d h]
  exact phase3_ok (norm d) h.walRead o

theorem abs_eq_rd (s : State) (hw : s.w = []) (k : Key) : abs s k = rd s.r s.tables k := by
  simp only [abs, memGet, rd, hw, layerGet_nil]
  rfl

theorem phase3_abs (d : Disk) (hc : d.comps = []) (o : Opts) (d' : Disk) (s : State)
    (h : phase3 d o = .ok (d', s)) : abs s = logical d := by
  funext k
  unfold phase3 at h
  split at h
  · cases h
  · simp only at h
    rw [logical_eq, effTables_nocomp d hc]
    split at h
    · rename_i hms
      cases h
      rw [abs_eq_rd _ rfl]
      have : walMuts d.wal = [] := by simpa using hms
      rw [this]
      rfl
    · cases h
      rw [abs_eq_rd _ rfl]
      exact rd_snoc _ _ _ k id

/-- the state `Open` returns reads exactly as `logical` says (no well-formedness needed) -/
theorem recover_abs (d : Disk) (o : Opts) (d' : Disk) (s : State) (h : recover d o = .ok (d', s)) :
    abs s = logical d := by
  unfold recover at h
  cases h2 : phase2 (phase1 d) with
  | error e => rw [h2] at h; cases h
  | ok d2 =>
    rw [h2] at h
    have hd2 : d2 = { phase1 d with tables := (phase1 d).tables.filter (fun p => isComplete p.2) } := by
      unfold phase2 at h2
      split at h2
      · cases h2
      · cases h2; rfl
    have hc : d2.comps = [] := by rw [hd2]; rfl
    rw [phase3_abs d2 hc o d' s h]
    funext k
    rw [logical_eq, logical_eq, effTables_nocomp d2 hc]
    have : tblsOf d2.tables = effTables d := by
      rw [hd2]; simp only [effTables, tblsOf_filter_complete]
    rw [this]
    have : d2.wal = d.wal := by rw [hd2]; rfl
    rw [this]

theorem recover_serves (d : Disk) (h : DiskOk d) (o : Opts) : ∃ d' s, recover d o = .ok (d', s) ∧ abs s = logical d :=
  let ⟨d', s, hr⟩ := recover_ok d h o
  ⟨d', s, hr, recover_abs d o d' s hr⟩

/-- the process state `Open` returns: open, nothing handed to the flusher, empty memstore -/
theorem recover_opened (d : Disk) (o : Opts) (d' : Disk) (s : State) (hr : recover d o = .ok (d', s)) :
    s.isOpen = true ∧ s.closed = false ∧ s.flushPending = false ∧ s.w = [] := by
  unfold recover at hr
  split at hr
  · cases hr
  · unfold phase3 at hr
    split at hr
    · cases hr
    · simp only at hr
      split at hr <;> cases hr <;> exact ⟨rfl, rfl, rfl, rfl⟩

/-- a disk without compaction directories whose tables are complete or unfinished -/
theorem diskOk_plain (x : Disk) (hc : x.comps = []) (hts : (x.tables.map (·.1)).Pairwise (· < ·))
    (hnp : ∀ p ∈ x.tables, isPartMeta p.2 = false) (hws : (x.wal.map (·.num)).Pairwise (· < ·))
    (hwd : x.walDir = false → x.wal = []) (hr : walReadable x.wal = true) (hok : ∀ m ∈ walMuts x.wal, m.ok = true) :
    DiskOk x where
  tblSorted := hts
  walSorted := hws
  compIds := by rw [hc]; simp
  walDirOk := hwd
  walRead := hr
  putsOk := hok
  oneFlag := by rw [hc]; simp
  flagOut := by rw [hc]; intro c h; cases h
  covered := by intro p hp hpm; rw [hnp p hp] at hpm; cases hpm

/-- a clean disk: what `phase1` + `phase2` leave -/
structure Clean (d : Disk) : Prop where
  ok : DiskOk d
  nocomp : d.comps = []
  allc : ∀ p ∈ d.tables, isComplete p.2 = true

theorem norm_clean (d : Disk) (h : DiskOk d) : Clean (norm d) := by
  have hallc : ∀ p ∈ normT d, isComplete p.2 = true := fun p hp => (List.mem_filter.1 hp).2
  refine ⟨diskOk_plain (norm d) rfl ?_ (fun p hp => not_partMeta_of_complete (hallc p hp)) h.walSorted h.walDirOk
    h.walRead h.putsOk, rfl, hallc⟩
  show ((normT d).map (·.1)).Pairwise (· < ·)
  unfold normT
  apply filter_sorted
  rcases foldl_finishComp_one d.comps d.tables h.oneFlag with (⟨e, _⟩ | ⟨c, m, _, _, e⟩)
  · rw [e]; exact h.tblSorted
  · rw [e]; exact insertT_sorted _ _ _ (filter_sorted _ _ h.tblSorted)

theorem keys_lt_of_clean {d : Disk} (h : Clean d) : ∀ p ∈ d.tables, p.1 < maxGen (tblsOf d.tables) + 1 := by
  intro p hp
  have hc := h.allc p hp
  obtain ⟨g, t⟩ := p
  cases t with
  | part b => cases hc
  | complete c =>
    have hm : ({ gen := g, cells := c } : Tbl) ∈ tblsOf d.tables := by
      unfold tblsOf
      rw [List.mem_filterMap]
      exact ⟨(g, .complete c), hp, rfl⟩
    have := le_maxGen _ _ hm
    show g < _
    simp only at this
    omega

theorem walReadable_suffix (a b : List WalFile) (h : walReadable (a ++ b) = true) : walReadable b = true := by
  induction a with
  | nil => exact h
  | cons x a ih =>
    cases hab : a ++ b with
    | nil =>
      have : b = [] := (List.append_eq_nil_iff.1 hab).2
      rw [this]; rfl
    | cons y r =>
      rw [List.cons_append, hab] at h
      simp only [walReadable, Bool.and_eq_true] at h
      rw [hab] at ih
      exact ih h.2

theorem diskOk_logical_congr {d d' : Disk} (ht : d'.tables = d.tables) (hw : d'.wal = d.wal) (hc : d'.comps = d.comps)
    (hwd : d'.walDir = false → d'.wal = []) (h : DiskOk d) : DiskOk d' ∧ logical d' = logical d := by
  refine ⟨?_, ?_⟩
  · exact { tblSorted := ht ▸ h.tblSorted, walSorted := hw ▸ h.walSorted, compIds := hc ▸ h.compIds,
            walDirOk := hwd, walRead := hw ▸ h.walRead, putsOk := hw ▸ h.putsOk, oneFlag := hc ▸ h.oneFlag,
            flagOut := hc ▸ h.flagOut, covered := by rw [ht, hc]; exact h.covered }
  · funext k
    simp only [logical, effTables, phase1, ht, hw, hc]

/-- the good disks while a disk `d` is being worked on: well-formed, serving what `d` serves -/
def Good3 (d : Disk) (x : Disk) : Prop := DiskOk x ∧ logical x = logical d

theorem GoodN.good3 {d x : Disk} (h : GoodN d x) : Good3 d x := ⟨h.1, logical_of_norm h.2⟩

/-- a new newest table directory that does not load, or shows only keys the log binds anyway, changes nothing;
`ht` lists the states the recovery flush (`tblWrite_seg`) takes the directory through -/
theorem newest_good (d : Disk) (hd : DiskOk d) (hc : d.comps = []) (g : Nat) (hlt : ∀ p ∈ d.tables, p.1 < g)
    (t : TableDir) (ht : t = .part false ∨ t = .complete [] ∨ t = .complete (applyMuts [] (walMuts d.wal))) :
    Good3 d { d with tables := d.tables ++ [(g, t)] } := by
  have hpm : isPartMeta t = false := by
    rcases ht with (rfl | rfl | rfl) <;> rfl
  refine ⟨{ hd with tblSorted := snoc_sorted Prod.fst hd.tblSorted hlt, covered := ?_ }, ?_⟩
  · intro p hp hpm'
    rcases List.mem_append.1 (hp : p ∈ d.tables ++ [(g, t)]) with (hp | hp)
    · exact hd.covered p hp hpm'
    · simp only [List.mem_singleton] at hp
      subst hp
      rw [hpm] at hpm'; cases hpm'
  · funext k
    simp only [logical_eq, effTables, phase1, hc, List.foldl_nil]
    rw [tblsOf_append]
    rcases ht with (rfl | rfl | rfl)
    · simp [tblsOf_cons_part, tblsOf_nil]
    · rw [tblsOf_cons_complete, tblsOf_nil]
      exact rd_snoc _ _ _ k (fun hk => absurd (layerGet_nil k) hk)
    · rw [tblsOf_cons_complete, tblsOf_nil]
      exact rd_snoc _ _ _ k (fun hk => hk)

/-- the recovery flush, a table writer creating the newest table from the log: directory, index.rio + data.rio with
their headers (an empty legacy table), the empty metadata file, the records, the metadata -/
theorem tblWrite_seg {d0 d : Disk} (h : Good3 d0 d) (hc : d.comps = []) (g : Nat) (hlt : ∀ p ∈ d.tables, p.1 < g) :
    Seg (Good3 d0) (fun x => x = d)
      [.tblMkdir g, .tblLoadable g [], .tblMetaCreate g, .tblProgress g, .tblComplete g (applyMuts [] (walMuts d.wal))]
      (fun x => x = { d with tables := d.tables ++ [(g, .complete (applyMuts [] (walMuts d.wal)))] }) := by
  have hg : ∀ t, t = .part false ∨ t = .complete [] ∨ t = .complete (applyMuts [] (walMuts d.wal)) →
      Good3 d0 { d with tables := d.tables ++ [(g, t)] } := fun t ht =>
    have := newest_good d h.1 hc g hlt t ht
    ⟨this.1, this.2.trans h.2⟩
  have hp := hg _ (Or.inl rfl)
  refine .step h (y := { d with tables := d.tables ++ [(g, .part false)] })
    (by simp only [applyEv]; rw [insertT_last _ _ _ hlt]) ?_
  refine .step hp (y := { d with tables := d.tables ++ [(g, .complete [])] })
    (by simp only [applyEv]; rw [updT_last _ _ _ _ hlt]) ?_
  refine .step (hg _ (Or.inr (Or.inl rfl))) (y := { d with tables := d.tables ++ [(g, .part false)] })
    (by simp only [applyEv]; rw [updT_last _ _ _ _ hlt]) ?_
  refine .step hp (y := { d with tables := d.tables ++ [(g, .part false)] }) rfl ?_
  exact .step hp (by simp only [applyEv]; rw [updT_last _ _ _ _ hlt]) (.done (hg _ (Or.inr (Or.inr rfl))) rfl)

/-- the tables after the recovery flush -/
def tablesB (d : Disk) : List (Nat × TableDir) :=
  if (walMuts d.wal).isEmpty then d.tables
  else d.tables ++ [(maxGen (tblsOf d.tables) + 1, .complete (applyMuts [] (walMuts d.wal)))]

theorem tablesB_ok {d : Disk} (h : Clean d) :
    ((tablesB d).map (·.1)).Pairwise (· < ·) ∧ ∀ p ∈ tablesB d, isPartMeta p.2 = false := by
  unfold tablesB
  split
  · exact ⟨h.ok.tblSorted, fun p hp => not_partMeta_of_complete (h.allc p hp)⟩
  · refine ⟨snoc_sorted Prod.fst h.ok.tblSorted (keys_lt_of_clean h), fun p hp => ?_⟩
    rcases List.mem_append.1 hp with (hp | hp)
    · exact not_partMeta_of_complete (h.allc p hp)
    · rw [List.mem_singleton.1 hp]; rfl

/-- once the replay of the whole log stands as the newest table, any WAL listing that holds a suffix of the log's records
serves the same: the files unlinked oldest first, the directory removed, re-created, the fresh file -/
theorem flushed_good (d : Disk) (h : Clean d) (pre : List Mutation) (fs : List WalFile) (wd : Bool)
    (hm : walMuts d.wal = pre ++ walMuts fs) (hs : (fs.map (·.num)).Pairwise (· < ·)) (hr : walReadable fs = true)
    (hwd : wd = false → fs = []) : Good3 d { tables := tablesB d, walDir := wd, wal := fs, comps := [] } := by
  have hputs : ∀ m ∈ walMuts d.wal, m.ok = true := h.ok.putsOk
  rw [hm] at hputs
  refine ⟨diskOk_plain _ rfl (tablesB_ok h).1 (tablesB_ok h).2 hs hwd hr
    fun m hm' => hputs m (List.mem_append_right _ hm'), ?_⟩
  funext k
  rw [logical_eq, logical_eq, effTables_nocomp _ rfl, effTables_nocomp d h.nocomp]
  show rd (applyMuts [] (walMuts fs)) (tblsOf (tablesB d)) k = _
  unfold tablesB
  split
  · rename_i he
    have he : pre ++ walMuts fs = [] := by rw [← hm]; simpa using he
    rw [hm, he, (List.append_eq_nil_iff.1 he).2]
  · rw [tblsOf_append, tblsOf_cons_complete, tblsOf_nil, hm]
    exact rd_flushed _ _ pre _ (fun m hm' => hputs m (List.mem_append_left _ hm')) k

theorem unlink_seg (d : Disk) (h : Clean d) (fs : List WalFile) :
    ∀ pre, d.wal = pre ++ fs →
    Seg (Good3 d) (fun x => x = { tables := tablesB d, walDir := true, wal := fs, comps := [] })
      (fs.map (fun f => Ev.walUnlink f.num))
      (fun x => x = { tables := tablesB d, walDir := true, wal := [], comps := [] }) := by
  have hg : ∀ pre fs, d.wal = pre ++ fs → Good3 d { tables := tablesB d, walDir := true, wal := fs, comps := [] } :=
    fun pre fs hw => flushed_good d h (walMuts pre) fs true (by rw [hw, walMuts_append])
      (List.pairwise_append.1 (by rw [← List.map_append, ← hw]; exact h.ok.walSorted)).2.1
      (walReadable_suffix pre fs (hw ▸ h.ok.walRead)) nofun
  induction fs with
  | nil => exact fun pre hw => .done (hg pre [] hw) rfl
  | cons f fs ih =>
    intro pre hw
    have := hg pre (f :: fs) hw
    refine .step this ?_ (ih (pre ++ [f]) (by rw [hw]; simp))
    simp only [applyEv]
    rw [show eraseW f.num (f :: fs) = fs from
      Keyed.erase_sorted (fun y : WalFile => y.num) [] fs f this.1.walSorted]

theorem phase3_seg (d : Disk) (h : Clean d) (o : Opts) (d' : Disk) (s : State) (h3 : phase3 d o = .ok (d', s)) :
    Seg (Good3 d) (fun x => x = d) (phase3Events d) (fun x => x = d') := by
  have hread : walReadable d.wal = true := h.ok.walRead
  have hcomps := h.nocomp
  -- the disk phase 3 returns
  have hd' : d' = { tables := tablesB d, walDir := true, wal := freshWal, comps := [] } := by
    unfold phase3 at h3
    rw [hread] at h3
    simp only [Bool.not_true, Bool.false_eq_true, if_false] at h3
    unfold tablesB
    split at h3
    · rename_i he
      cases h3
      rw [if_pos he, hcomps]
    · rename_i he
      cases h3
      rw [if_neg he, hcomps, insertT_last _ _ _ (keys_lt_of_clean h)]
  unfold phase3Events
  rw [hread]
  simp only [Bool.not_true, Bool.false_eq_true, if_false]
  have h1 : Good3 d { d with walDir := true } := diskOk_logical_congr rfl rfl rfl (by intro hf; cases hf) h.ok
  -- stage A: the WAL directory exists
  have hA : Seg (Good3 d) (fun x => x = d) (if d.walDir = true then [] else [Ev.walDirCreate])
      (fun x => x = { d with walDir := true }) := by
    split
    · rename_i hwd
      refine .done ⟨h.ok, rfl⟩ ?_
      cases d
      cases hwd
      rfl
    · exact .step ⟨h.ok, rfl⟩ rfl (.done h1 rfl)
  -- stage B: the recovery flush
  have hB : Seg (Good3 d) (fun x => x = { d with walDir := true })
      (if (walMuts d.wal).isEmpty = true then []
        else [Ev.tblMkdir (maxGen (tblsOf d.tables) + 1), Ev.tblLoadable (maxGen (tblsOf d.tables) + 1) [],
              Ev.tblMetaCreate (maxGen (tblsOf d.tables) + 1), Ev.tblProgress (maxGen (tblsOf d.tables) + 1),
              Ev.tblComplete (maxGen (tblsOf d.tables) + 1) (applyMuts [] (walMuts d.wal))])
      (fun x => x = { tables := tablesB d, walDir := true, wal := d.wal, comps := [] }) := by
    split
    · rename_i he
      refine .done h1 ?_
      unfold tablesB
      rw [if_pos he, hcomps]
    · rename_i he
      have hlt := keys_lt_of_clean h
      refine (tblWrite_seg h1 hcomps _ hlt).weaken (fun _ hx => hx) fun x hx => ?_
      rw [hx]
      unfold tablesB
      rw [if_neg he, hcomps]
  -- stage C: the log files go, oldest first
  have hC := unlink_seg d h d.wal [] rfl
  -- stage D: the directory is removed and re-created with a fresh file: listings that hold none of the log's records
  have hD : Seg (Good3 d) (fun x => x = { tables := tablesB d, walDir := true, wal := [], comps := [] })
      [Ev.walDirRemove, Ev.walDirCreate, Ev.walCreate 0, Ev.walHeader 0] (fun x => x = d') := by
    have hg := fun (wd : Bool) (fs : List WalFile) (hm : walMuts fs = []) =>
      flushed_good d h (walMuts d.wal) fs wd (by rw [hm, List.append_nil])
    have hempty := hg true [] rfl .nil rfl nofun
    refine .step hempty (y := { tables := tablesB d, walDir := false, wal := [], comps := [] }) rfl ?_
    refine .step (hg false [] rfl .nil rfl fun _ => rfl) (y := { tables := tablesB d, walDir := true, wal := [], comps := [] }) rfl ?_
    refine .step hempty (y := { tables := tablesB d, walDir := true, wal := [{ num := 0, header := false }], comps := [] }) rfl ?_
    refine .step (hg true _ rfl (List.pairwise_singleton _ _) rfl nofun) (y := d') (by rw [hd']; rfl) (.done ?_ rfl)
    rw [hd']
    exact hg true _ rfl (List.pairwise_singleton _ _) rfl nofun
  exact Seg.append hA (Seg.append (Seg.append hB hC) hD)

/-- `Open` as a segment: after any prefix of its calls the disk is well-formed and serves the same content, and at
the end it is the disk `recover` computes -/
theorem recover_seg (d : Disk) (h : DiskOk d) (o : Opts) (d' : Disk) (s : State) (hr : recover d o = .ok (d', s))
    (junk : List (Nat × Layer) := []) : Seg (Good3 d) (fun x => x = d) (recoverEvents d junk) (fun x => x = d') := by
  rw [recover_eq d h] at hr
  unfold recoverEvents
  rw [phase12_ok d h]
  have hc := norm_clean d h
  have hn : logical (norm d) = logical d := logical_of_norm (norm_eq_self hc.nocomp hc.allc)
  exact Seg.append (((clean_seg junk (mu d) d h).good_mono fun _ => GoodN.good3).weaken (fun _ hx => hx)
      fun _ hx => hx (Nat.le_refl _))
    ((phase3_seg (norm d) hc o d' s hr).good_mono fun x hx => ⟨hx.1, hx.2.trans hn⟩)

theorem recover_events (d : Disk) (h : DiskOk d) (o : Opts) (d' : Disk) (s : State)
    (hr : recover d o = .ok (d', s)) (junk : List (Nat × Layer) := []) : applyEvs d (recoverEvents d junk) = d' :=
  (recover_seg d h o d' s hr junk d rfl).2

theorem recover_prefix (d : Disk) (h : DiskOk d) (n : Nat) (junk : List (Nat × Layer) := []) :
    DiskOk (applyEvs d ((recoverEvents d junk).take n)) ∧
      logical (applyEvs d ((recoverEvents d junk).take n)) = logical d := by
  obtain ⟨d', s, hr⟩ := recover_ok d h {}
  exact (recover_seg d h {} d' s hr junk d rfl).1 n

theorem recover_diskOk (d : Disk) (h : DiskOk d) (o : Opts) (d' : Disk) (s : State)
    (hr : recover d o = .ok (d', s)) : DiskOk d' ∧ logical d' = logical d := by
  obtain ⟨he, hg⟩ := ((recover_seg d h o d' s hr).post_good d rfl).2
  exact he ▸ hg

theorem killedOpens_ok : ∀ (ms : List FSS.KilledOpen) (d : Disk), DiskOk d →
    DiskOk (FSS.killedOpens d ms) ∧ logical (FSS.killedOpens d ms) = logical d := by
  intro ms
  induction ms with
  | nil => intro d h; exact ⟨h, rfl⟩
  | cons m ms ih =>
    intro d h
    obtain ⟨h1, h2⟩ := recover_prefix d h m.1 m.2
    obtain ⟨h3, h4⟩ := ih _ h1
    exact ⟨h3, h4.trans h2⟩

/-- well-formed disks with the same content: `Open` succeeds on both and serves the same -/
theorem recover_same {d d' : Disk} (h : DiskOk d) (h' : DiskOk d') (hl : logical d' = logical d) (o o' : Opts) :
    ∃ d1 s1 d2 s2, recover d o = .ok (d1, s1) ∧ recover d' o' = .ok (d2, s2) ∧ abs s2 = abs s1 :=
  let ⟨d1, s1, hr1, a1⟩ := recover_serves d h o
  let ⟨d2, s2, hr2, a2⟩ := recover_serves d' h' o'
  ⟨d1, s1, d2, s2, hr1, hr2, a2.trans (hl.trans a1.symm)⟩

end SST.Proofs.FS
