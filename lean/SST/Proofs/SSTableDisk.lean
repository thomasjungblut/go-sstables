/-
The disk index loader (EXPERIMENTAL in the library), part 1: the index file as the loader sees it.  `SeekIv`
is all that the lookups and the iterator use of the file `F`: a seek started in `[st k, st (k+1))` finds record `k`,
which decodes to `ents[k]`, and reports the offset `st (k+1) - 1` at which it starts; a seek started at or behind
`st ents.length` finds nothing.  It holds of a written index file in which no record embeds the bytes of a complete
valid record (`NoPhantom`, `seekIv_of`), with `st = startOff` of the record offsets.  On it the iterator, run to an
end offset, yields a range of the entries (`diskIter_range`).  Part 2 (binary search, offset cache, the reader) is
SST/Proofs/SSTableDiskLookup.lean; the phantom counterexample is in SST/Props/C03.lean.
-/
import SST.Spec.SSTable
import SST.Proofs.RecordIOSeek
import SST.Proofs.Proto
namespace SST.Proofs.Sst
open SST Generated SST.Proofs

/-- the index file `F` told by seek intervals: `st k` is the smallest offset from which a seek finds record `k` -/
structure SeekIv (c : Compression) (F : Bytes) (st : Nat → Nat) (ents : List IndexEntry) : Prop where
  zero : st 0 = 0
  step : ∀ k, k < ents.length → st k < st (k + 1)
  inFile : st ents.length ≤ F.length
  pos : 0 < F.length
  seek : ∀ h k (hk : k < ents.length), st k ≤ h → h < st (k + 1) →
    ∃ r, seekNext c F h = .ok (st (k + 1) - 1, r) ∧ decIndexEntry (r.getD []) = (ents[k], none)
  eof : ∀ h, st ents.length ≤ h → h ≤ F.length → seekNext c F h = .error .eof

/-- the record `SeekNext` leaves behind when it fails -/
def noEntry : IndexEntry := { key := none, valueOffset := 0, checksum := 0 }

/-- the smallest offset from which a seek finds record `t` (one past the start of record `t - 1`) -/
def startOff (off : Nat → Nat) : Nat → Nat
  | 0 => 0
  | t + 1 => off t + 1

namespace SeekIv
variable {c : Compression} {F : Bytes} {st : Nat → Nat} {ents : List IndexEntry}

theorem mono (M : SeekIv c F st ents) {j k : Nat} (hjk : j ≤ k) (hk : k ≤ ents.length) : st j ≤ st k := by
  rcases Nat.eq_or_lt_of_le hjk with rfl | h
  · exact Nat.le_refl _
  · exact Nat.le_of_lt (lt_of_succ_steps M.step j k h hk)

/-- an offset before `st m` lies in the interval of one of the first `m` records -/
theorem locate (M : SeekIv c F st ents) (h : Nat) :
    ∀ m, h < st m → ∃ k, k < m ∧ st k ≤ h ∧ h < st (k + 1) := by
  intro m
  induction m with
  | zero => intro hh; rw [M.zero] at hh; cases hh
  | succ m ih =>
    intro hh
    rcases Nat.lt_or_ge h (st m) with h1 | h1
    · obtain ⟨k, hk, h2⟩ := ih h1
      exact ⟨k, Nat.lt_succ_of_lt hk, h2⟩
    · exact ⟨m, Nat.lt_succ_self m, h1, hh⟩

theorem entry (M : SeekIv c F st ents) {h k : Nat} (hk : k < ents.length) (h1 : st k ≤ h) (h2 : h < st (k + 1)) :
    diskSeekEntry c F h = (.ok (st (k + 1) - 1), ents[k]) := by
  obtain ⟨r, e1, e2⟩ := M.seek h k hk h1 h2
  unfold diskSeekEntry; rw [e1]; simp only [e2]

theorem entry_eof (M : SeekIv c F st ents) {h : Nat} (h1 : st ents.length ≤ h) (hn : h ≤ F.length) :
    diskSeekEntry c F h = (.error .eof, noEntry) := by
  unfold diskSeekEntry; rw [M.eof h h1 hn]; rfl

theorem small (M : SeekIv c F st ents) : ents.length ≤ F.length := by
  have : ∀ k, k ≤ ents.length → k ≤ st k := fun k => by
    induction k with
    | zero => exact fun _ => Nat.zero_le _
    | succ k ih => exact fun hk => Nat.succ_le_of_lt (Nat.lt_of_le_of_lt (ih (Nat.le_of_succ_le hk)) (M.step k hk))
  exact Nat.le_trans (this _ (Nat.le_refl _)) M.inFile

theorem le_len (M : SeekIv c F st ents) {k : Nat} (hk : k ≤ ents.length) : st k ≤ F.length :=
  Nat.le_trans (M.mono hk (Nat.le_refl _)) M.inFile

theorem lt_len (M : SeekIv c F st ents) {k : Nat} (hk : k < ents.length) : st k < F.length :=
  Nat.lt_of_lt_of_le (M.step k hk) (M.le_len hk)

end SeekIv

section Iter
variable {c : Compression} {F : Bytes} {st : Nat → Nat} {ents : List IndexEntry}

theorem diskIter_past {cur endOff : Nat} (f : Nat) (h : endOff < cur) :
    diskIter c F (f + 1) cur endOff = ([], .done) := by
  unfold diskIter; rw [if_pos h]

theorem diskIter_eof (M : SeekIv c F st ents) {cur : Nat} (endOff f : Nat) (hcur : cur ≤ F.length)
    (hall : st ents.length ≤ cur) : diskIter c F (f + 1) cur endOff = ([], .done) := by
  unfold diskIter
  by_cases h : cur > endOff
  · rw [if_pos h]
  · rw [if_neg h, M.eof cur hall hcur]

/-- a step of the iterator: it goes on at `st (k+1)` -/
theorem diskIter_step (M : SeekIv c F st ents) {cur k endOff f : Nat} (hk : k < ents.length)
    (hlo : st k ≤ cur) (hhi : cur < st (k + 1)) (hend : cur ≤ endOff) {rest : List IEntry} {fin : IterEnd}
    (hrest : diskIter c F f (st (k + 1)) endOff = (rest, fin)) :
    diskIter c F (f + 1) cur endOff = (ents[k].toI :: rest, fin) := by
  obtain ⟨r, h1, h2⟩ := M.seek cur k hk hlo hhi
  unfold diskIter
  have hs : st (k + 1) - 1 + 1 = st (k + 1) :=
    Nat.sub_add_cancel (Nat.succ_le_of_lt (Nat.lt_of_le_of_lt (Nat.zero_le _) hhi))
  rw [if_neg (Nat.not_lt.2 hend), h1]
  simp only [h2, hs, hrest]

/-- the iterator started where a seek finds record `k`, with an end offset that admits exactly the
records before `m`: it yields the entries `k … m-1` and ends with `Done`.  (Only the START of each seek is
compared with the end offset: record `j` is read iff `st j ≤ endOff`.)  Any fuel above the file length will do:
one unit per record and one for the seek that ends the run, and there are at most `F.length` records. -/
theorem diskIter_range (M : SeekIv c F st ents) (endOff m : Nat)
    (hstop1 : ∀ j, j < m → st j ≤ endOff)
    (hstop2 : m < ents.length → endOff < st m)
    {k fuel : Nat} (hk : k ≤ ents.length) (hfuel : F.length < fuel) :
    diskIter c F fuel (st k) endOff = (((ents.take m).drop k).map IndexEntry.toI, .done) := by
  have hrem : ents.length - k < fuel := Nat.lt_of_le_of_lt (Nat.le_trans (Nat.sub_le _ _) M.small) hfuel
  clear hfuel
  generalize hr : ents.length - k = rem at hrem
  induction rem generalizing k fuel with
  | zero =>
    obtain ⟨f, rfl⟩ := Nat.exists_eq_succ_of_ne_zero (Nat.ne_of_gt hrem)
    obtain rfl : k = ents.length := Nat.le_antisymm hk (Nat.le_of_sub_eq_zero hr)
    rw [diskIter_eof M endOff f M.inFile (Nat.le_refl _), List.drop_eq_nil_of_le (List.length_take_le' _ _)]
    rfl
  | succ rem ih =>
    obtain ⟨f, rfl⟩ := Nat.exists_eq_succ_of_ne_zero (Nat.ne_of_gt (Nat.zero_lt_of_lt hrem))
    have hkl : k < ents.length := Nat.lt_of_sub_pos (hr ▸ Nat.succ_pos rem)
    rcases Nat.lt_or_ge k m with hkm | hmk
    · rw [diskIter_step M hkl (Nat.le_refl _) (M.step k hkl) (hstop1 k hkm)
          (ih hkl ((Nat.sub_succ _ _).trans (congrArg Nat.pred hr)) (Nat.lt_of_succ_lt_succ hrem)),
        List.drop_eq_getElem_cons (i := k) (List.length_take ▸ Nat.lt_min.2 ⟨hkm, hkl⟩)]
      simp only [List.map_cons, List.getElem_take]
    · have h1 := hstop2 (Nat.lt_of_le_of_lt hmk hkl)
      have h2 := M.mono hmk (Nat.le_of_lt hkl)
      rw [diskIter_past f (Nat.lt_of_lt_of_le h1 h2),
        List.drop_eq_nil_of_le (Nat.le_trans (List.length_take_le _ _) hmk)]
      rfl

/-- the full iterator (`DiskIdx.all`: from the end of the file header to the end of the file) -/
theorem diskIter_all (M : SeekIv c F st ents) (hF : fileHeaderSize ≤ F.length)
    (h0 : 0 < ents.length → fileHeaderSize < st 1) :
    diskIter c F (F.length + 2) fileHeaderSize F.length = (ents.map IndexEntry.toI, .done) := by
  rcases Nat.eq_zero_or_pos ents.length with hl | hl
  · rw [diskIter_eof M _ _ hF (by rw [hl, M.zero]; exact Nat.zero_le _), List.eq_nil_of_length_eq_zero hl]
    rfl
  · have hr := diskIter_range M F.length ents.length (fun k hk => M.le_len (Nat.le_of_lt hk))
      (fun h => absurd h (Nat.lt_irrefl _)) (k := 1) hl (Nat.lt_succ_self F.length)
    rw [diskIter_step M hl (by rw [M.zero]; exact Nat.zero_le _) (h0 hl) hF hr, List.take_length]
    exact congrArg (fun l => (List.map IndexEntry.toI l, IterEnd.done)) (List.drop_eq_getElem_cons hl).symm

end Iter

/-- the index entry a reader decodes from the record of `e` -/
def entryOf (e : Bytes × IndexVal) : IndexEntry :=
  { key := normKey e.1, valueOffset := e.2.off, checksum := e.2.sum }

/-- the written index file without phantom records, with `st = startOff` of its record offsets -/
theorem seekIv_of (c : Compression) (ct : Nat) (es : List (Bytes × IndexVal))
    (hl : LawfulC c)
    (hfit : ∀ e ∈ es, e.1.length < 2 ^ 64 ∧ e.2.off < 2 ^ 64 ∧ e.2.sum < 2 ^ 64 ∧ FitsRec c (indexRecOf e))
    (hnp : NoPhantom c ct (es.map indexRecOf)) :
    SeekIv c (fileHeader currentVersion ct ++ encAll c (es.map indexRecOf))
      (startOff (offsetOf c (es.map indexRecOf))) (es.map entryOf) := by
  have hlen : (es.map entryOf).length = (es.map indexRecOf).length :=
    (List.length_map entryOf).trans (List.length_map indexRecOf).symm
  have hf : ∀ r ∈ es.map indexRecOf, FitsRec c r := List.forall_mem_map.2 fun e he => (hfit e he).2.2.2
  generalize hrs : es.map indexRecOf = rs at *
  -- record `k` starts inside its own interval, and every earlier record before it
  have hin : ∀ k, k < rs.length → startOff (offsetOf c rs) k ≤ offsetOf c rs k := fun k hk => by
    cases k with
    | zero => exact Nat.zero_le _
    | succ t => exact offsetOf_lt c rs t (t + 1) (Nat.lt_succ_self t) (Nat.le_of_lt hk)
  have hbel : ∀ j k, j < k → k ≤ rs.length → offsetOf c rs j < startOff (offsetOf c rs) k := by
    intro j k hjk hk
    cases k with
    | zero => cases hjk
    | succ t =>
      rcases Nat.eq_or_lt_of_le (Nat.le_of_lt_succ hjk) with rfl | h
      · exact Nat.lt_succ_self _
      · exact Nat.lt_succ_of_lt (offsetOf_lt c rs j t h (Nat.le_of_lt hk))
  have hfile : ∀ k, k < rs.length → offsetOf c rs k < (fileHeader currentVersion ct ++ encAll c rs).length :=
    fun k hk =>
      Nat.lt_of_lt_of_le (offsetOf_lt c rs k (k + 1) (Nat.lt_succ_self k) hk) (offsetOf_le_file c ct rs (k + 1))
  refine ⟨rfl, fun k hk => Nat.lt_succ_of_le (hin k (hlen ▸ hk)), ?_, ?_, fun h k hk h1 h2 => ?_,
    fun h h1 hn => ?_⟩
  · rw [hlen]
    cases hr : rs.length with
    | zero => exact Nat.zero_le _
    | succ t => exact hfile t (hr ▸ Nat.lt_succ_self t)
  · rw [List.length_append, fileHeader_length]
    exact Nat.lt_of_lt_of_le (by decide) (Nat.le_add_right 8 _)
  · have hk' : k < rs.length := hlen ▸ hk
    have h2' : h ≤ offsetOf c rs k := Nat.le_of_lt_succ h2
    have h0 := seekNext_first_record c ct rs hl hf hnp h (Nat.le_trans h2' (Nat.le_of_lt (hfile k hk')))
    cases hr : seekNext c (fileHeader currentVersion ct ++ encAll c rs) h with
    | error e => rw [hr] at h0; exact absurd (Nat.lt_of_lt_of_le (h0.2 k hk') h2') (Nat.lt_irrefl _)
    | ok pr =>
      obtain ⟨p, r⟩ := pr
      rw [hr] at h0
      obtain ⟨k', hk'', rfl, rfl, hle, hbef⟩ := h0
      obtain rfl : k' = k := by
        rcases Nat.lt_trichotomy k' k with h3 | h3 | h3
        · exact absurd (Nat.lt_of_lt_of_le (Nat.lt_of_lt_of_le (hbel k' k h3 (Nat.le_of_lt hk')) h1) hle)
            (Nat.lt_irrefl _)
        · exact h3
        · exact absurd (Nat.lt_of_lt_of_le (hbef k h3) h2') (Nat.lt_irrefl _)
      have hke : k' < es.length := by rw [← hrs, List.length_map] at hk'; exact hk'
      obtain ⟨f1, f2, f3, _⟩ := hfit es[k'] (List.getElem_mem hke)
      refine ⟨_, rfl, ?_⟩
      subst hrs
      simp only [List.getElem_map, indexRecOf, Option.getD_some, Pb.decIndexEntry_enc _ _ _ f1 f2 f3, entryOf]
  · have h0 := seekNext_first_record c ct rs hl hf hnp h hn
    cases hr : seekNext c (fileHeader currentVersion ct ++ encAll c rs) h with
    | error e => rw [hr] at h0; rw [h0.1]
    | ok pr =>
      obtain ⟨p, r⟩ := pr
      rw [hr] at h0
      obtain ⟨k', hk'', rfl, _, hle, _⟩ := h0
      exact absurd (Nat.lt_of_lt_of_le (Nat.lt_of_lt_of_le (hbel k' _ hk'' (Nat.le_refl _)) (hlen ▸ h1)) hle)
        (Nat.lt_irrefl _)

theorem entryOf_toI (es : List (Bytes × IndexVal)) :
    (es.map entryOf).map IndexEntry.toI = es.map fun e => (normKey e.1, e.2) := by
  rw [List.map_map]; rfl

end SST.Proofs.Sst
