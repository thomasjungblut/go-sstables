/-
Proofs for SST/Model/CompDirBytes.lean: the whole compaction directory under `executeCompaction`'s calls, its
removal, and `repairCompactions` on a database directory image.
-/
import SST.Proofs.CompDirBytesFlag
import SST.Proofs.CompDirBytesNames
import SST.Proofs.TableDirBytesFS
import SST.Proofs.FSBasic
namespace SST.Proofs.CompDir
open SST SST.CompDir SST.TblDir SST.FS Generated
open SST.Proofs.TblDir (Hyp BloomReads)

theorem lookupC_updC (id : Nat) (f : CompDir → CompDir) (hf : ∀ c, (f c).id = c.id) (cs : List CompDir) :
    lookupC id (updC id f cs) = (lookupC id cs).map f :=
  SST.Proofs.find?_update (fun c : CompDir => c.id) id f hf cs

theorem lookupC_updC_some {id : Nat} {cs : List CompDir} {c : CompDir} (f : CompDir → CompDir)
    (hf : ∀ c, (f c).id = c.id) (h : lookupC id cs = some c) : lookupC id (updC id f cs) = some (f c) := by
  rw [lookupC_updC id f hf, h]; rfl

theorem lookupC_mkdir (id : Nat) (d : Disk) (h : lookupC id d.comps = none) :
    lookupC id (applyEv d (.compMkdir id)).comps = some { id := id } := by
  unfold lookupC at h ⊢
  have hany : ¬ d.comps.any (·.id == id) = true := by
    rw [Bool.not_eq_true, List.any_eq_false]
    exact List.find?_eq_none.mp h
  show List.find? _ (if d.comps.any (·.id == id) = true then d else { d with comps := d.comps ++ [{ id := id }] }).comps = _
  rw [if_neg hany, List.find?_append, h]
  simp

theorem compEvs_state (id : Nat) (cells : DBM.Layer) (cm : CompMeta) (d : Disk) (hd : lookupC id d.comps = none)
    (k : Nat) : lookupC id (applyEvs d ((compEvs id cells cm).take k)).comps = compState id cells cm k := by
  have h1 : lookupC id (applyEvs d ((compEvs id cells cm).take 1)).comps = some { id := id } :=
    lookupC_mkdir id d hd
  have h3 : lookupC id (applyEvs d ((compEvs id cells cm).take 3)).comps =
      some { id := id, out := .complete cells } :=
    lookupC_updC_some (fun c => { c with out := .complete cells }) (fun _ => rfl) h1
  have h5 : lookupC id (applyEvs d (compEvs id cells cm)).comps =
      some { id := id, out := .complete cells, flag := some cm } :=
    lookupC_updC_some (fun c => { c with flag := some cm }) (fun _ => rfl) h3
  match k with
  | 0 => exact hd
  | 1 => exact h1
  | 2 => exact h1
  | 3 => exact h3
  | 4 => exact h3
  | k + 5 => rwa [List.take_of_length_le (Nat.le_add_left 5 k)]

theorem applyCCalls_append (img : CompImage) (a b : List CCall) :
    applyCCalls img (a ++ b) = applyCCalls (applyCCalls img a) b := by
  unfold applyCCalls; rw [List.foldl_append]

theorem applyCCalls_tbl (cs : List FsCall) (t : DirImage) :
    applyCCalls { tbl := t, flag := none } (cs.map .tbl) = { tbl := applyCalls t cs, flag := none } := by
  unfold applyCCalls applyCalls
  rw [List.foldl_map]
  exact List.foldl_hom (fun t => ({ tbl := t, flag := none } : CompImage))
    (fun t c => by cases c <;> simp [applyCCall])

theorem applyCCalls_flag (t : DirImage) (ht : t.dir = true) (cs : List FlagCall) (f : FlagImage) :
    applyCCalls { tbl := t, flag := f } (cs.map .flag) = { tbl := t, flag := applyFlagCalls f cs } := by
  unfold applyCCalls applyFlagCalls
  rw [List.foldl_map]
  exact List.foldl_hom (fun f => ({ tbl := t, flag := f } : CompImage)) (fun f c => by simp [applyCCall, ht])

/-- the table part as `abstractOf` sees it, the flag as `absFlag` reads it -/
theorem abstractComp_eq (P : Params) (id : Nat) (t : DirImage) (f : FlagImage) :
    abstractComp P id { tbl := t, flag := f } =
      (abstractOf P t).map fun o => { id := id, out := o, flag := absFlag P.comps f } := by
  unfold abstractComp abstractOf classifyComp
  by_cases hd : t.dir = true
  · simp only [hd, if_true, Option.map_some]
  · simp only [hd]; rfl

/-- The image of a compaction directory is the pair of the table writer's image and the flag writer's image, the two
writers running one after the other: at every prefix -/
theorem comp_image (cfg : SstCfg) (ch : Chunking) (kvs : List KV) (sizes : List Nat) (m : RawMeta) (n : Nat) :
    applyCCalls {} ((compCalls cfg ch kvs sizes m).take n) =
      applyCCalls { tbl := applyCalls {} ((flushCalls cfg ch kvs).take n), flag := none }
        (((flagCalls sizes m).take (n - (flushCalls cfg ch kvs).length)).map .flag) := by
  unfold compCalls
  rw [List.take_append, applyCCalls_append, List.length_map, ← List.map_take, ← List.map_take,
    show ({} : CompImage) = { tbl := {}, flag := none } from rfl, applyCCalls_tbl]

/-- `comp_image` after the complete run -/
theorem comp_final_image (cfg : SstCfg) (ch : Chunking) (kvs : List KV) (sizes : List Nat) (m : RawMeta)
    (hv : m.valid = true) :
    applyCCalls {} (compCalls cfg ch kvs sizes m) =
      { tbl := SST.Proofs.TblDir.finalImg cfg ch kvs, flag := some (flagBytes m) } := by
  unfold compCalls
  rw [applyCCalls_append, show ({} : CompImage) = { tbl := {}, flag := none } from rfl, applyCCalls_tbl,
    SST.Proofs.TblDir.final_image, applyCCalls_flag _ rfl, flag_calls_complete sizes m hv]

/-- before the table's metadata write the flag is absent and nothing about the records, the metadata or the compressors
matters (`writer_window_any`) -/
theorem compdir_window_any (P : Params) (cfg : SstCfg) (ch : Chunking) (kvs : List KV)
    (hdct : cfg.dct ≤ maxCompression) (hict : cfg.ict ≤ maxCompression) (sizes : List Nat) (m : RawMeta) (id n : Nat)
    (hn : n + 1 < (flushCalls cfg ch kvs).length) :
    abstractComp P id (applyCCalls {} ((compCalls cfg ch kvs sizes m).take n)) =
      (if n = 0 then none else if n = 5 then some (.complete []) else some (.part false)).map
        fun o => { id := id, out := o, flag := none } := by
  rw [comp_image, Nat.sub_eq_zero_of_le (Nat.le_of_lt (Nat.lt_of_succ_lt hn))]
  show abstractComp P id { tbl := _, flag := none } = _
  rw [abstractComp_eq, SST.Proofs.TblDir.writer_window_any P cfg ch kvs hdct hict n hn]
  rfl

/-- every prefix of `executeCompaction`'s calls, given the classification of the flag prefixes (`flag_prefix`).  At 5
calls the table part is the empty legacy table of `writer_window`, where the abstract run has `part false`. -/
theorem compdir_prefix (P : Params) (cfg : SstCfg) (ch : Chunking) (kvs : List KV) (h : Hyp P cfg kvs)
    (hb : BloomReads P ch) (sizes : List Nat) (m : RawMeta) (cm : CompMeta) (ha : absMeta m = some cm)
    (hflag : ∀ j, readFlag P.comps (applyFlagCalls none ((flagCalls sizes m).take j)) =
      if flagDone (flagCalls sizes m) j then some m else none)
    (id n : Nat) :
    abstractComp P id (applyCCalls {} ((compCalls cfg ch kvs sizes m).take n)) =
      if n = 5 then some { id := id, out := .complete [], flag := none }
      else compState id kvs cm (cevIdx (flushCalls cfg ch kvs).length (flagCalls sizes m) n) := by
  have hlen := SST.Proofs.TblDir.flushCalls_length cfg ch kvs
  by_cases hw : n + 1 < (flushCalls cfg ch kvs).length
  · -- before the metadata write
    rw [compdir_window_any P cfg ch kvs h.comps.dataCode_le h.comps.indexCode_le sizes m id n hw]
    unfold cevIdx
    by_cases h0 : n = 0
    · subst h0; rfl
    · rw [if_neg h0, if_neg h0, if_pos hw]
      by_cases h5 : n = 5
      · rw [if_pos h5, if_pos h5]; rfl
      · rw [if_neg h5, if_neg h5]
        split <;> rfl
  · -- the table is complete
    have hfin := SST.Proofs.TblDir.writer_final P cfg ch kvs h hb n (Nat.le_of_not_lt hw)
    obtain ⟨h0, h5⟩ : n ≠ 0 ∧ n ≠ 5 := by omega
    unfold cevIdx
    rw [comp_image, if_neg h5, if_neg h0, if_neg hw]
    by_cases hle : n ≤ (flushCalls cfg ch kvs).length
    · rw [Nat.sub_eq_zero_of_le hle, if_pos hle]
      show abstractComp P id { tbl := applyCalls {} ((flushCalls cfg ch kvs).take n), flag := none } = _
      rw [abstractComp_eq, hfin]
      rfl
    · -- the flag is being written
      rw [if_neg hle, applyCCalls_flag _ (SST.Proofs.TblDir.abstractOf_some P _ _ hfin).1, abstractComp_eq, hfin,
        absFlag, hflag]
      cases hfd : flagDone (flagCalls sizes m) (n - (flushCalls cfg ch kvs).length)
      · rfl
      · rw [if_pos rfl, Option.bind_some, ha]; rfl

/-- the calls of a removal: nothing creates or fills the flag -/
def IsRmC : CCall → Prop
  | .flag .unlink => True
  | .flag _ => False
  | .tbl _ => True

theorem rmC_step (comps : Nat → Compression) (img : CompImage) (c : CCall) (hc : IsRmC c)
    (h : readFlag comps img.flag = none) : readFlag comps (applyCCall img c).flag = none := by
  cases c with
  | tbl c =>
    have : (applyCCall img (.tbl c)).flag = img.flag := by
      cases c <;> simp only [applyCCall] <;> try rfl
      split <;> rfl
    rw [this]; exact h
  | flag c =>
    cases c with
    | unlink =>
      simp only [applyCCall]
      split
      · rfl
      · exact h
    | _ => exact False.elim hc

theorem removeComp_isRmC (order : List (Option File)) : ∀ c ∈ removeCompCalls order, IsRmC c := by
  intro c hc
  unfold removeCompCalls at hc
  rw [List.mem_append, List.mem_map] at hc
  rcases hc with ⟨o, _, rfl⟩ | hc
  · cases o <;> simp [IsRmC]
  · have : c = .tbl .rmdir := by simpa using hc
    rw [this]; simp [IsRmC]

/-- an unflagged compaction directory does not take part in `repairCompactions`' result, whatever its table part is -/
theorem finishComp_unflagged (ts : List (Nat × TableDir)) (c : CompDir) (o : TableDir) (h : c.flag = none) :
    finishComp ts { c with out := o } = finishComp ts c := by
  unfold finishComp
  simp only [h]

/-- the two `RemoveAll` rounds of `repairCompactions` (the inputs other than the replacement, then the replacement
path) remove exactly the abstract `rmInputs` -/
theorem filters_eq {α : Type} (ins : List Nat) (g : Nat) (ts : List (Nat × α)) :
    ((ts.filter fun p => !(ins.filter (· != g)).contains p.1).filter fun p => p.1 != g) =
      ts.filter fun p => !(ins.contains p.1 || p.1 == g) := by
  rw [List.filter_filter]
  apply List.filter_congr
  intro p _
  by_cases hp : p.1 = g
  · simp [hp]
  · have h1 : (p.1 != g) = true := bne_iff_ne.mpr hp
    have h2 : (p.1 == g) = false := beq_eq_false_iff_ne.mpr hp
    simp [h1, h2]

theorem filter_map_fst {α β : Type} (q : Nat → Bool) (f : α → β) (ts : List (Nat × α)) :
    (ts.filter fun p => q p.1).map (fun p => (p.1, f p.2)) =
      (ts.map fun p => (p.1, f p.2)).filter fun p => q p.1 :=
  (List.filter_map (p := fun p => q p.1) (f := fun p : Nat × α => (p.1, f p.2))).symm

theorem insertI_map {α : Type} (f : α → TableDir) (g : Nat) (x : α) : ∀ l : List (Nat × α),
    (insertI g x l).map (fun p => (p.1, f p.2)) = insertT g (f x) (l.map fun p => (p.1, f p.2)) := by
  intro l
  induction l with
  | nil => rfl
  | cons p r ih =>
    simp only [insertI, List.map_cons, insertT]
    by_cases h1 : g < p.1
    · simp [h1]
    · by_cases h2 : g = p.1
      · simp [h2]
      · simp only [h1, h2, if_false, List.map_cons, ih]

/-- names ↔ numbers on the path list with the replacement path filtered out -/
theorem mapM_filter_ne (q : Bytes) (g : Nat) (hq : tableOfName q = some g) (paths : List Bytes) (ins : List Nat)
    (h : paths.mapM tableOfName = some ins) :
    (paths.filter (· != q)).mapM tableOfName = some (ins.filter (· != g)) := by
  have hne : ((· != tableName g) ∘ tableName) = (· != g) := funext fun a => by
    show (tableName a != tableName g) = (a != g)
    by_cases ha : a = g
    · rw [ha, bne_self_eq_false, bne_self_eq_false]
    · exact (bne_iff_ne.mpr fun e => ha (tableName_inj e)).trans (bne_iff_ne.mpr ha).symm
  rw [mapM_tableOfName_some _ _ h, tableOfName_some hq, List.filter_map, hne]
  exact mapM_tableOfName _

/-- what a readable, canonical flag makes `repairCompactions` do -/
theorem canonical_decision {comps : Nat → Compression} {id : Nat} {f : FlagImage} {r : RawMeta}
    (hF : FlagCanonical comps id f) (hr : readFlag comps f = some r) :
    ∃ cm : CompMeta, absMeta r = some cm ∧ r.writePath = compName id ∧
      tableOfName r.replacementPath = some cm.replacement ∧
      (r.sstablePaths.filter (· != r.replacementPath)).mapM tableOfName =
        some (cm.inputs.filter (· != cm.replacement)) := by
  obtain ⟨hw, hs⟩ := hF r hr
  cases hm : absMeta r with
  | none => rw [hm] at hs; cases hs
  | some cm =>
    have hm' := hm
    unfold absMeta at hm'
    split at hm'
    · rename_i ins rp h1 h2
      have hcm : cm = { inputs := ins, replacement := rp } := (Option.some.inj hm').symm
      refine ⟨cm, rfl, hw, ?_, ?_⟩
      · rw [hcm]; exact h2
      · rw [hcm]; exact mapM_filter_ne _ _ h2 _ _ h1
    · cases hm'

/-- per directory: the decision read off the flag bytes is the abstract `finishComp` -/
theorem decision_on_bytes (P : Params) (id : Nat) (ci : CompImage) (hF : FlagCanonical P.comps id ci.flag)
    (ts : List (Nat × TableDir)) :
    finishComp ts (classifyComp P id ci) =
      match repairDecision P.comps ci.flag with
      | .delete => ts
      | .finish remove replacement _ =>
        match remove.mapM tableOfName, tableOfName replacement with
        | some rm, some rp =>
          insertT rp (classify P ci.tbl) ((ts.filter fun p => !rm.contains p.1).filter fun p => p.1 != rp)
        | _, _ => ts := by
  unfold repairDecision finishComp classifyComp absFlag
  cases hr : readFlag P.comps ci.flag with
  | none => rfl
  | some r =>
    obtain ⟨cm, hm, _, h2, h1⟩ := canonical_decision hF hr
    simp only [Option.bind_some, hm, h1, h2]
    rw [filters_eq]
    rfl

theorem finishBytes_finish (D : DiskImage) (remove : List Bytes) (replacement write : Bytes) (rm : List Nat)
    (rp id : Nat) (c : Nat × CompImage) (h1 : remove.mapM tableOfName = some rm)
    (h2 : tableOfName replacement = some rp) (h3 : compOfName write = some id)
    (h4 : D.comps.find? (·.1 == id) = some c) :
    finishBytes D (.finish remove replacement write) =
      some { tables := insertI rp c.2.tbl ((D.tables.filter fun p => !rm.contains p.1).filter fun p => p.1 != rp),
             comps := D.comps.filter (·.1 != id) } := by
  simp only [finishBytes, h1, h2, h3, h4]

def clT (P : Params) (p : Nat × DirImage) : Nat × TableDir := (p.1, classify P p.2)

/-- the unflagged directories do not change the result of the fold: `foldl_finishComp_flagged` on both sides -/
theorem foldl_unflagged (P : Params) (cs : List (Nat × CompImage)) (ts : List (Nat × TableDir)) :
    (cs.map fun c => classifyComp P c.1 c.2).foldl finishComp ts =
      ((cs.filter fun c => (readFlag P.comps c.2.flag).isSome).map fun c => classifyComp P c.1 c.2).foldl
        finishComp ts := by
  rw [SST.Proofs.FS.foldl_finishComp_flagged, SST.Proofs.FS.foldl_finishComp_flagged (List.map _ (List.filter _ _)),
    List.filter_map, List.filter_map, List.filter_filter]
  congr 2
  apply List.filter_congr
  intro c _
  cases hr : readFlag P.comps c.2.flag <;> simp [isFlagged, classifyComp, absFlag, hr]

/-- finishing the flagged directories one after the other, bytes against abstraction -/
theorem finish_fold (P : Params) : ∀ (l : List (Nat × CompImage)) (ts : List (Nat × DirImage)),
    (l.map (·.1)).Nodup → (∀ c ∈ l, FlagCanonical P.comps c.1 c.2.flag) →
    (∀ c ∈ l, (readFlag P.comps c.2.flag).isSome = true) →
    ∃ D', l.foldlM (fun d c => finishBytes d (repairDecision P.comps c.2.flag)) { tables := ts, comps := l } =
        some D' ∧ D'.comps = [] ∧
      D'.tables.map (clT P) = (l.map fun c => classifyComp P c.1 c.2).foldl finishComp (ts.map (clT P)) := by
  intro l
  induction l with
  | nil =>
    intro ts _ _ _
    exact ⟨{ tables := ts, comps := [] }, rfl, rfl, rfl⟩
  | cons c rest ih =>
    intro ts hnd hcan hfl
    rw [List.map_cons, List.nodup_cons] at hnd
    obtain ⟨hnotin, hnd'⟩ := hnd
    have hF := hcan c List.mem_cons_self
    have hsome := hfl c List.mem_cons_self
    cases hr : readFlag P.comps c.2.flag with
    | none => rw [hr] at hsome; cases hsome
    | some r =>
      obtain ⟨cm, hm, hw, h2, h1⟩ := canonical_decision hF hr
      have h3 : compOfName r.writePath = some c.1 := by rw [hw]; exact compOfName_compName c.1
      have h4 : (c :: rest).find? (·.1 == c.1) = some c := by simp
      have hrest : (c :: rest).filter (·.1 != c.1) = rest :=
        Keyed.erase_mid Prod.fst c.1 [] rest c (fun _ h => nomatch h)
          (fun _ hy he => hnotin (he ▸ List.mem_map_of_mem hy)) rfl
      have hdec : repairDecision P.comps c.2.flag =
          .finish (r.sstablePaths.filter (· != r.replacementPath)) r.replacementPath r.writePath := by
        unfold repairDecision; rw [hr]
      have hstep := finishBytes_finish { tables := ts, comps := c :: rest } _ _ _ _ _ _ c h1 h2 h3 h4
      rw [hrest] at hstep
      obtain ⟨D', hD', hc', ht'⟩ := ih _ hnd' (fun x hx => hcan x (List.mem_cons_of_mem _ hx))
        (fun x hx => hfl x (List.mem_cons_of_mem _ hx))
      refine ⟨D', ?_, hc', ?_⟩
      · rw [List.foldlM_cons, hdec, hstep]
        exact hD'
      · rw [ht', List.map_cons, List.foldl_cons]
        congr 1
        have hfc : finishComp (ts.map (clT P)) (classifyComp P c.1 c.2) =
            insertT cm.replacement (classify P c.2.tbl) (rmInputs cm (ts.map (clT P))) := by
          unfold finishComp classifyComp absFlag
          simp only [hr, Option.bind_some, hm]
        rw [hfc]
        unfold clT
        rw [insertI_map (classify P), filters_eq,
          filter_map_fst (fun g => !(cm.inputs.contains g || g == cm.replacement)) (classify P)]
        rfl

/-- `repairCompactions` on the bytes = `FS.phase1` on the abstraction -/
theorem repair_on_bytes (P : Params) (D : DiskImage) (hC : Canonical P.comps D) :
    ∃ D', repairBytes P.comps D = some D' ∧ absDisk P D' = phase1 (absDisk P D) := by
  have hsub : (D.comps.filter fun c => (readFlag P.comps c.2.flag).isSome).map (·.1) |>.Nodup :=
    List.Nodup.sublist (List.Sublist.map _ List.filter_sublist) hC.distinct
  obtain ⟨D', hD', hc', ht'⟩ := finish_fold P _ D.tables hsub
    (fun c hc => hC.flags c (List.mem_filter.mp hc).1) (fun c hc => (List.mem_filter.mp hc).2)
  refine ⟨D', hD', ?_⟩
  unfold absDisk phase1
  simp only [hc', List.map_nil]
  rw [foldl_unflagged P D.comps]
  congr 1

end SST.Proofs.CompDir
