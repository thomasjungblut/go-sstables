/-
L6-fs: sessions at event granularity.  The relation `QW` between the disk and the volatile state at operation
boundaries (`Q`: the same with its witnesses hidden), the map `served` it will be shown to serve, and for `Open` a
segment lemma: after every prefix of its events the disk is well-formed and serves the same content, and at the end
`QW` holds.  For an open database `QW` is the invariant `S` of the interleaved machine at a configuration, so that
the disk of a boundary is well-formed and what it serves (`QW.diskOk`, `QW.serves`) stand in FSInterleave.lean, and
the blocks the flusher, the compactor and a rotation make are runs of that machine (FSSched.lean).  Shared by C02
(synchronous WAL) and C13 (asynchronous WAL).
-/
import SST.Proofs.FSRecover
namespace SST.Proofs.FS
open SST SST.DBM SST.FS SST.Proofs.DB

/-- header-only log files: leftovers of skipped flushes (an empty memstore is not flushed and its file stays) -/
def Junk (fs : List WalFile) : Prop := ∀ f ∈ fs, f.header = true ∧ f.recs = [] ∧ f.torn = false

theorem junk_muts {fs : List WalFile} (h : Junk fs) : walMuts fs = [] := by
  induction fs with
  | nil => rfl
  | cons f fs ih =>
    rw [walMuts_cons, ih (fun x hx => h x (List.mem_cons_of_mem _ hx))]
    have := h f List.mem_cons_self
    simp [fileMuts, this.2.1]

theorem junk_append {a b : List WalFile} (ha : Junk a) (hb : Junk b) : Junk (a ++ b) := by
  intro f hf
  rcases List.mem_append.1 hf with (hf | hf)
  · exact ha f hf
  · exact hb f hf

/-- files with header and without cut record may precede any readable listing -/
theorem walReadable_good_append (a b : List WalFile) (h : ∀ f ∈ a, f.header = true ∧ f.torn = false)
    (hb : walReadable b = true) : walReadable (a ++ b) = true := by
  induction a with
  | nil => exact hb
  | cons f a ih =>
    have ih := ih (fun y hy => h y (List.mem_cons_of_mem _ hy))
    have hf := h f List.mem_cons_self
    rw [List.cons_append]
    cases hab : a ++ b with
    | nil => rfl
    | cons y r =>
      rw [hab] at ih
      simp [walReadable, hf.1, hf.2, ih]

theorem walReadable_good (a : List WalFile) (h : ∀ f ∈ a, f.header = true ∧ f.torn = false) (x : WalFile) :
    walReadable (a ++ [x]) = true :=
  walReadable_good_append a [x] h rfl

/-- the WAL files the process still needs: the one handed to the flusher, and the current one -/
def liveFiles (v : Vol) (ro rc : List Mutation) (tn : Bool) : List WalFile :=
  if usable v.s then
    (if v.s.flushPending then [{ num := v.walOld.getD 0, recs := ro }] else []) ++
      [{ num := v.walCur, recs := rc, torn := tn }]
  else []

/-- `junk`: leftover header-only files; `ro`: the records of the file handed to the flusher; `rc`: the records
that have reached the current file; `tn`: the current file ends in a cut record -/
structure QW (d : Disk) (v : Vol) (junk : List WalFile) (ro rc : List Mutation) (tn : Bool) : Prop where
  inv : Inv v.s
  tables : d.tables = encT v.s.tables
  comps : d.comps = []
  walSorted : (d.wal.map (·.num)).Pairwise (· < ·)
  qok : ∀ m ∈ v.queue, m.ok = true
  jk : Junk junk
  wal : d.wal = junk ++ liveFiles v ro rc tn
  rok : ∀ m ∈ ro, m.ok = true
  cok : ∀ m ∈ rc, m.ok = true
  tnq : tn = true → v.queue ≠ []
  live : usable v.s = true → d.walDir = true ∧ applyMuts [] (rc ++ v.queue) = v.s.w ∧
    (v.s.flushPending = true → applyMuts [] ro = v.s.r ∧ v.walOld.isSome = true)
  idle : usable v.s = false → v.queue = [] ∧ rc = [] ∧ (d.walDir = false → d.wal = [])

def Q (d : Disk) (v : Vol) : Prop := ∃ junk ro rc tn, QW d v junk ro rc tn

/-- a cut record is followed by buffered records: with an empty buffer the current file ends cleanly -/
theorem QW.not_torn {d : Disk} {v : Vol} {junk : List WalFile} {ro rc : List Mutation} {tn : Bool}
    (h : QW d v junk ro rc tn) (hq : v.queue = []) : tn = false := by
  cases tn with
  | false => rfl
  | true => exact absurd hq (h.tnq rfl)

/-- while a store is pending the appender remembers the file it was logged in -/
theorem QW.old {d : Disk} {v : Vol} {junk : List WalFile} {ro rc : List Mutation} {tn : Bool}
    (h : QW d v junk ro rc tn) (hu : usable v.s = true) (hp : v.s.flushPending = true) : v.walOld.isSome = true :=
  ((h.live hu).2.2 hp).2

theorem pending_usable {s : State} (h : Inv s) (hp : s.flushPending = true) : usable s = true := by
  cases hu : usable s with
  | true => rfl
  | false =>
    have := (h.idle hu).2
    rw [hp] at this; cases this

theorem QW_init : QW {} {} [] [] [] false where
  inv := inv_init
  tables := rfl
  comps := rfl
  walSorted := by simp
  qok := by intro m hm; cases hm
  jk := by intro f hf; cases hf
  wal := rfl
  rok := by intro m hm; cases hm
  cok := by intro m hm; cases hm
  tnq := by intro hf; cases hf
  live := by intro hf; cases hf
  idle := by intro _; exact ⟨rfl, rfl, fun _ => rfl⟩

/-- what a disk without compaction directories serves, as a stack -/
theorem logical_plain (x : Disk) (hc : x.comps = []) (junk live : List WalFile) (hw : x.wal = junk ++ live)
    (hj : Junk junk) (hok : ∀ m ∈ walMuts live, m.ok = true) (k : Key) :
    logical x k = vis ((Layer.get (applyMuts [] (walMuts live)) k).or (tablesGet (tblsOf x.tables) k)) := by
  rw [logical_eq, effTables_nocomp x hc, hw, walMuts_append, junk_muts hj, List.nil_append]
  exact rd_eq_vis _ _ (fun k v h => applyMuts_val_ok _ hok k v h) k

/-- the content behind the current WAL file: handed-over store and tables -/
def base (s : State) (k : Key) : Option GoBytes := (Layer.get s.r k).or (tablesGet s.tables k)

/-- the volatile state right after `Open` -/
def openedVol (s : State) : Vol := { s := s, walCur := 0, walOld := none, queue := [] }

/-- the relation right after `Open`: empty stores and a fresh log -/
theorem QW_opened {d : Disk} {s : State} (hinv : Inv s) (ht : d.tables = encT s.tables) (hc : d.comps = [])
    (hwd : d.walDir = true) (hw : d.wal = freshWal) (hu : usable s = true) (hsw : s.w = [])
    (hp : s.flushPending = false) : QW d (openedVol s) [] [] [] false where
  inv := hinv
  tables := ht
  comps := hc
  walSorted := by rw [hw]; simp [freshWal]
  qok := by intro m hm; cases hm
  jk := by intro f hf; cases hf
  wal := by rw [hw]; simp [liveFiles, openedVol, hu, hp, freshWal]
  rok := by intro m hm; cases hm
  cok := by intro m hm; cases hm
  tnq := by intro hf; cases hf
  live := fun _ => ⟨hwd, hsw.symm, fun hf => by rw [show (openedVol s).s.flushPending = false from hp] at hf; cases hf⟩
  idle := fun hf => nomatch hu.symm.trans hf

theorem phase3_QW (d : Disk) (h : Clean d) (o : Opts) (d' : Disk) (s : State) (h3 : phase3 d o = .ok (d', s)) :
    QW d' (openedVol s) [] [] [] false := by
  have hread : walReadable d.wal = true := h.ok.walRead
  have hsorted : ((tblsOf d.tables).map (·.gen)).Pairwise (· < ·) :=
    List.Pairwise.sublist (keys_tblsOf_sub d.tables) h.ok.tblSorted
  unfold phase3 at h3
  rw [hread] at h3
  simp only [Bool.not_true, Bool.false_eq_true, if_false] at h3
  split at h3
  · -- nothing to replay
    cases h3
    refine QW_opened ?_ (encT_tblsOf _ h.allc).symm h.nocomp rfl rfl rfl rfl rfl
    exact inv_fresh [] false _ _ true false o nofun (fun _ => rfl) nofun ⟨hsorted, fun t ht => le_maxGen _ t ht⟩
  · -- the replayed records became the newest table
    rename_i hms
    cases h3
    refine QW_opened ?_ ?_ h.nocomp rfl rfl rfl rfl rfl
    · -- the state `flushStep` makes of the replayed store handed to the flusher
      have hi := flushStep_inv _ (inv_fresh (applyMuts [] (walMuts d.wal)) true (tblsOf d.tables) _ true false o
        (fun k v hk => applyMuts_val_ok _ h.ok.putsOk k v hk) nofun nofun ⟨hsorted, fun t ht => le_maxGen _ t ht⟩)
      have hne : applyMuts [] (walMuts d.wal) ≠ [] := fun e => hms (by rw [applyMuts_eq_nil e]; rfl)
      revert hi hne
      generalize applyMuts [] (walMuts d.wal) = L
      intro hi hne
      cases L with
      | nil => exact absurd rfl hne
      | cons p L => exact hi
    · show insertT _ _ d.tables = encT (tblsOf d.tables ++ [_])
      rw [insertT_last _ _ _ (keys_lt_of_clean h), encT_append, encT_tblsOf _ h.allc]
      rfl

theorem recover_QW (d : Disk) (h : DiskOk d) (o : Opts) (d' : Disk) (s : State) (hr : recover d o = .ok (d', s)) :
    QW d' (openedVol s) [] [] [] false := by
  rw [recover_eq d h] at hr
  exact phase3_QW (norm d) (norm_clean d h) o d' s hr

/-- `Open` as a segment: every prefix is a good disk, and the relation holds at the end -/
theorem reopen_seg (d : Disk) (h : DiskOk d) (o : Opts) (d' : Disk) (s : State) (hr : recover d o = .ok (d', s))
    (junks : List (Nat × Layer) := []) :
    Seg (Good3 d) (fun x => x = d) (recoverEvents d junks) (fun x => QW x (openedVol s) [] [] [] false) :=
  (recover_seg d h o d' s hr junks).weaken (fun _ hx => hx) (fun _ hx => hx ▸ recover_QW d h o d' s hr)

theorem vis_or_dup (a b c : Option GoBytes) : vis ((a.or b).or (b.or c)) = vis (a.or (b.or c)) := by
  cases a <;> cases b <;> rfl

/-- what the disk serves when the current WAL file holds the records `rc` (over the handed-over store and the tables) -/
def served (s : State) (rc : List Mutation) (k : Key) : Option Bytes :=
  vis ((Layer.get (applyMuts [] rc) k).or (base s k))

theorem served_snoc (s : State) (rc : List Mutation) (m : Mutation) (hm : m.ok = true) :
    served s (rc ++ [m]) = Mutation.spec (served s rc) m := by
  funext k
  unfold served
  rw [applyMuts_append, applyMuts_cons, applyMuts_nil, get_apply]
  cases m with
  | put k' v' =>
    show vis ((if k = k' then some (some v') else _).or _) = if k = k' then some v' else _
    by_cases hk : k = k'
    · rw [if_pos hk, if_pos hk, Option.some_or]
      exact vis_nonempty v' (by intro he; subst he; simp [Mutation.ok] at hm)
    · rw [if_neg hk, if_neg hk]
  | del k' =>
    show vis ((if k = k' then some none else _).or _) = if k = k' then none else _
    by_cases hk : k = k'
    · rw [if_pos hk, if_pos hk]; rfl
    · rw [if_neg hk, if_neg hk]

theorem served_append (s : State) (rc t : List Mutation) (ht : ∀ m ∈ t, m.ok = true) :
    served s (rc ++ t) = applySpec (served s rc) t := by
  induction t generalizing rc with
  | nil => rw [List.append_nil]; rfl
  | cons m t ih =>
    have : rc ++ m :: t = (rc ++ [m]) ++ t := by simp
    rw [this, ih (rc ++ [m]) (fun x hx => ht x (List.mem_cons_of_mem _ hx)), applySpec_cons,
      served_snoc s rc m (ht m List.mem_cons_self)]

end SST.Proofs.FS
