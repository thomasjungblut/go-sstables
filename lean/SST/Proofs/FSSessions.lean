/-
L6-fs, sessions: the invariants of the interleaved session (`S`, `G` of Proofs/FSInterleave*.lean) are preserved by
the moves of `Close` (Model/FSSessions.lean), plus the bookkeeping invariant `W` of `Close`'s phases.
-/
import SST.Proofs.FSInterleaveGhost
import SST.Proofs.FSInterleaveStep
namespace SST.Proofs.FSS
open SST SST.DBM SST.FS SST.FSI SST.FSS SST.Proofs.DB SST.Proofs.FS SST.Proofs.FSI

/-- taking the db lock for a rotation: the client leaves `idle` as a forced rotation does -/
theorem S_lock {c : Cfg} (h : S c) (hpc : c.pc = .idle) (hr : reflecting c = false) : S { c with pc := .rot0 } :=
  S_pc h .rot0 hpc rfl rfl nofun (.inl hr)

theorem G_lock {async : Bool} {E : Key → Option Bytes} {c : Cfg} (h : G async E c) : G async E { c with pc := .rot0 } :=
  G_frame h rfl rfl rfl rfl rfl rfl rfl nofun

/-- nothing sits in the appender, the current WAL file holds no record, the write store is empty -/
def Drained (c : Cfg) : Prop := c.queue = [] ∧ c.rc = [] ∧ c.w = [] ∧ c.tn = false

/-- where `Close` is, against the threads: the compactor goroutine gone (none configured, or returned) means no
compaction job, and `wal.Close()` starts only then (`kst`, `wk`); with the lock held the client is inside no Put/Delete
and, back at `idle`, drained (`lk`); with the lock released the flusher is done, everything is drained and acknowledged
(`rej`); `pcU`, `pcW` place the client's program counter in the later phases -/
structure W (sc : SCfg) : Prop where
  kst : (sc.comp = false ∨ sc.kstop = true) → kIdle sc.c = true
  wk : sc.ph = .walclosing ∨ sc.ph = .closed → (sc.comp = false ∨ sc.kstop = true)
  lk : sc.ph = .locked → (∀ r, sc.c.pc ≠ .app r) ∧ (sc.c.pc = .idle → Drained sc.c)
  rej : sc.ph.rejecting = true → sc.c.fl = none ∧ Drained sc.c ∧ sc.c.acked = sc.c.hist.length
  pcU : sc.ph = .unlocked ∨ sc.ph = .closed → sc.c.pc = .idle
  pcW : sc.ph = .walclosing → sc.c.pc = .rot0 ∨ sc.c.pc = .rot1

theorem pass_some {async : Bool} {sc sc' : SCfg} {mv : Mv} {e : Option Ev} (h : pass async sc mv = some (e, sc')) :
    ∃ c', move async sc.c mv = some (e, c') ∧ sc' = { sc with c := c' } := by
  unfold pass at h
  split at h
  · rename_i e' c' hmv
    simp only [Option.some.injEq, Prod.mk.injEq] at h
    obtain ⟨rfl, rfl⟩ := h
    exact ⟨c', hmv, rfl⟩
  · cases h

/-- a compactor move under `W` -/
theorem W_k {async : Bool} {sc : SCfg} {c' : Cfg} {e : Option Ev} {mv : Mv} (hW : W sc)
    (hm : Move async sc.c mv e c') (hk : isK mv = true)
    (hg : (sc.comp = false ∨ sc.kstop = true) → ∀ sizes th o, mv ≠ .kstart sizes th o) : W { sc with c := c' } := by
  obtain ⟨hc', hi⟩ := hm.compactor.2 hk
  rw [hc']
  refine { kst := fun hc => ?_, wk := hW.wk, lk := hW.lk, rej := hW.rej, pcU := hW.pcU, pcW := hW.pcW }
  obtain ⟨sizes, th, o, rfl⟩ := hi (hW.kst hc)
  exact absurd rfl (hg hc sizes th o)

/-- a client / flusher move while `Close` has not been called -/
theorem W_running {async : Bool} {sc : SCfg} {c' : Cfg} {e : Option Ev} {mv : Mv} (hW : W sc) (hph : sc.ph = .running)
    (hm : Move async sc.c mv e c') (hk : isK mv = false) : W { sc with c := c' } := by
  obtain ⟨c, ph, comp, kstop⟩ := sc
  obtain rfl : ph = .running := hph
  exact { kst := fun hc => (kIdle_congr (hm.compactor.1 hk)).trans (hW.kst hc), wk := hW.wk, lk := nofun,
          rej := nofun, pcU := nofun, pcW := nofun }

/-- a client / flusher move while `Close` holds the lock: it is a move of the rotation or of the flusher -/
theorem locked_step {async : Bool} {sc : SCfg} {c' : Cfg} {e : Option Ev} {mv : Mv} (hS : S sc.c) (hW : W sc)
    (hp : sc.ph = .locked) (hm : Move async sc.c mv e c') (hk : isK mv = false) (hb : mv ≠ .begin) :
    (∀ r, c'.pc ≠ .app r) ∧ (c'.pc = .idle → Drained c') := by
  obtain ⟨hna, hdr⟩ := hW.lk hp
  cases hm with
  | reject | rotate | log => exact absurd rfl hb
  | torn hl | append hl =>
    refine ⟨hna, fun hx => ?_⟩
    have hx : sc.c.pc = .idle := hx
    rw [hx] at hl
    cases hl
  | doneRotate hpc | doneIdle hpc => exact absurd hpc (hna _)
  | close | create | header => exact ⟨nofun, nofun⟩
  | handoffEmpty hpc _ hw =>
    obtain ⟨q0, t0⟩ := hS.pcq (.inr (.inr hpc))
    exact ⟨nofun, fun _ => ⟨q0, rfl, hw, t0⟩⟩
  | handoff hpc =>
    obtain ⟨q0, t0⟩ := hS.pcq (.inr (.inr hpc))
    exact ⟨nofun, fun _ => ⟨q0, rfl, rfl, t0⟩⟩
  | fstep | fadd => exact ⟨hna, hdr⟩
  | _ => cases hk

theorem rejecting_pc {sc : SCfg} (hW : W sc) (hp : sc.ph.rejecting = true) :
    (sc.c.pc = .idle ∧ (sc.ph = .unlocked ∨ sc.ph = .closed)) ∨
      ((sc.c.pc = .rot0 ∨ sc.c.pc = .rot1) ∧ sc.ph = .walclosing) := by
  cases hph : sc.ph with
  | running => rw [hph] at hp; cases hp
  | locked => rw [hph] at hp; cases hp
  | unlocked => exact Or.inl ⟨hW.pcU (Or.inl hph), Or.inl rfl⟩
  | walclosing => exact Or.inr ⟨hW.pcW hph, rfl⟩
  | closed => exact Or.inl ⟨hW.pcU (Or.inr hph), Or.inr rfl⟩

/-- once `Close` has released the lock the only client / flusher move left is the closing of the last WAL file -/
theorem rej_only_close {async : Bool} {sc : SCfg} {c' : Cfg} {e : Option Ev} {mv : Mv} (hW : W sc)
    (hp : sc.ph.rejecting = true) (hm : Move async sc.c mv e c') (hk : isK mv = false) (hb : mv ≠ .begin)
    (hg : sc.ph = .walclosing → mv ≠ .create) :
    mv = .close ∧ sc.ph = .walclosing ∧ c' = { sc.c with pc := .rot1 } := by
  obtain ⟨hfl, ⟨hq, _, _, _⟩, _⟩ := hW.rej hp
  have hpc := rejecting_pc hW hp
  cases hm with
  | reject | rotate | log => exact absurd rfl hb
  | torn _ hq' => exact absurd hq hq'
  | append _ hq' => rw [hq] at hq'; cases hq'
  | doneRotate h0 | doneIdle h0 | header h0 | handoffEmpty h0 | handoff h0 =>
    rw [h0] at hpc
    rcases hpc with ⟨h, _⟩ | ⟨h | h, _⟩ <;> cases h
  | close h0 =>
    rw [h0] at hpc
    rcases hpc with ⟨h, _⟩ | ⟨_, h⟩
    · cases h
    · exact ⟨rfl, h, rfl⟩
  | create h1 =>
    rw [h1] at hpc
    rcases hpc with ⟨h, _⟩ | ⟨_, h⟩
    · cases h
    · exact absurd rfl (hg h)
  | fstep hfl' | fadd hfl' => rw [hfl] at hfl'; cases hfl'
  | _ => cases hk

/-- a client / flusher move (not the beginning of a call) under `W` -/
theorem W_nonk {async : Bool} {sc : SCfg} {c' : Cfg} {e : Option Ev} {mv : Mv} (hS : S sc.c) (hW : W sc)
    (hm : Move async sc.c mv e c') (hk : isK mv = false) (hb : mv ≠ .begin)
    (hg : sc.ph = .walclosing → mv ≠ .create) : W { sc with c := c' } := by
  obtain ⟨c, ph, comp, kstop⟩ := sc
  cases ph with
  | running => exact W_running hW rfl hm hk
  | locked =>
    exact { kst := fun hc => (kIdle_congr (hm.compactor.1 hk)).trans (hW.kst hc), wk := hW.wk,
            lk := fun _ => locked_step hS hW rfl hm hk hb, rej := nofun, pcU := nofun, pcW := nofun }
  | unlocked => exact nomatch (rej_only_close hW rfl hm hk hb hg).2.1
  | walclosing =>
    obtain ⟨_, _, rfl⟩ := rej_only_close hW rfl hm hk hb hg
    exact { kst := hW.kst, wk := hW.wk, lk := nofun, rej := hW.rej, pcU := nofun, pcW := fun _ => .inr rfl }
  | closed => exact nomatch (rej_only_close hW rfl hm hk hb hg).2.1

/-- `FSS.smove`, one constructor per outcome: a move of the open database passed through (with what `Close`'s
phase and the compactor's life demand of it), a call rejected after `Close` has begun, and the moves of `Close` -/
inductive SMove (async : Bool) (sc : SCfg) : SMv → Option Ev → SCfg → Prop
  | sys {mv e c'} (hm : Move async sc.c mv e c') (hb : mv = .begin → sc.ph = .running)
      (hc : sc.ph = .walclosing → mv ≠ .create)
      (hk : sc.comp = false ∨ sc.kstop = true → ∀ sizes th o, mv ≠ .kstart sizes th o) :
      SMove async sc (.sys mv) e { sc with c := c' }
  | rejected {op rest} (hph : sc.ph ≠ .running) (hp : sc.c.prog = op :: rest) :
      SMove async sc (.sys .begin) none { sc with c := { sc.c with prog := rest } }
  | cbegin (hph : sc.ph = .running) (hpc : sc.c.pc = .idle) (hr : reflecting sc.c = false) :
      SMove async sc .cbegin none { sc with ph := .locked, c := { sc.c with pc := .rot0 } }
  | cunlock (hph : sc.ph = .locked) (hpc : sc.c.pc = .idle) (hfl : sc.c.fl = none) :
      SMove async sc .cunlock none { sc with ph := .unlocked }
  | kexit (hki : kIdle sc.c = true) : SMove async sc .kexit none { sc with kstop := true }
  | cwal (hph : sc.ph = .unlocked) (hks : sc.comp = false ∨ sc.kstop = true) :
      SMove async sc .cwal none { sc with ph := .walclosing, c := { sc.c with pc := .rot0 } }
  | cfinish (hph : sc.ph = .walclosing) (hpc : sc.c.pc = .rot1) :
      SMove async sc .cfinish none { sc with ph := .closed, c := { sc.c with pc := .idle } }

theorem SMove.of_smove {async : Bool} {sc sc' : SCfg} {mv : SMv} {e : Option Ev}
    (hm : smove async sc mv = some (e, sc')) : SMove async sc mv e sc' := by
  cases mv with
  | sys m =>
    have hpass : (m = .begin → sc.ph = .running) → (sc.ph = .walclosing → m ≠ .create) →
        (sc.comp = false ∨ sc.kstop = true → ∀ sizes th o, m ≠ .kstart sizes th o) →
        pass async sc m = some (e, sc') → SMove async sc (.sys m) e sc' := by
      intro hb hc hk hp
      obtain ⟨c', hmv, rfl⟩ := pass_some hp
      exact .sys (.of_move hmv) hb hc hk
    cases m with
    | begin =>
      simp only [smove] at hm
      split at hm
      · rename_i hph
        exact hpass (fun _ => hph) (fun _ => nofun) (fun _ _ _ _ => nofun) hm
      · cases hm
      · rename_i hn _
        split at hm
        · rename_i op rest hp
          split at hm
          · cases hm
          · cases hm
            exact .rejected hn hp
        · cases hm
    | create =>
      simp only [smove] at hm
      split at hm
      · cases hm
      · rename_i hg
        exact hpass nofun (fun hp => absurd (by rw [hp]; rfl) hg) (fun _ _ _ _ => nofun) hm
    | header | handoff =>
      simp only [smove] at hm
      split at hm
      · cases hm
      · exact hpass nofun (fun _ => nofun) (fun _ _ _ _ => nofun) hm
    | kstart sizes th o =>
      simp only [smove] at hm
      split at hm
      · rename_i hg
        refine hpass nofun (fun _ => nofun) (fun hc => ?_) hm
        rcases hc with hc | hc <;> rw [hc] at hg <;> simp at hg
      · cases hm
    | kreflect =>
      simp only [smove] at hm
      split at hm
      · cases hm
      · exact hpass nofun (fun _ => nofun) (fun _ _ _ _ => nofun) hm
    | torn | append | done | close | fstep | fadd | kstep jk =>
      exact hpass nofun (fun _ => nofun) (fun _ _ _ _ => nofun) hm
  | cbegin =>
    simp only [smove] at hm
    split at hm
    · rename_i hc
      simp only [Bool.and_eq_true, beq_iff_eq, Bool.not_eq_true'] at hc
      cases hm
      exact .cbegin hc.1.1 hc.1.2 hc.2
    · cases hm
  | cunlock =>
    simp only [smove] at hm
    split at hm
    · rename_i hc
      simp only [Bool.and_eq_true, beq_iff_eq, Option.isNone_iff_eq_none] at hc
      cases hm
      exact .cunlock hc.1.1 hc.1.2 hc.2
    · cases hm
  | kexit =>
    simp only [smove] at hm
    split at hm
    · rename_i hc
      simp only [Bool.and_eq_true, beq_iff_eq] at hc
      cases hm
      exact .kexit hc.2
    · cases hm
  | cwal =>
    simp only [smove] at hm
    split at hm
    · rename_i hc
      simp only [Bool.and_eq_true, beq_iff_eq, Bool.or_eq_true, Bool.not_eq_true'] at hc
      cases hm
      exact .cwal hc.1 hc.2
    · cases hm
  | cfinish =>
    simp only [smove] at hm
    split at hm
    · rename_i hc
      simp only [Bool.and_eq_true, beq_iff_eq] at hc
      cases hm
      exact .cfinish hc.1 hc.2
    · cases hm

/-- what every enabled move of a session preserves holds along every schedule -/
theorem runS_invariant {P : SCfg → Prop} {async : Bool}
    (hstep : ∀ {sc sc' mv e}, P sc → SMove async sc mv e sc' → P sc') (sched : List SMv) :
    ∀ sc, P sc → P (runS async sc sched) := by
  induction sched with
  | nil => exact fun _ h => h
  | cons mv rest ih =>
    intro sc h
    simp only [runS]
    cases hm : smove async sc mv with
    | none => exact ih sc h
    | some r => exact ih r.2 (hstep h (.of_smove hm))

structure Inv (async : Bool) (E : Key → Option Bytes) (sc : SCfg) : Prop where
  s : S sc.c
  g : G async E sc.c
  w : W sc

theorem Inv_step {async : Bool} {E : Key → Option Bytes} {sc sc' : SCfg} {e : Option Ev} {mv : SMv}
    (h : Inv async E sc) (hm : SMove async sc mv e sc') : Inv async E sc' := by
  have hW := h.w
  cases hm with
  | @sys mv _ _ hm hb hc hk =>
    refine ⟨S_step h.s hm, G_step h.s h.g hm, ?_⟩
    cases hK : isK mv with
    | true => exact W_k hW hm hK hk
    | false =>
      by_cases hbeg : mv = .begin
      · exact W_running hW (hb hbeg) hm hK
      · exact W_nonk h.s hW hm hK hbeg hc
  | rejected =>
    exact ⟨S_ghost h.s, ⟨h.g.ex, h.g.a1, h.g.a2, h.g.a3⟩,
      { kst := hW.kst, wk := hW.wk, lk := hW.lk, rej := hW.rej, pcU := hW.pcU, pcW := hW.pcW }⟩
  | cbegin hph hpc hr =>
    exact ⟨S_lock h.s hpc hr, G_lock h.g,
      { kst := hW.kst, wk := nofun, lk := fun _ => ⟨nofun, nofun⟩, rej := nofun, pcU := nofun, pcW := nofun }⟩
  | cunlock hph hpc hfl =>
    exact ⟨h.s, h.g,
      { kst := hW.kst, wk := nofun, lk := nofun, rej := fun _ => ⟨hfl, (hW.lk hph).2 hpc, h.g.a3 hpc⟩,
        pcU := fun _ => hpc, pcW := nofun }⟩
  | kexit hki =>
    exact ⟨h.s, h.g,
      { kst := fun _ => hki, wk := fun _ => .inr rfl, lk := hW.lk, rej := hW.rej, pcU := hW.pcU, pcW := hW.pcW }⟩
  | cwal hph hks =>
    have hpc : sc.c.pc = .idle := hW.pcU (.inl hph)
    have hr : reflecting sc.c = false := reflecting_eq_false.2 fun _ _ _ _ _ _ hk => by
      rw [kIdle_kj (hW.kst hks)] at hk
      cases hk
    exact ⟨S_lock h.s hpc hr, G_lock h.g,
      { kst := hW.kst, wk := fun _ => hks, lk := nofun, rej := fun _ => hW.rej (by rw [hph]; rfl), pcU := nofun,
        pcW := fun _ => .inl rfl }⟩
  | cfinish hph hpc =>
    obtain ⟨hfl, hdr, hacked⟩ := hW.rej (by rw [hph]; rfl)
    -- `Appender.Close` has closed the file: the client thread is done
    exact ⟨S_pc h.s .idle hpc rfl rfl nofun (.inr rfl), ⟨h.g.ex, h.g.a1, h.g.a2, fun _ => hacked⟩,
      { kst := hW.kst, wk := fun _ => hW.wk (.inl hph), lk := nofun, rej := fun _ => ⟨hfl, hdr, hacked⟩,
        pcU := fun _ => rfl, pcW := nofun }⟩

theorem Inv_run (async : Bool) (E : Key → Option Bytes) (sched : List SMv) :
    ∀ sc, Inv async E sc → Inv async E (runS async sc sched) :=
  runS_invariant Inv_step sched

end SST.Proofs.FSS
