/-
L6: the shape of one compaction cycle for arbitrary per-table flags (`DBM.compactStepSel`; `DBM.compactStep` is
the instance `raw := rawOf s sizes`): the flood-filled flags select a gap-free run of tables, which is replaced
by its merge — a table list that reads the same everywhere and keeps the numbering (`Retabled`).
-/
import SST.Spec.DBSel
import SST.Proofs.DBLayers
import SST.Proofs.DBFlood
namespace SST.Proofs.DB
open SST SST.DBM

/-- the positions below `n` that contiguous flags select are an interval -/
theorem contiguous_positions {flags : List Bool} (hc : Contiguous flags) (n : Nat) :
    ∃ a m, a + m ≤ n ∧ (List.range n).filter (fun i => flags.getD i false) = List.range' a m := by
  induction n with
  | zero => exact ⟨0, 0, Nat.le_refl _, rfl⟩
  | succ n ih =>
    obtain ⟨a, m, ham, hf⟩ := ih
    rw [List.range_succ, List.filter_append, hf]
    cases hn : flags.getD n false with
    | false =>
      rw [List.filter_cons_of_neg (p := fun i => flags.getD i false) fun h => Bool.false_ne_true (hn.symm.trans h)]
      exact ⟨a, m, Nat.le_succ_of_le ham, List.append_nil _⟩
    | true =>
      rw [List.filter_cons_of_pos (p := fun i => flags.getD i false) hn]
      cases m with
      | zero => exact ⟨n, 1, Nat.le_refl _, rfl⟩
      | succ m =>
        -- the last selected position `a + m` is next to `n`: a gap would be selected too, and lie in the interval
        have hlast : flags.getD (a + m) false = true := by
          have : a + m ∈ List.range' a (m + 1) := List.mem_range'_1.2 ⟨Nat.le_add_right _ _, Nat.lt_succ_self _⟩
          rw [← hf] at this
          exact (List.mem_filter.1 this).2
        have han : a + (m + 1) = n := by
          refine Nat.le_antisymm ham (Nat.le_of_not_lt fun hlt => ?_)
          have : a + (m + 1) ∈ List.range' a (m + 1) := by
            rw [← hf, List.mem_filter, List.mem_range]
            exact ⟨hlt, hc (a + m) _ n (Nat.lt_succ_self _) hlt hlast hn⟩
          exact Nat.lt_irrefl _ (List.mem_range'_1.1 this).2
        exact ⟨a, m + 2, Nat.le_of_eq (congrArg Nat.succ han), han ▸ List.range'_1_concat.symm⟩

theorem filterMap_getElem?_mid (pre mid post : List Tbl) :
    (List.range' pre.length mid.length).filterMap (fun i => (pre ++ mid ++ post)[i]?) = mid := by
  induction mid generalizing pre with
  | nil => simp
  | cons m mid ih =>
    rw [List.length_cons, List.range'_succ, List.filterMap_cons]
    have h0 : (pre ++ m :: mid ++ post)[pre.length]? = some m := by simp
    rw [h0]
    have := ih (pre ++ [m])
    simp only [List.length_append, List.length_cons, List.length_nil, List.append_assoc,
      List.cons_append, List.nil_append] at this
    simp only [List.append_assoc, List.cons_append]
    rw [this]

/-- `reflectCompactionResult` on an interval of indices -/
theorem reflect_interval (pre : List Tbl) (t0 : Tbl) (sel' post : List Tbl) (merged : Tbl)
    (ts : List Tbl) (idx : List Nat) (hts : ts = pre ++ (t0 :: sel') ++ post)
    (hidx : idx = List.range' pre.length (sel'.length + 1)) :
    ((List.range ts.length).zip ts).flatMap
      (fun (x : Nat × Tbl) => match x with
        | (i, t) => if i == pre.length then [merged] else if idx.contains i then [] else [t])
    = pre ++ [merged] ++ post := by
  subst hts hidx
  have e : pre.length + 1 + sel'.length = pre.length + (sel'.length + 1) := Nat.add_right_comm ..
  -- the pass is cut along `pre`, `t0`, `sel'`, `post`; within each part the function does not look at the number
  rw [List.range_eq_range', List.append_assoc, zip_range'_append, List.flatMap_append, Nat.zero_add,
    List.cons_append, List.length_cons, List.range'_succ (n := (sel' ++ post).length), List.zip_cons_cons,
    List.flatMap_cons, zip_range'_append, List.flatMap_append, e,
    zip_flatMap_congr _ (fun t => [t]) 0 pre, zip_flatMap_congr _ (fun _ => []) _ sel',
    zip_flatMap_congr _ (fun t => [t]) _ post]
  · simp
  -- the numbers of `post`, of `sel'`, of `pre`
  all_goals intro i t h1 h2; simp only [beq_iff_eq, List.contains_iff_mem, List.mem_range'_1]
  · rw [if_neg (Nat.ne_of_gt (Nat.lt_of_lt_of_le (Nat.lt_add_of_pos_right (Nat.succ_pos _)) h1)),
      if_neg fun h => Nat.not_le.2 (And.right h) h1]
  · rw [if_neg (Nat.ne_of_gt h1), if_pos ⟨Nat.le_of_succ_le h1, Nat.lt_of_lt_of_eq h2 e⟩]
  · rw [Nat.zero_add] at h2
    rw [if_neg (Nat.ne_of_lt h2), if_neg fun h => Nat.not_le.2 h2 (And.left h)]

theorem split_interval (ts : List Tbl) (a m : Nat) (h : a + m ≤ ts.length) :
    ∃ pre mid post, ts = pre ++ mid ++ post ∧ pre.length = a ∧ mid.length = m := by
  refine ⟨ts.take a, (ts.drop a).take m, ts.drop (a + m), ?_, ?_, ?_⟩
  · rw [List.append_assoc, ← List.drop_drop, List.take_append_drop, List.take_append_drop]
  · exact List.length_take_of_le (Nat.le_trans (Nat.le_add_right a m) h)
  · exact List.length_take_of_le (by rw [List.length_drop]; exact Nat.le_sub_of_add_le' h)

/-- the full description of one cycle for an arbitrary `raw`: nothing happens (and nothing is reported as
selected), or the tables whose flood-filled flag is set are exactly a gap-free run `t0 :: sel'` — more tables
than the threshold — which is replaced by its merge under the number of `t0`; the reported numbers are those of
the run -/
theorem compactStepSel_full (s : State) (raw : List Bool) :
    compactStepSel s raw = (s, []) ∨
    ∃ pre t0 sel' post, s.tables = pre ++ (t0 :: sel') ++ post ∧
      (∀ i, i < s.tables.length →
        ((floodFill raw).getD i false = true ↔ pre.length ≤ i ∧ i < pre.length + (sel'.length + 1))) ∧
      s.opts.threshold < ((sel'.length + 1 : Nat) : Int) ∧
      compactStepSel s raw = ({ s with tables :=
        pre ++ [{ gen := t0.gen, cells := mergeRun (t0 :: sel') (pre.length == 0) }] ++ post },
        (t0 :: sel').map (·.gen)) := by
  -- the selected positions are an interval; the table list splits at it, the selected tables are its middle part, and
  -- `reflectCompactionResult`'s index arithmetic puts the merge in the place of that part (`reflect_interval`)
  obtain ⟨a, m, ham, hpos⟩ := contiguous_positions (selection_contiguous raw) s.tables.length
  unfold compactStepSel
  extract_lets flags idx sel
  have hidx : idx = List.range' a m := hpos
  have hsel : sel = idx.filterMap (fun i => s.tables[i]?) := rfl
  clear_value sel idx
  subst hidx
  by_cases hth : ((List.range' a m).length : Int) ≤ s.opts.threshold
  · left; rw [if_pos hth]
  · rw [if_neg hth]
    cases m with
    | zero => left; rfl
    | succ m =>
      obtain ⟨pre, mid, post, htab, rfl, hml⟩ := split_interval s.tables a (m + 1) ham
      rw [htab, ← hml, filterMap_getElem?_mid] at hsel
      subst hsel
      cases sel with
      | nil => cases hml
      | cons t0 sel' =>
        right
        obtain rfl : sel'.length = m := Nat.succ.inj hml
        refine ⟨pre, t0, sel', post, htab, fun i hi => ?_, ?_, ?_⟩
        · rw [← List.mem_range'_1, ← hpos, List.mem_filter, List.mem_range]
          exact (and_iff_right hi).symm
        · rw [List.length_range'] at hth
          exact Int.not_le.1 hth
        · rw [List.range'_succ]
          exact congrArg (fun T => (({ s with tables := T } : State), (t0 :: sel').map (·.gen)))
            (reflect_interval pre t0 sel' post _ s.tables _ htab List.range'_succ)

theorem compactStep_eq_sel (s : State) (sizes : List Nat) :
    compactStep s sizes = compactStepSel s (rawOf s sizes) := rfl

/-- the cycle of `compactStep`: nothing selected and nothing changed, or a gap-free run `t0 :: sel'` is
replaced by one table at `t0`'s number and exactly the run's numbers are reported -/
theorem compactStep_spec2 (s : State) (sizes : List Nat) :
    compactStep s sizes = (s, []) ∨
    ∃ pre t0 sel' post, s.tables = pre ++ (t0 :: sel') ++ post ∧
      compactStep s sizes = ({ s with tables :=
        pre ++ [{ gen := t0.gen, cells := mergeRun (t0 :: sel') (pre.length == 0) }] ++ post },
        (t0 :: sel').map (·.gen)) := by
  rw [compactStep_eq_sel]
  exact (compactStepSel_full s (rawOf s sizes)).imp_right
    fun ⟨pre, t0, sel', post, htab, _, _, h⟩ => ⟨pre, t0, sel', post, htab, h⟩

/-- `s'` is `s` with another table list, one that reads the same everywhere and keeps the numbering -/
structure Retabled (s s' : State) : Prop where
  eq : s' = { s with tables := s'.tables }
  reads : ∀ k, vis (tablesGet s'.tables k) = vis (tablesGet s.tables k)
  gens : GensOk s → GensOk s'

theorem Retabled.refl (s : State) : Retabled s s := ⟨rfl, fun _ => rfl, id⟩

/-- a run of tables replaced by its merge, under the number of the run's oldest table -/
theorem retabled_merge (s : State) (pre : List Tbl) (t0 : Tbl) (sel' post : List Tbl)
    (htab : s.tables = pre ++ (t0 :: sel') ++ post) :
    Retabled s { s with tables :=
      pre ++ [{ gen := t0.gen, cells := mergeRun (t0 :: sel') (pre.length == 0) }] ++ post } where
  eq := rfl
  reads k := by
    rw [htab]
    exact vis_tablesGet_merge pre (t0 :: sel') post t0.gen (pre.length == 0)
      (fun hd => List.eq_nil_of_length_eq_zero (by simpa using hd)) k
  gens := by
    rintro ⟨hp, hm⟩
    rw [htab] at hp hm
    refine ⟨hp.sublist ?_, fun t ht => ?_⟩
    · simp only [List.map_append, List.map_cons, List.map_nil]
      exact ((List.Sublist.refl _).append (.cons_cons _ (List.nil_sublist _))).append (.refl _)
    simp only [List.mem_append, List.mem_cons, List.not_mem_nil, or_false] at ht
    rcases ht with ((ht | rfl) | ht)
    · exact hm t (by simp [ht])
    · exact hm t0 (by simp)
    · exact hm t (by simp [ht])

theorem compactStepSel_retabled (s : State) (raw : List Bool) : Retabled s (compactStepSel s raw).1 := by
  rcases compactStepSel_full s raw with (h | ⟨pre, t0, sel', post, htab, _, _, h⟩) <;> rw [h]
  · exact .refl s
  · exact retabled_merge s pre t0 sel' post htab

theorem compactStep_retabled (s : State) (sizes : List Nat) : Retabled s (compactStep s sizes).1 := by
  rw [compactStep_eq_sel]
  exact compactStepSel_retabled s (rawOf s sizes)

end SST.Proofs.DB
