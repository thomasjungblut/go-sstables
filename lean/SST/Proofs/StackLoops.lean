/-
L7, fidelity of the two-phase formulation: the literal interleaved loops of `flushMemstore` (C14's
`Mem.flushLoop`, parametric in the writer) and of `MergeCompact` (C08's iterator `mcNext`), run against the
byte-level writer `SstW`, end in exactly the writer state the collected call list produces.
-/
import SST.Proofs.StackFlush
namespace SST.Proofs.Stack
open SST SST.Stack Generated

/-- `flushMemstore(m, includeTombstones = true)` against the byte-level writer = the run of the collected calls -/
theorem flushLoop_sstw (cfg : SstCfg) : ∀ (l : List (GoBytes × GoBytes)) (w : SstW),
    (∀ r ∈ (w.run cfg (l.map mkCall)).2, r = .ok) →
    Mem.flushLoop (sstWriteNext cfg) true w l = .ok (w.run cfg (l.map mkCall)).1
  | [], _, _ => rfl
  | (k, v) :: rest, w, h => by
    simp only [List.map_cons, SstW.run, List.mem_cons, forall_eq_or_imp, mkCall] at h ⊢
    simp only [Mem.flushLoop, if_true, sstWriteNext]
    rw [show w.writeNext cfg (k.getD []) v .none = (_, .ok) from Prod.ext rfl h.1]
    exact flushLoop_sstw cfg rest _ h.2

/-- the abstract order-checking writer of the Merge model has no faults left and holds the same last key as the
byte-level writer: then every call the abstract writer accepts the byte-level writer accepts too, and `SameLast` holds
again (`writeNext_agree`, for `cfg.cmp = bytesCmp`) -/
structure SameLast (W : Merge.WState) (w : SstW) : Prop where
  noFault : W.failAt = []
  last : W.lastKey = w.lastKey

theorem writeNext_agree (cfg : SstCfg) (hcmp : cfg.cmp = bytesCmp) {W : Merge.WState} {w : SstW}
    (h : SameLast W w) (k v : GoBytes) (hok : (Merge.writeNext W k v).1 = none) :
    (w.writeNext cfg (k.getD []) v .none).2 = .ok ∧
    SameLast (Merge.writeNext W k v).2 (w.writeNext cfg (k.getD []) v .none).1 ∧
    (Merge.writeNext W k v).2.out = W.out ++ [(k.getD [], v)] := by
  unfold Merge.writeNext at hok ⊢
  unfold SstW.writeNext SstW.orderCheck
  rw [h.noFault] at hok ⊢
  simp only [List.contains_nil, Bool.false_eq_true, if_false] at hok ⊢
  rw [← h.last, hcmp]
  cases hl : W.lastKey with
  | none => exact ⟨rfl, ⟨rfl, rfl⟩, rfl⟩
  | some l =>
    rw [hl] at hok
    simp only at hok ⊢
    cases hc : bytesCmp l (k.getD []) with
    | lt => exact ⟨rfl, ⟨rfl, rfl⟩, rfl⟩
    | eq | gt => rw [hc] at hok; cases hok

/-- THE LITERAL COMPACTION LOOP: whenever the Merge model's `MergeCompact` loop (abstract writer, no faults)
succeeds, the same iterator driving the byte-level writer succeeds, every `WriteNext` is accepted, and the
writer ends in the state the run of the abstract writer's new records produces -/
theorem compactLoop_eq (cfg : SstCfg) (hcmp : cfg.cmp = bytesCmp) (endErr : Nat → Option Err)
    (reduce : Merge.ReduceFn) (fuel : Nat) : ∀ (s : Merge.MCIter) (W : Merge.WState) (w : SstW),
    SameLast W w → (Merge.mergeCompactLoop endErr reduce fuel s W).1 = none →
    ∃ extra, (Merge.mergeCompactLoop endErr reduce fuel s W).2.out = W.out ++ extra ∧
      compactLoopSst cfg endErr reduce fuel s w = (none, (w.run cfg (extra.map kvCall)).1) ∧
      ∀ r ∈ (w.run cfg (extra.map kvCall)).2, r = .ok := by
  induction fuel with
  | zero => exact fun _ _ _ _ h => nomatch h
  | succ fuel ih =>
    intro s W w hs h
    unfold Merge.mergeCompactLoop at h ⊢
    unfold compactLoopSst
    cases hn : Merge.mcNext endErr reduce s with
    | mk stp s' =>
      rw [hn] at h
      cases stp with
      | done => exact ⟨[], (List.append_nil _).symm, rfl, fun _ hr => nomatch hr⟩
      | err e => cases h
      | item k v =>
        simp only at h ⊢
        cases hw : Merge.writeNext W k v with
        | mk e W1 =>
          rw [hw] at h
          cases e with
          | some e => cases h
          | none =>
            simp only at h ⊢
            have hag := writeNext_agree cfg hcmp hs k v (by rw [hw])
            rw [hw] at hag
            obtain ⟨a1, a2, a3⟩ := hag
            obtain ⟨extra, e1, e2, e3⟩ := ih s' W1 _ a2 h
            refine ⟨(k.getD [], v) :: extra, ?_, ?_, ?_⟩
            · rw [e1, a3, List.append_assoc]; rfl
            · rw [show w.writeNext cfg (k.getD []) v .none = (_, .ok) from Prod.ext rfl a1]
              exact e2
            · exact List.forall_mem_cons.mpr ⟨a1, e3⟩

end SST.Proofs.Stack
