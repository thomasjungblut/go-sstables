/-
L6-fs, interleaved: the bookkeeping invariant `G` — the mutations that are durable (`Hd`) are a prefix of the history
of all mutations begun so far, the rest sits in the appender; what the disk serves is `Hd` applied to `E`, the content
the disk served when the session was opened.
-/
import SST.Proofs.FSInterleave
import SST.Proofs.FSInterleaveMoves
namespace SST.Proofs.FSI
open SST SST.DBM SST.FS SST.FSI SST.Proofs.DB SST.Proofs.FS

/-- `ex`: the durable prefix `Hd` (it covers `mark` and, with the synchronous WAL, `acked`); `a1`–`a3`: at most one call
is in flight, none while the client is idle -/
structure G (async : Bool) (E : Key → Option Bytes) (c : Cfg) : Prop where
  ex : ∃ Hd, c.hist = Hd ++ c.queue ∧ served (memState c) c.rc = applySpec E Hd ∧ c.mark ≤ Hd.length ∧
    (async = false → c.acked ≤ Hd.length)
  a1 : c.acked ≤ c.hist.length
  a2 : c.hist.length ≤ c.acked + 1
  a3 : c.pc = .idle → c.acked = c.hist.length

/-- `served` only looks at the records in the current file, the store being flushed, and what the tables show -/
theorem served_vis (s s' : State) (rc : List Mutation) (hr : s'.r = s.r)
    (ht : ∀ k, vis (tablesGet s'.tables k) = vis (tablesGet s.tables k)) : served s' rc = served s rc := by
  funext k
  unfold served base
  rw [hr]
  exact vis_or_congr _ (vis_or_congr _ (ht k))

/-- a move that does not touch the history, the appender, the current file's records, the flushed store or the
reader list -/
theorem G_frame {async : Bool} {E : Key → Option Bytes} {c c' : Cfg} (h : G async E c)
    (h1 : c'.hist = c.hist) (h2 : c'.queue = c.queue) (h3 : c'.rc = c.rc) (h4 : c'.mark = c.mark)
    (h5 : c'.acked = c.acked) (h6 : fStore c' = fStore c) (h7 : c'.tables = c.tables)
    (h8 : c'.pc = .idle → c.pc = .idle) : G async E c' := by
  obtain ⟨Hd, e1, e2, e3, e4⟩ := h.ex
  refine ⟨⟨Hd, by rw [h1, h2]; exact e1, ?_, by rw [h4]; exact e3, by rw [h5]; exact e4⟩,
    by rw [h5, h1]; exact h.a1, by rw [h5, h1]; exact h.a2, fun hp => by rw [h5, h1]; exact h.a3 (h8 hp)⟩
  rw [h3, ← e2]
  exact served_vis _ _ _ h6 fun k => congrArg (fun ts => vis (tablesGet ts k)) h7

theorem G_step {async : Bool} {E : Key → Option Bytes} {c c' : Cfg} {mv : Mv} {e : Option Ev} (hS : S c)
    (h : G async E c) (hm : Move async c mv e c') : G async E c' := by
  obtain ⟨Hd, e1, e2, e3, e4⟩ := h.ex
  cases hm with
  | reject hpc | kreflect _ hpc => exact G_frame h rfl rfl rfl rfl rfl rfl rfl (fun _ => hpc)
  | rotate | doneRotate | close | create | header => exact G_frame h rfl rfl rfl rfl rfl rfl rfl nofun
  | torn | kstart | kmerge | kload | kunlinkMeta | kunlink | krmdir =>
    exact G_frame h rfl rfl rfl rfl rfl rfl rfl id
  | @log _ _ m _ hpc =>
    have ha := h.a3 hpc
    refine ⟨⟨Hd, ?_, e2, e3, e4⟩, ?_, ?_, nofun⟩
    · show c.hist ++ [m] = Hd ++ (c.queue ++ [m])
      rw [e1, List.append_assoc]
    · show c.acked ≤ (c.hist ++ [m]).length
      rw [List.length_append]; omega
    · show (c.hist ++ [m]).length ≤ c.acked + 1
      rw [List.length_append, ha]; exact Nat.le_refl _
  | @append m q hl hq =>
    have hmok : m.ok = true := hS.qOk m (by rw [hq]; exact List.mem_cons_self)
    refine ⟨⟨Hd ++ [m], ?_, ?_, ?_, ?_⟩, h.a1, h.a2, h.a3⟩
    · show c.hist = Hd ++ [m] ++ q
      rw [e1, hq, List.append_assoc]; rfl
    · show served (memState c) (c.rc ++ [m]) = _
      rw [served_snoc _ _ _ hmok, e2, applySpec_append]
      rfl
    · rw [List.length_append]; exact Nat.le_succ_of_le e3
    · intro ha
      rw [List.length_append]; exact Nat.le_succ_of_le (e4 ha)
  | doneIdle hpc hq =>
    refine ⟨⟨Hd, e1, e2, e3, fun ha => ?_⟩, Nat.le_refl _, Nat.le_succ _, fun _ => rfl⟩
    show c.hist.length ≤ Hd.length
    rw [e1, hq ha, List.append_nil]; exact Nat.le_refl _
  | handoffEmpty hpc hfl hw | handoff hpc hfl hw =>
    -- what is served does not change: the records of the closed file are the handed-over store
    obtain ⟨hq, _⟩ := hS.pcq (.inr (.inr hpc))
    have hHd : c.hist = Hd := by rw [e1, hq, List.append_nil]
    have hrc : applyMuts [] c.rc = c.w := by have := hS.wq; rwa [hq, List.append_nil] at this
    refine ⟨⟨Hd, e1, ?_, Nat.le_of_eq (congrArg _ hHd), fun _ => Nat.le_of_eq (congrArg _ hHd)⟩,
      Nat.le_refl _, Nat.le_succ _, fun _ => rfl⟩
    rw [← e2]
    funext k
    unfold served base memState fStore
    simp only [hfl, hrc, hw, applyMuts_nil, layerGet_nil, Option.none_or]
  | fstep hfl => exact G_frame h rfl rfl rfl rfl rfl (by unfold fStore; rw [hfl]) rfl id
  | fadd hfl =>
    refine ⟨⟨Hd, e1, ?_, e3, e4⟩, h.a1, h.a2, h.a3⟩
    rw [← e2]
    funext k
    unfold served base memState fStore
    rw [hfl]
    simp only [tablesGet_append, tablesGet_single, layerGet_nil, Option.none_or]
  | @krename npre nsel cells _ _ _ _ hk =>
    refine ⟨⟨Hd, e1, ?_, e3, e4⟩, h.a1, h.a2, h.a3⟩
    rw [← e2, (hS.kwf.reflecting hk).2.2.1]
    exact served_vis (memState c) _ c.rc rfl (vis_compacted c.tables npre nsel _)

/-! ## the configuration right after `Open` -/

theorem start_SG (d0 : Disk) (h0 : DiskOk d0) (o0 : Opts) (d1 : Disk) (s1 : State)
    (hr0 : recover d0 o0 = .ok (d1, s1)) (prog : List Op) (async : Bool) :
    S (start d1 (openedVol s1) prog) ∧ G async (logical d0) (start d1 (openedVol s1) prog) := by
  have hq := recover_QW d0 h0 o0 d1 s1 hr0
  obtain ⟨ho, hc, hp, _⟩ := recover_opened d0 o0 d1 s1 hr0
  have hu : usable (openedVol s1).s = true := by unfold usable; show (s1.isOpen && !s1.closed) = true; rw [ho, hc]; rfl
  -- the boundary after `Open` as a configuration, with the program put in
  have hS : S (start d1 (openedVol s1) prog) := by
    have := S_ghost (S_of_QW hq hu (pc := .idle) (.inl rfl)) (P := prog) (H := []) (a := 0) (m := 0)
    simp only [cfgOf, openedVol, hp] at this
    exact this
  refine ⟨hS, ⟨[], rfl, ?_, Nat.le_refl _, fun _ => Nat.le_refl _⟩, Nat.le_refl _, Nat.le_succ _, fun _ => rfl⟩
  rw [← hS.serves]
  exact (recover_diskOk d0 h0 o0 d1 s1 hr0).2

/-- what the two invariants give at any moment: the disk is well-formed and serves the reference after a prefix
`hist.take p` of the mutations begun so far that contains everything up to the last completed rotation (everything,
when nothing sits in the appender); at most one call is in flight; with the synchronous WAL the prefix contains every
acknowledged mutation -/
theorem SG_good {async : Bool} {E : Key → Option Bytes} {c : Cfg} (hS : S c) (hG : G async E c) :
    DiskOk c.d ∧ c.acked ≤ c.hist.length ∧ c.hist.length ≤ c.acked + 1 ∧
      ∃ p, c.mark ≤ p ∧ p ≤ c.hist.length ∧ (async = false → c.acked ≤ p) ∧ (c.queue = [] → p = c.hist.length) ∧
        logical c.d = applySpec E (c.hist.take p) := by
  obtain ⟨Hd, e1, e2, e3, e4⟩ := hG.ex
  refine ⟨hS.diskOk, hG.a1, hG.a2, Hd.length, e3, ?_, e4, fun hq => ?_, ?_⟩
  · rw [e1, List.length_append]; exact Nat.le_add_right _ _
  · rw [e1, hq, List.append_nil]
  · rw [hS.serves, e2, e1, List.take_left]

/-- along any schedule: the calls begun so far are a prefix of the program, and the history lists their mutations -/
theorem hist_is_program (async : Bool) (sched : List Mv) (c : Cfg) (prog0 pre : List Op)
    (h1 : prog0 = pre ++ c.prog) (h2 : c.hist = pre.filterMap Op.accepted) :
    ∃ pre', prog0 = pre' ++ (FSI.run async c sched).prog ∧ (FSI.run async c sched).hist = pre'.filterMap Op.accepted := by
  refine run_invariant (P := fun c => ∃ pre, prog0 = pre ++ c.prog ∧ c.hist = pre.filterMap Op.accepted) ?_ sched c
    ⟨pre, h1, h2⟩
  rintro c c' mv e ⟨pre, h1, h2⟩ hm
  rcases hm.prog with ⟨hp, hh⟩ | ⟨op, -, hp, hh⟩
  · exact ⟨pre, by rw [hp]; exact h1, by rw [hh]; exact h2⟩
  · refine ⟨pre ++ [op], by rw [h1, hp, List.append_assoc]; rfl, ?_⟩
    rw [hh, h2, filterMap_snoc]

/-- at most one call in flight (`n ≤ a + 1`): a prefix that contains the acknowledged mutations is those, or all.
This is all that the synchronous forms of the crash theorems add to the general ones. -/
theorem acked_or_all {a p n : Nat} (h1 : a ≤ p) (h2 : p ≤ n) (h3 : n ≤ a + 1) : p = a ∨ p = n := by omega

theorem take_acked_or_all {α : Type} (hist : List α) {a p : Nat} (h1 : a ≤ p) (h2 : p ≤ hist.length)
    (h3 : hist.length ≤ a + 1) : hist.take p = hist.take a ∨ hist.take p = hist := by
  rcases acked_or_all h1 h2 h3 with rfl | rfl
  · exact .inl rfl
  · exact .inr List.take_length

end SST.Proofs.FSI
