/-
Pointer-level skip list: the representation relation `Rep` / `WF` and the descent
`findGreaterOrEqual` (returned node and `prevTable`).
-/
import SST.Proofs.SkipListPtrBasic
import SST.Proofs.SkipList
namespace SST.SkipListPtr
open SST SST.Proofs

variable {K V : Type}

/-- "linked into level `l`" -/
def lvl (l : Nat) (e : Nat × SNode K V) : Bool := decide (l < e.2.height)

/-- addresses of the entries linked into level `l` -/
def idxAt (o : List (Nat × SNode K V)) (l : Nat) : List Nat := (o.filter (lvl l)).map (·.1)

theorem idxAt_append (a b : List (Nat × SNode K V)) (l : Nat) :
    idxAt (a ++ b) l = idxAt a l ++ idxAt b l := by
  simp [idxAt]

/-- `order` = the (address, abstract node) pairs in level-0 order.  Every level-`l` chain from the head
visits exactly the addresses of the entries of height > `l`, in order. -/
structure Rep (cmp : K → K → Ordering) (pl : PList K V) (order : List (Nat × SNode K V)) : Prop where
  nodup : (order.map (·.1)).Nodup
  node : ∀ e ∈ order, ∃ n : PNode K V, pl.arena[e.1]? = some n ∧ e.2 = toS n
  headLen : pl.head.length = pl.maxHeight
  mh : 1 ≤ pl.maxHeight
  hts : ∀ e ∈ order, 1 ≤ e.2.height ∧ e.2.height ≤ pl.maxHeight
  chain : ∀ l, l < pl.maxHeight →
    ∃ p, pl.head[l]? = some p ∧ Seg pl.arena l p (idxAt order l) none
  size : pl.size = order.length
  sorted : Sorted cmp (order.map (·.2))

def WF (cmp : K → K → Ordering) (pl : PList K V) : Prop := ∃ order, Rep cmp pl order

/-- per-level predecessor of the position after the entries `o`: the last entry of `o` linked into
level `l`, or the head -/
def predRef (o : List (Nat × SNode K V)) (l : Nat) : Ref := lastRef (idxAt o l).getLast?

theorem predRef_snoc (d : List (Nat × SNode K V)) {e : Nat × SNode K V} {l : Nat}
    (hl : l < e.2.height) : predRef (d ++ [e]) l = .node e.1 := by
  have : lvl l e = true := decide_eq_true hl
  simp [predRef, idxAt, List.filter_append, this, lastRef]

theorem predRef_append_low {done more : List (Nat × SNode K V)} {l : Nat}
    (hlow : more.find? (lvl l) = none) : predRef (done ++ more) l = predRef done l := by
  have : idxAt more l = [] := by
    rw [idxAt, List.filter_eq_nil_iff.2 fun e he => by simpa using List.find?_eq_none.1 hlow e he]; rfl
  simp [predRef, idxAt_append, this]

/-- `x.Next(level)` = the first entry after `x` that is linked into `level` -/
theorem nextOf_zip {cmp : K → K → Ordering} {pl : PList K V} {order done todo : List (Nat × SNode K V)}
    {x : Ref} {level : Nat} (hrep : Rep cmp pl order) (ho : order = done ++ todo)
    (hx : predRef done level = x) (hlv : level < pl.maxHeight) :
    nextOf pl x level = some ((todo.find? (lvl level)).map (·.1)) := by
  have hp := path_head_iff.2 (hrep.chain level hlv)
  rw [ho, idxAt_append] at hp
  rw [← hx, predRef, ← endRef_head, path_next_end hp, idxAt, List.head?_map, List.head?_filter]

theorem lvl0_true {cmp : K → K → Ordering} {pl : PList K V} {order : List (Nat × SNode K V)}
    (hrep : Rep cmp pl order) {e : Nat × SNode K V} (he : e ∈ order) : lvl 0 e = true :=
  decide_eq_true (hrep.hts e he).1

/-- `next != nil && Compare(key, next.key) > 0` at the address of an entry looks at that entry's key -/
theorem advance_entry {cmp : K → K → Ordering} {pl : PList K V} {order : List (Nat × SNode K V)}
    (hrep : Rep cmp pl order) {e : Nat × SNode K V} (he : e ∈ order) (key : K) :
    advance? cmp pl key (some e.1) = some (if cmp key e.2.key == .gt then some e.1 else none) := by
  obtain ⟨n, hn, hs⟩ := hrep.node e he
  simp only [advance?, hn, hs, toS]
  split <;> rfl

/-- the loop test under the cut: the walk moves right exactly onto the entries below the key -/
theorem advance_cut {cmp : K → K → Ordering} {pl : PList K V}
    {order o1 o2 more : List (Nat × SNode K V)} {key : K}
    (hrep : Rep cmp pl order) (ho : order = o1 ++ o2) (c : Cuts cmp (fun e => e.2.key) key o1 o2)
    (hm : ∀ e ∈ more, e ∈ o1) (level : Nat) :
    advance? cmp pl key (((more ++ o2).find? (lvl level)).map (·.1))
      = some ((more.find? (lvl level)).map (·.1)) := by
  rw [List.find?_append]
  cases hfind : more.find? (lvl level) with
  | some e' =>
    have hem := hm e' (List.mem_of_find?_eq_some hfind)
    rw [Option.some_or, Option.map_some, advance_entry hrep (ho ▸ List.mem_append_left _ hem), c.lo e' hem]
    rfl
  | none =>
    rw [Option.none_or]
    cases h2 : o2.find? (lvl level) with
    | none => rfl
    | some e' =>
      have he2 := List.mem_of_find?_eq_some h2
      rw [Option.map_some, advance_entry hrep (ho ▸ List.mem_append_right _ he2),
        if_neg (by simpa using c.ge e' he2)]
      rfl

/-- the slots `n-1, …, 0` of a `prevTable`, filled on the way down with the per-level predecessors of
the position after `o1` -/
def fillPrev (o1 : List (Nat × SNode K V)) : Nat → List (Option Ref) → List (Option Ref)
  | 0, t => t
  | n + 1, t => fillPrev o1 n (t.set n (some (predRef o1 n)))

theorem fillPrev_length (o1 : List (Nat × SNode K V)) :
    ∀ (n : Nat) (t : List (Option Ref)), (fillPrev o1 n t).length = t.length
  | 0, _ => rfl
  | n + 1, t => by rw [fillPrev, fillPrev_length o1 n, List.length_set]

theorem fillPrev_get (o1 : List (Nat × SNode K V)) :
    ∀ (n : Nat) (t : List (Option Ref)) (l : Nat), n ≤ t.length →
      (fillPrev o1 n t)[l]? = if l < n then some (some (predRef o1 l)) else t[l]?
  | 0, _, _, _ => rfl
  | n + 1, t, l, hn => by
    rw [fillPrev, fillPrev_get o1 n _ l (by rw [List.length_set]; exact Nat.le_of_succ_le hn)]
    by_cases hl : l = n
    · subst hl
      rw [if_neg (Nat.lt_irrefl l), if_pos (Nat.lt_succ_self l), List.getElem?_set_self hn]
    · rw [List.getElem?_set_ne (Ne.symm hl)]
      by_cases h : l < n
      · rw [if_pos h, if_pos (Nat.lt_succ_of_lt h)]
      · rw [if_neg h, if_neg fun h' => (Nat.lt_succ_iff_lt_or_eq.1 h').elim h hl]

theorem recordPrev_eq {pt : Option (List (Option Ref))} {level mh : Nat} (x : Ref)
    (hpt : ∀ t ∈ pt, t.length = mh) (hlv : level < mh) :
    recordPrev pt level x = some (pt.map (·.set level (some x))) := by
  cases pt with
  | none => rfl
  | some t => simp only [recordPrev, hpt t rfl, hlv, if_true, Option.map_some]

/-- the loop of the descent; its invariant: `x` is the predecessor of the position after `done` at every
level up to the current one, so that what is recorded on the way down is right -/
theorem findGEAux_spec {cmp : K → K → Ordering} {pl : PList K V}
    {order o1 o2 : List (Nat × SNode K V)} {key : K}
    (hrep : Rep cmp pl order) (ho : order = o1 ++ o2) (c : Cuts cmp (fun e => e.2.key) key o1 o2) :
    ∀ (fuel : Nat) (done more : List (Nat × SNode K V)) (x : Ref) (level : Nat)
      (pt : Option (List (Option Ref))),
      o1 = done ++ more → (∀ l, l ≤ level → predRef done l = x) → level < pl.maxHeight →
      more.length + level + 1 ≤ fuel → (∀ t ∈ pt, t.length = pl.maxHeight) →
      findGEAux cmp pl key fuel x level pt
        = some (o2.head?.map (·.1), pt.map (fillPrev o1 (level + 1))) := by
  intro fuel
  induction fuel with
  | zero => intro done more x level pt _ _ _ hf _; exact absurd hf (Nat.not_succ_le_zero _)
  | succ fuel ih =>
    intro done more x level pt h1 hx hlv hf hpt
    have ho' : order = done ++ (more ++ o2) := by rw [ho, h1, List.append_assoc]
    simp only [findGEAux, nextOf_zip hrep ho' (hx level (Nat.le_refl _)) hlv,
      advance_cut hrep ho c (fun e he => h1 ▸ List.mem_append_right _ he) level]
    cases hfind : more.find? (lvl level) with
    | some e' =>
      -- move right, onto `e'`
      obtain ⟨hp, mid, more', hm, _⟩ := List.find?_eq_some_iff_append.1 hfind
      refine ih (done ++ mid ++ [e']) more' (.node e'.1) level pt ?_ ?_ hlv ?_ hpt
      · rw [h1, hm]; simp
      · exact fun l hl => predRef_snoc _ (Nat.lt_of_le_of_lt hl (of_decide_eq_true hp))
      · have : more'.length + 1 ≤ more.length := by
          rw [hm, List.length_append]; exact Nat.le_add_left _ _
        rw [Nat.add_right_comm]
        exact Nat.le_trans (Nat.add_le_add_right this level) (Nat.le_of_succ_le_succ hf)
    | none =>
      -- nothing of `more` is linked into the level: record `x`, go down
      have hpred : predRef o1 level = x := by
        rw [h1, predRef_append_low hfind]; exact hx level (Nat.le_refl _)
      simp only [Option.map_none, recordPrev_eq x hpt hlv]
      cases level with
      | zero =>
        -- the search passes over `more` (`hfind`); every entry is linked into level 0, so the next node is the
        -- first entry of `o2`
        rw [if_pos rfl, List.find?_append, hfind, Option.none_or, ← hpred]
        cases o2 with
        | nil => rfl
        | cons e t =>
          rw [List.find?_cons_of_pos (lvl0_true hrep (ho ▸ List.mem_append_right _ List.mem_cons_self))]
          rfl
      | succ l =>
        rw [if_neg (Nat.succ_ne_zero l), Nat.add_sub_cancel,
          ih done more x l _ h1 (fun l' hl' => hx l' (Nat.le_succ_of_le hl')) (Nat.lt_of_succ_lt hlv)
            (Nat.le_of_succ_le_succ hf), Option.map_map,
          ← hpred]
        · rfl
        · intro t ht
          cases pt with
          | none => cases ht
          | some t0 => cases ht; rw [List.length_set]; exact hpt t0 rfl

/-- `findGreaterOrEqual` on a well-formed structure whose order the key cuts into `o1` and `o2`: the returned
node is the first entry of `o2` (nil if none), never a panic, the fuel suffices, and every `prevTable` slot
holds the level's predecessor. -/
theorem findGE_spec {cmp : K → K → Ordering} {pl : PList K V}
    {order o1 o2 : List (Nat × SNode K V)} {key : K}
    (hrep : Rep cmp pl order) (ho : order = o1 ++ o2) (c : Cuts cmp (fun e => e.2.key) key o1 o2)
    (pt : Option (List (Option Ref))) (hpt : ∀ t ∈ pt, t.length = pl.maxHeight) :
    findGE cmp pl key pt = some (o2.head?.map (·.1), pt.map (fillPrev o1 pl.maxHeight)) := by
  have hmh := hrep.mh
  have hsz : o1.length ≤ pl.size := by
    rw [hrep.size, ho, List.length_append]; exact Nat.le_add_right _ _
  have := findGEAux_spec hrep ho c (pl.size + pl.maxHeight + 1) [] o1 .head
    (pl.maxHeight - 1) pt rfl (fun _ _ => rfl) (Nat.sub_lt hmh Nat.one_pos)
    (Nat.succ_le_succ (Nat.add_le_add hsz (Nat.sub_le _ _))) hpt
  rwa [Nat.sub_add_cancel hmh] at this

end SST.SkipListPtr
