/-
L7, flush and rotation: a memstore model state, drained by `FlushWithTombstones` through the byte-level
writer `SstW`, closed and opened with the reader model, is a live table that decodes to the memstore's
layer.  Black boxes: C14 (`flush_spec`: the calls are the reference entries, strictly ascending), C15
(`call_results`), and the lemmas behind C03 (`Proofs.Sst.openTable_ok`, `reads_as_map`: the table of an
ascending list opens to a reader that reads as the sorted map and carries truthful metadata).
-/
import SST.Proofs.StackBasic
import SST.Proofs.MemStore
import SST.Props.C15
namespace SST.Proofs.Stack
open SST SST.Stack SST.DBM Generated

/-- the fault-free `WriteNext` call for a pair (`writeTable`, `compactStep` and `compactStepF` write this function out) -/
abbrev kvCall (p : Bytes × GoBytes) : Call := { key := p.1, value := p.2, fault := .none }

theorem compsOk (P : Params) (hP : ParamsOk P) : CompsOk P.comps P.cfg :=
  ⟨rfl, rfl, hP.data, hP.index, by show snappyCode ≤ maxCompression; decide,
    by show noneCode ≤ maxCompression; decide⟩

/-- THE WRITE–READ BRIDGE: a strictly ascending list of pairs whose sizes fit, written call by call through
`SstW` with the default options, closed and opened with the default reader options, is a live table whose
three files are `tableOf` the list, whose reader answers as the sorted map of the list and whose metadata is
truthful; in particular no call is rejected and the table loads. -/
theorem writeAndOpen_ok (P : Params) (hP : ParamsOk P) (g : Nat) (kvs : List KV)
    (ha : StrictAsc bytesCmp kvs) (hf : FitsKV P.cfg kvs) (onW : WRes → Fail) (onO : Err → Fail) :
    ∃ t, writeAndOpen P g (kvs.map kvCall) onW onO = .ok t ∧
      t.gen = g ∧ TblDec P t kvs := by
  have hc := compsOk P hP
  have hres : ∀ r ∈ ((SstW.open P.cfg).run P.cfg (kvs.map kvCall)).2, r = .ok := by
    rw [C15.call_results]
    exact (Proofs.Sst.acceptedFrom_ascending bytesCmp kvs [] ha).2
  have hb : BloomOk (P.mkBloom ((SstW.open P.cfg).run P.cfg (kvs.map kvCall)).1.bloomKeys) kvs := by
    intro bf hbf p hp
    refine hP.bloom _ bf hbf _ ?_
    rw [Proofs.Sst.run_bloomKeys P.cfg _ _ hres, List.map_map]
    exact List.mem_append_right _ (List.mem_map_of_mem hp)
  obtain ⟨idx, hload, href⟩ := Proofs.Sst.table_index P.comps P.cfg kvs hc hf ha .slice trivial
  have hwt : writeTable P.cfg kvs = tableOf P.cfg kvs := Proofs.Sst.writeTable_eq P.cfg kvs ha
  have hopen := fun bloom => Proofs.Sst.openTable_ok P.comps P.cfg kvs hc hf .slice {} bloom idx hload href.all
  rw [← hwt] at hopen
  have hclose : ((SstW.open P.cfg).run P.cfg (kvs.map kvCall)).1.close = writeTable P.cfg kvs := rfl
  unfold writeAndOpen
  simp only [(Proofs.Sst.find_ne_ok_none_iff _).mpr hres, hclose, hopen]
  exact ⟨_, rfl, rfl, ha, hwt, hf, hopen _, Proofs.Sst.reads_as_map P.comps P.cfg kvs hc hf {} _ hb _ idx href, rfl⟩

theorem tget_entries (k : Bytes) : ∀ r : Mem.RefMap,
    Merge.tget (Mem.RefMap.entries r) k = (Mem.RefMap.get k r).map Mem.Cell.toGo
  | [] => rfl
  | (k', c) :: rest => by
    have ih := tget_entries k rest
    unfold Mem.RefMap.entries at ih ⊢
    simp only [List.map_cons, Merge.tget, Mem.RefMap.get]
    by_cases h : k = k'
    · simp [h]
    · simp only [h, if_false]; exact ih

theorem entries_asc {m : Mem.MemStore} (hw : Proofs.MemP.WF m) :
    StrictAsc bytesCmp (Mem.RefMap.entries (Proofs.MemP.view m)) := by
  have := Proofs.MemP.view_sorted hw
  unfold StrictAsc Mem.RefMap.entries
  rw [List.pairwise_map]
  exact this

theorem memRel_cells {m : Mem.MemStore} {l : Layer} (h : MemRel m l) :
    CellsRel l (Mem.RefMap.entries (Proofs.MemP.view m)) :=
  ⟨h.nodup, fun k => by rw [h.get k, tget_entries]⟩

theorem memRel_length {m : Mem.MemStore} {l : Layer} (h : MemRel m l) : l.length = m.sl.size := by
  rw [cells_length (memRel_cells h) (entries_asc h.wf), ← Proofs.MemP.view_length]
  simp [Mem.RefMap.entries]

theorem memRel_empty : MemRel Mem.MemStore.empty [] :=
  ⟨Proofs.MemP.wf_empty, List.nodup_nil, fun _ => rfl⟩

/-- C14 → C15: what `FlushWithTombstones` hands to the writer -/
theorem flush_calls {m : Mem.MemStore} (hw : Proofs.MemP.WF m) :
    ∃ calls, Mem.flushCalls m true = some calls ∧
      calls.map mkCall = (Mem.RefMap.entries (Proofs.MemP.view m)).map kvCall ∧
      flushKVs m = Mem.RefMap.entries (Proofs.MemP.view m) := by
  obtain ⟨calls, h1, _, h3, _⟩ := Proofs.MemP.flush_spec hw true
  have h3' : calls.map (fun e => (e.1.getD [], e.2)) = Mem.RefMap.entries (Proofs.MemP.view m) := by
    rw [h3]; simp
  refine ⟨calls, h1, ?_, ?_⟩
  · rw [← h3', List.map_map]
    rfl
  · unfold flushKVs
    rw [h1]
    exact h3'

/-- the flush step against `DBM.flushStep`; it leaves the write store alone (`Close` flushes it next) -/
theorem flush_sim_w {P : Params} (hP : ParamsOk P) {c : Stack.State} {s : DBM.State} (h : Rel P c s)
    (hf : FitsMem P c.r) :
    ∃ c', Stack.flushStep P c = .ok c' ∧ c'.w = c.w ∧ Rel P c' (DBM.flushStep s) := by
  unfold Stack.flushStep DBM.flushStep
  rw [← h.pending]
  cases c.flushPending with
  | false => exact ⟨c, rfl, rfl, h⟩
  | true =>
    have hnt : ¬ (!true) = true := Bool.false_ne_true
    rw [if_neg hnt, if_neg hnt]
    have hlen := memRel_length h.r
    by_cases hz : c.r.sl.size = 0
    · have he : s.r.isEmpty = true := by rw [List.eq_nil_of_length_eq_zero (hlen.trans hz)]; rfl
      rw [if_pos hz, he, if_pos rfl]
      exact ⟨_, rfl, rfl, { h with pending := rfl }⟩
    · have he : s.r.isEmpty = false := by
        cases hs : s.r with
        | nil => rw [hs] at hlen; exact absurd hlen.symm hz
        | cons _ _ => rfl
      obtain ⟨calls, hc1, hc2, hc3⟩ := flush_calls h.r.wf
      unfold FitsMem at hf
      rw [hc3] at hf
      obtain ⟨t, ht, hg, hd⟩ := writeAndOpen_ok P hP (c.gen + 1) _ (entries_asc h.r.wf) hf .flushWrite .flushOpen
      rw [if_neg hz, he, hc1]
      simp only [newWriter, if_neg hz, hc2, ht]
      exact ⟨_, rfl, rfl, { h with
        pending := rfl
        tables := h.tables.append (Rel2.cons ⟨hg.trans (congrArg (· + 1) h.gen), _, hd, memRel_cells h.r⟩ Rel2.nil)
        gen := congrArg (· + 1) h.gen }⟩

theorem flush_sim {P : Params} (hP : ParamsOk P) {c : Stack.State} {s : DBM.State} (h : Rel P c s)
    (hf : FitsMem P c.r) :
    ∃ c', Stack.flushStep P c = .ok c' ∧ Rel P c' (DBM.flushStep s) :=
  let ⟨c', h1, _, h2⟩ := flush_sim_w hP h hf
  ⟨c', h1, h2⟩

/-- rotation: the old write store is handed to the flusher -/
theorem rotate_sim {P : Params} (hP : ParamsOk P) {c : Stack.State} {s : DBM.State} (h : Rel P c s)
    (hf : FitsMem P c.r) :
    ∃ c', Stack.rotate P c = .ok c' ∧ c'.r = c.w ∧ Rel P c' (DBM.rotate s) := by
  obtain ⟨c1, h1, hw, hr⟩ := flush_sim_w hP h hf
  unfold Stack.rotate DBM.rotate
  rw [h1]
  exact ⟨_, rfl, hw, { hr with w := memRel_empty, r := hr.w, alias := nofun, pending := rfl }⟩

end SST.Proofs.Stack
