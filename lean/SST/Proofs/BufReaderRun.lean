/-
`Open`, `ReadNext`, `SkipNext` and whole reader programs over the buffered stack equal the pure-stream model.
`ReadNext` and `SkipNext` are proved once behind any header reader that meets `HdrPost` (`readNext_of_hdr`,
`skipNext_of_hdr`); the file versions differ only in the header reader put in.
-/
import SST.Proofs.BufReaderHdr
import SST.Proofs.RecordIO
namespace SST.Buf
open SST Generated

/-- the file reader `fr` stands at byte `pos` of `file` (version `v`).  `currentOffset` is only claimed for
underlying readers that never return data together with an error. -/
structure FileRd.Rep (cap : Nat) (ed : Bool) (file : Bytes) (v : Nat) (fr : FileRd) (pos : Nat) : Prop where
  file_eq : fr.file = file
  ver : fr.version = v
  rd : ∃ k, fr.rd.Rep cap ed (file.drop pos) k
  off : ed = false → fr.off = pos

theorem zeroTail_spec (cap : Nat) (ed : Bool) (grow : Nat → Nat) (hg : ∀ x, x < grow x) (fr : FileRd) (c : CRd)
    (t : Bytes) (k : Nat) (h : c.Rep cap ed t k) :
    ∃ fr', zeroTail grow fr c = (.error (.e (if t.all (· == 0) then .eof else .magic)), fr') := by
  obtain ⟨c', h1, _⟩ := readAll_spec grow hg h
  by_cases hz : t.all (· == 0) = true
  · exact ⟨{ fr with rd := c' }, by simp only [zeroTail, h1, hz, if_true]⟩
  · refine ⟨{ fr with rd := c' }, ?_⟩
    simp only [zeroTail, h1]
    rw [if_neg hz, if_neg hz]

/-- a successful read advances the file reader by what the counting reader has counted -/
theorem FileRd.Rep.advance {cap : Nat} {ed : Bool} {file : Bytes} {v : Nat} {fr : FileRd} {pos k n : Nat}
    {c' : CRd} (hrep : fr.Rep cap ed file v pos) (hk : fr.rd.Rep cap ed (file.drop pos) k)
    (hc : c'.Rep cap ed (file.drop (pos + n)) (k + n)) :
    FileRd.Rep cap ed file v { fr with rd := c', off := fr.off + (c'.count - fr.rd.count) } (pos + n) :=
  ⟨hrep.file_eq, hrep.ver, ⟨_, hc⟩, fun hed => by
    simp only [hrep.off hed, hc.count hed, hk.count hed, Nat.add_sub_cancel_left]⟩

/-- the payload behind a header (`hlen` bytes long) through `io.ReadFull` and the decompressor, against `payloadS`.
`frErr`: the state a decompression error leaves (V2 does not advance the offset then, V3 and V4 do) -/
theorem payload_spec {cap : Nat} {ed : Bool} {file : Bytes} {v : Nat} {fr : FileRd} {pos k : Nat}
    (cmp : Compression) (hlen n : Nat) {c : CRd} (frErr : CRd → FileRd) (hrep : fr.Rep cap ed file v pos)
    (hk : fr.rd.Rep cap ed (file.drop pos) k) (h : c.Rep cap ed (file.drop (pos + hlen)) (k + hlen)) :
    ∃ fr', (match (c.readFull n).err with
        | some e => (.error e, { fr with rd := (c.readFull n).st })
        | none =>
          match decodePayload cmp (c.readFull n).data with
          | .error e => (.error (.e e), frErr (c.readFull n).st)
          | .ok p => (.ok (some p), { fr with rd := (c.readFull n).st,
                                              off := fr.off + ((c.readFull n).st.count - fr.rd.count) })) =
        (liftE ((payloadS cmp (file.drop (pos + hlen)) hlen n).map Prod.fst), fr') ∧
      ∀ r m, payloadS cmp (file.drop (pos + hlen)) hlen n = .ok (r, m) → fr'.Rep cap ed file v (pos + m) := by
  obtain ⟨c', h1, h2⟩ := readFull_spec n h
  by_cases hn : n ≤ (file.drop (pos + hlen)).length
  · have htl : ((file.drop (pos + hlen)).take n).length = n := List.length_take_of_le hn
    rw [specFull_le hn] at h1 h2
    have h2' : c'.Rep cap ed (file.drop (pos + (hlen + n))) (k + (hlen + n)) := by
      simpa only [htl, List.drop_drop, Nat.add_assoc] using h2
    simp only [payloadS, specFull_le hn, htl, h1]
    cases hdec : decodePayload cmp ((file.drop (pos + hlen)).take n) with
    | error e => exact ⟨frErr c', rfl, fun r m hh => by cases hh⟩
    | ok p =>
      refine ⟨{ fr with rd := c', off := fr.off + (c'.count - fr.rd.count) }, rfl, fun r m hh => ?_⟩
      cases hh
      exact hrep.advance hk h2'
  · rw [specFull_gt (Nat.lt_of_not_ge hn)] at h1
    simp only [payloadS, specFull_gt (Nat.lt_of_not_ge hn), h1]
    exact ⟨{ fr with rd := c' }, rfl, fun r m hh => by cases hh⟩

/-- what `ReadNext` (V3, V4) does behind a header: a nil record, or the payload through `io.ReadFull` and the
decompressor -/
def readBody (cmp : Compression) (fr : FileRd) (hd : RecHeader) (c : CRd) : Except XErr GoBytes × FileRd :=
  if hd.isNil then (.ok none, { fr with rd := c, off := fr.off + (c.count - fr.rd.count) })
  else readPayload cmp fr fr.rd.count hd c

/-- `l`: Go's copy of the header `hd` carries an `hlen` of its own (0 from the V3 reader), which `readBody` does
not look at -/
theorem readBody_spec {cap : Nat} {ed : Bool} {file : Bytes} {v : Nat} {fr : FileRd} {pos k : Nat}
    (cmp : Compression) (hd : RecHeader) (l : Nat) {c : CRd} (hrep : fr.Rep cap ed file v pos)
    (hk : fr.rd.Rep cap ed (file.drop pos) k) (h : c.Rep cap ed ((file.drop pos).drop hd.hlen) (k + hd.hlen)) :
    ∃ fr', readBody cmp fr { hd with hlen := l } c =
        (liftE ((readBodyS cmp (file.drop pos) (.ok hd)).map Prod.fst), fr') ∧
      (∀ r n, readBodyS cmp (file.drop pos) (.ok hd) = .ok (r, n) → fr'.Rep cap ed file v (pos + n)) := by
  unfold readBody
  simp only [readBodyS]
  rw [List.drop_drop] at h ⊢
  by_cases hnil : hd.isNil = true
  · rw [if_pos hnil, if_pos hnil]
    refine ⟨_, rfl, fun r n hc => ?_⟩
    cases hc
    exact hrep.advance hk h
  · rw [if_neg hnil, if_neg hnil]
    exact payload_spec cmp hd.hlen (expectedLen cmp hd)
      (fun st => { fr with rd := st, off := fr.off + (st.count - fr.rd.count) }) hrep hk h

/-- the common tail of `SkipNext`: seek to an in-range target and re-attach the buffered reader to the file -/
theorem seekTo_spec (cap : Nat) (maxOff : Nat) (hmax : maxOff < 2 ^ 63) (file : Bytes) (v : Nat) (fr : FileRd)
    (c : CRd) (t : Nat)
    (hfile : fr.file = file) (hver : fr.version = v) (hcap : c.rd.cap = cap) (hpos : 0 < cap) (ht : t ≤ maxOff) :
    ∃ fr', fr.seekTo maxOff c t = (.ok (), fr') ∧ fr'.Rep cap false file v t := by
  have hmod : t % 2 ^ 64 = t := Nat.mod_eq_of_lt (by omega)
  refine ⟨{ fr with rd := c.reset { rem := fr.file.drop t, sched := [], eofData := false }, off := t }, ?_, ?_⟩
  · simp only [FileRd.seekTo, hmod]; rw [if_neg (by omega)]
  · refine ⟨hfile, hver, ⟨c.count, ?_, ?_, fun _ => rfl⟩, fun _ => rfl⟩
    · exact { cap_eq := hcap, cap_pos := hpos, ed_eq := rfl, noStall := noStall_nil,
              err_ok := Or.inl rfl }
    · simp [CRd.reset, Rd.reset, Rd.stream, hfile]

/-- `ReadNext` of every file version behind its header reader (result `res`, stack `c'`): the zero-tail rule on
a magic mismatch, the error itself otherwise, the version's `body` after a header -/
theorem readNext_of_hdr {cap : Nat} {ed : Bool} {file : Bytes} {v : Nat} {pos k : Nat}
    (cmp : Compression) {grow : Nat → Nat} (hg : ∀ x, x < grow x) (fr : FileRd) {hdr : Except Err RecHeader}
    {res : Except XErr RecHeader} {c' : CRd} {body : RecHeader → CRd → Except XErr GoBytes × FileRd}
    (hp : HdrPost cap ed (file.drop pos) k hdr res c')
    (hbody : ∀ hd l, hdr = .ok hd → c'.Rep cap ed ((file.drop pos).drop hd.hlen) (k + hd.hlen) →
      ∃ fr', body { hd with hlen := l } c' = (liftE ((readBodyS cmp (file.drop pos) (.ok hd)).map Prod.fst), fr') ∧
        ∀ r n, readBodyS cmp (file.drop pos) (.ok hd) = .ok (r, n) → fr'.Rep cap ed file v (pos + n)) :
    ∃ fr', (match (res, c') with
        | (.error e, c) => if e = .e .magic then zeroTail grow fr c else (.error e, { fr with rd := c })
        | (.ok hd, c) => body hd c) = (liftE ((readBodyS cmp (file.drop pos) hdr).map Prod.fst), fr') ∧
      ∀ r n, readBodyS cmp (file.drop pos) hdr = .ok (r, n) → fr'.Rep cap ed file v (pos + n) := by
  cases hp with
  | ok hr => exact hbody _ _ rfl hr
  | magic hu hr =>
    obtain ⟨fr', hz⟩ := zeroTail_spec cap ed grow hg fr c' _ _ hr
    refine ⟨fr', ?_, fun r n hc => ?_⟩
    · simp only [readBodyS, if_true, hz, hu]
      split <;> rfl
    · simp only [readBodyS, hu] at hc
      split at hc <;> cases hc
  | @error e _ hne =>
    rw [readBodyS_error_ne_magic cmp _ hne]
    exact ⟨{ fr with rd := c' }, if_neg fun h => hne (XErr.e.inj h), fun r n hc => by cases hc⟩

/-- `SkipNext` of every file version behind its header reader: `Seek` to the end of the record (`len`: what the
version takes for the payload length) and `Reset`, which re-attaches the buffered reader to the file.
`pos + n ≤ maxOff < 2^63`: the seek target fits an int64 and the file system's limit (always true of real files;
a header that passes the checksum may still claim any length) -/
theorem skipNext_of_hdr {cap : Nat} {file : Bytes} {v : Nat} {fr : FileRd} {pos k maxOff : Nat}
    (hmax : maxOff < 2 ^ 63) {hdr : Except Err RecHeader} {res : Except XErr RecHeader} {c' : CRd}
    (len : RecHeader → Nat) (hlen : ∀ h l, len { h with hlen := l } = len h)
    (hrep : fr.Rep cap false file v pos) (hk : fr.rd.Rep cap false (file.drop pos) k)
    (hp : HdrPost cap false (file.drop pos) k hdr res c')
    (hfit : ∀ n, hdr.map (fun h => h.hlen + len h) = .ok n → pos + n ≤ maxOff) :
    ∃ fr', (match (res, c') with
        | (.error e, c) => (.error e, { fr with rd := c })
        | (.ok hd, c) => fr.seekTo maxOff c (fr.off + len hd + (c.count - fr.rd.count))) =
        (liftE ((hdr.map fun h => h.hlen + len h).map fun _ => ()), fr') ∧
      ∀ n, hdr.map (fun h => h.hlen + len h) = .ok n → fr'.Rep cap false file v (pos + n) := by
  cases hp with
  | @ok hd l _ hr =>
    have htarget : fr.off + len { hd with hlen := l } + (c'.count - fr.rd.count) = pos + (hd.hlen + len hd) := by
      rw [hr.count rfl, hk.count rfl, hrep.off rfl, hlen, Nat.add_sub_cancel_left, Nat.add_assoc,
        Nat.add_comm (len hd)]
    obtain ⟨fr', s1, s2⟩ := seekTo_spec cap maxOff hmax file v fr c' _ hrep.file_eq hrep.ver hr.inv.cap_eq hr.inv.cap_pos (hfit _ rfl)
    refine ⟨fr', by simp only [htarget, s1, Except.map, liftE], fun n hc => ?_⟩
    cases hc
    exact s2
  | magic _ _ => exact ⟨{ fr with rd := c' }, rfl, fun n hc => by cases hc⟩
  | error _ => exact ⟨{ fr with rd := c' }, rfl, fun n hc => by cases hc⟩

/-- `ReadNext` (V4) over the buffered stack returns what `readNextS` returns on the raw stream, and after a
success the stack stands behind the record -/
theorem readNextV4_spec (cap : Nat) (ed : Bool) (cmp : Compression) (grow : Nat → Nat) (hg : ∀ x, x < grow x)
    (file : Bytes) (v : Nat) (fr : FileRd) (pos : Nat) (hrep : fr.Rep cap ed file v pos) :
    ∃ fr', fr.readNextV4 cmp grow = (liftE ((readNextS cmp (file.drop pos)).map Prod.fst), fr') ∧
      (∀ r n, readNextS cmp (file.drop pos) = .ok (r, n) → fr'.Rep cap ed file v (pos + n)) := by
  obtain ⟨k, hk⟩ := hrep.rd
  obtain ⟨res, h', hr, hp⟩ := readRecordHeaderV4_spec hk
  rw [readNextS_eq]
  simp only [FileRd.readNextV4, hr]
  -- the match is on the checksum reader `h'`, not on `h'.rd`: split it before `readNext_of_hdr` fits
  cases res <;>
    exact readNext_of_hdr (body := readBody cmp fr) cmp hg fr hp fun hd l _ h => readBody_spec cmp hd l hrep hk h

/-- `SkipNext` (V4): the header through the stack, then `Seek` + `Reset` -/
theorem skipNextV4_spec (cap : Nat) (cmp : Compression) (maxOff : Nat) (hmax : maxOff < 2 ^ 63) (file : Bytes)
    (v : Nat) (fr : FileRd) (pos : Nat) (hrep : fr.Rep cap false file v pos)
    (hfit : ∀ n, skipNextS cmp (file.drop pos) = .ok n → pos + n ≤ maxOff) :
    ∃ fr', fr.skipNextV4 cmp maxOff = (liftE ((skipNextS cmp (file.drop pos)).map (fun _ => ())), fr') ∧
      (∀ n, skipNextS cmp (file.drop pos) = .ok n → fr'.Rep cap false file v (pos + n)) := by
  obtain ⟨k, hk⟩ := hrep.rd
  obtain ⟨res, h', hr, hp⟩ := readRecordHeaderV4_spec hk
  rw [skipNextS_eq] at hfit ⊢
  simp only [FileRd.skipNextV4, hr]
  cases res <;> exact skipNext_of_hdr hmax (skipLen cmp) (fun _ _ => rfl) hrep hk hp hfit

theorem readNext_spec (cap : Nat) (ed : Bool) (cmp : Compression) (grow : Nat → Nat) (hg : ∀ x, x < grow x)
    (file : Bytes) (v : Nat) (hv : v = 2 ∨ v = 3 ∨ v = 4) (fr : FileRd) (pos : Nat)
    (hrep : fr.Rep cap ed file v pos) :
    ∃ fr', fr.readNext cmp grow = (liftE ((readNextSV v cmp (file.drop pos)).map Prod.fst), fr') ∧
      (∀ r n, readNextSV v cmp (file.drop pos) = .ok (r, n) → fr'.Rep cap ed file v (pos + n)) := by
  have hver := hrep.ver
  obtain ⟨k, hk⟩ := hrep.rd
  unfold FileRd.readNext readNextSV
  rcases hv with rfl | rfl | rfl
  · simp only [hver, Nat.reduceEqDiff, if_true, if_false]
    obtain ⟨res, c', hr, hp⟩ := readRecordHeaderV2_spec hk
    simp only [FileRd.readNextV2, hr]
    refine readNext_of_hdr cmp hg fr hp fun hd l hh h => ?_
    -- no nil records; the payload as in `readPayload`, except that a decompression error leaves the offset
    have hnil : ¬ hd.isNil = true := by rw [readHeaderS2_isNil hh]; exact Bool.false_ne_true
    simp only [readBodyS]
    rw [if_neg hnil, List.drop_drop]
    rw [List.drop_drop] at h
    exact payload_spec cmp hd.hlen (expectedLen cmp hd) (fun st => { fr with rd := st }) hrep hk h
  · simp only [hver, Nat.reduceEqDiff, if_true, if_false]
    obtain ⟨res, c', hr, hp⟩ := readRecordHeaderV3_spec hk
    simp only [FileRd.readNextV3, hr]
    exact readNext_of_hdr cmp hg fr hp fun hd l _ h => readBody_spec cmp hd l hrep hk h
  · simp only [hver, Nat.reduceEqDiff, if_true, if_false]
    exact readNextV4_spec cap ed cmp grow hg file 4 fr pos hrep

theorem skipNext_spec (cap : Nat) (cmp : Compression) (maxOff : Nat) (hmax : maxOff < 2 ^ 63) (file : Bytes)
    (v : Nat) (hv : v = 2 ∨ v = 3 ∨ v = 4)
    (fr : FileRd) (pos : Nat) (hrep : fr.Rep cap false file v pos)
    (hfit : ∀ n, skipNextSV v cmp (file.drop pos) = .ok n → pos + n ≤ maxOff) :
    ∃ fr', fr.skipNext cmp maxOff = (liftE ((skipNextSV v cmp (file.drop pos)).map (fun _ => ())), fr') ∧
      (∀ n, skipNextSV v cmp (file.drop pos) = .ok n → fr'.Rep cap false file v (pos + n)) := by
  have hver := hrep.ver
  obtain ⟨k, hk⟩ := hrep.rd
  unfold FileRd.skipNext
  unfold skipNextSV at hfit ⊢
  rcases hv with rfl | rfl | rfl
  · simp only [hver, Nat.reduceEqDiff, if_true, if_false] at hfit ⊢
    obtain ⟨res, c', hr, hp⟩ := readRecordHeaderV2_spec hk
    simp only [FileRd.skipNextV2, hr]
    exact skipNext_of_hdr hmax (expectedLen cmp) (fun _ _ => rfl) hrep hk hp hfit
  · simp only [hver, Nat.reduceEqDiff, if_true, if_false] at hfit ⊢
    obtain ⟨res, c', hr, hp⟩ := readRecordHeaderV3_spec hk
    simp only [FileRd.skipNextV3, hr]
    exact skipNext_of_hdr hmax (skipLen cmp) (fun _ _ => rfl) hrep hk hp hfit
  · simp only [hver, Nat.reduceEqDiff, if_true, if_false] at hfit ⊢
    exact skipNextV4_spec cap cmp maxOff hmax file 4 fr pos hrep hfit

theorem parseFileHeader_take (file : Bytes) (h : fileHeaderSize ≤ file.length) :
    parseFileHeader (file.take fileHeaderSize) = parseFileHeader file := by
  have h8 : fileHeaderSize = 8 := rfl
  rw [h8] at h ⊢
  have h1 : ¬ (file.take 8).length < 8 := by rw [List.length_take]; omega
  have h2 : ¬ file.length < 8 := by omega
  have h3 : (file.take 8).take 4 = file.take 4 := by rw [List.take_take]; rfl
  have h4 : ((file.take 8).drop 4).take 4 = (file.drop 4).take 4 := by
    rw [List.drop_take, List.take_take]; rfl
  unfold parseFileHeader
  rw [h8, if_neg h1, if_neg h2, h3, h4]

/-- `Open` over the buffered stack = `parseFileHeader` of the file -/
theorem open_spec (cap : Nat) (file : Bytes) (u : Under) (hns : NoStall u.sched)
    (hrem : u.rem = file) (aligned : Bool := false) :
    ∃ fr', (FileRd.new file cap u aligned).open = (liftE (parseFileHeader file), fr') ∧
      (∀ v ct, parseFileHeader file = .ok (v, ct) → fr'.Rep (effCap cap) u.eofData file v fileHeaderSize) := by
  have hrep := rep_make aligned cap u hns
  rw [hrem] at hrep
  obtain ⟨c', h1, h2⟩ := readFull_spec fileHeaderSize hrep
  by_cases hn : fileHeaderSize ≤ file.length
  · rw [specFull_le hn] at h1 h2
    cases hp : parseFileHeader file with
    | error e =>
      refine ⟨{ FileRd.new file cap u aligned with rd := c' }, ?_, fun v ct hh => by cases hh⟩
      simp only [FileRd.open, FileRd.new, h1, parseFileHeader_take file hn, hp, liftE]
    | ok p =>
      obtain ⟨v, ct⟩ := p
      refine ⟨{ FileRd.new file cap u aligned with rd := c', off := fileHeaderSize, version := v }, ?_, fun v' ct' hh => ?_⟩
      · simp only [FileRd.open, FileRd.new, h1, parseFileHeader_take file hn, hp, liftE]
      · cases hh
        exact ⟨rfl, rfl, ⟨_, h2⟩, fun _ => rfl⟩
  · have hlt : file.length < fileHeaderSize := Nat.lt_of_not_ge hn
    rw [specFull_gt hlt] at h1
    have hp : parseFileHeader file = .error (if file.length = 0 then .eof else .unexpectedEof) := by
      unfold parseFileHeader
      rw [if_pos hlt]
      split <;> rfl
    refine ⟨{ FileRd.new file cap u aligned with rd := c' }, ?_, fun v ct hh => by rw [hp] at hh; cases hh⟩
    simp only [FileRd.open, FileRd.new, h1, hp, liftE]

/-- a whole reader program (ReadNext / SkipNext, up to the first error) over the buffered stack gives exactly
what the pure-stream model gives -/
theorem bufRun_eq_streamRun (cap : Nat) (cmp : Compression) (grow : Nat → Nat) (hg : ∀ x, x < grow x)
    (maxOff : Nat) (hmax : maxOff < 2 ^ 63)
    (file : Bytes) (v : Nat) (hv : v = 2 ∨ v = 3 ∨ v = 4) : ∀ (ops : List ROp) (fr : FileRd) (pos : Nat),
    fr.Rep cap false file v pos → skipsFit v cmp maxOff file pos ops = true →
    bufRun cmp grow maxOff fr ops = streamRun v cmp file pos ops := by
  intro ops
  induction ops with
  | nil => intro fr pos _ _; rfl
  | cons op ops ih =>
    intro fr pos hrep hfit
    cases op with
    | read =>
      obtain ⟨fr', h1, h2⟩ := readNext_spec cap false cmp grow hg file v hv fr pos hrep
      cases hr : readNextSV v cmp (file.drop pos) with
      | error e =>
        rw [hr] at h1
        simp only [bufRun, streamRun, h1, hr, Except.map, liftE]
      | ok p =>
        obtain ⟨r, n⟩ := p
        rw [hr] at h1
        simp only [skipsFit, hr] at hfit
        simp only [bufRun, streamRun, h1, hr, Except.map, liftE]
        rw [ih fr' (pos + n) (h2 r n hr) hfit]
    | skip =>
      cases hr : skipNextSV v cmp (file.drop pos) with
      | error e =>
        obtain ⟨fr', h1, _⟩ := skipNext_spec cap cmp maxOff hmax file v hv fr pos hrep (by intro n hn; rw [hr] at hn; cases hn)
        rw [hr] at h1
        simp only [bufRun, streamRun, h1, hr, Except.map, liftE]
      | ok n =>
        simp only [skipsFit, hr, Bool.and_eq_true, decide_eq_true_eq] at hfit
        obtain ⟨fr', h1, h2⟩ := skipNext_spec cap cmp maxOff hmax file v hv fr pos hrep
          (by intro m hm; rw [hr] at hm; cases hm; exact hfit.1)
        rw [hr] at h1
        simp only [bufRun, streamRun, h1, hr, Except.map, liftE]
        rw [ih fr' (pos + n) (h2 n hr) hfit.2]

end SST.Buf
