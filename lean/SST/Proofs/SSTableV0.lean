/-
Proofs for the VERSION-0 table reader (C03, legacy path): a version-0 table laid out from an ascending list
(`V0.filesOf`), both recordio files in any version 1–4, reads back as the sorted map of the list (values nil/empty
normalised) through the slice, skip-list and map loaders; what the reader reports as metadata; what a compaction
receives from it.  Built on SST/Proofs/RecordIOLegacy.lean (per-record round trips of the legacy readers) and on what
all formats and loaders share, SST/Proofs/SSTableServe.lean: version 0 stands beside the current format
(SST/Proofs/SSTableReader.lean), not on it.
-/
import SST.Spec.SSTableV0
import SST.Proofs.RecordIOLegacy
import SST.Proofs.SSTableServe
import SST.Proofs.Proto
namespace SST.Proofs.V0
open SST Generated SST.Proofs SST.Legacy SST.V0 SST.Proofs.Legacy SST.Proofs.Sst

theorem decDataEntry_enc (v : GoBytes) (hv : (v.getD []).length < 2 ^ 64) :
    TblDir.decDataEntry (encDataEntry v) = (normGo v, none) := by
  have hd : Pb.Dec TblDir.dataEntrySchema (pbBytesField 1 (v.getD []) ++ []) []
      ([] ++ Pb.optB 1 (v.getD []), none) :=
    Pb.dec_bytes rfl (by omega) (by omega) hv (Pb.dec_nil _ _)
  rw [List.append_nil] at hd
  have g : pbGetBytes ([] ++ Pb.optB 1 (v.getD [])) 1 = normKey (v.getD []) := by
    simp only [pbGetBytes, List.nil_append, Pb.find_optB]
    by_cases h : (v.getD []).length = 0 <;> simp [h, normKey]
  unfold TblDir.decDataEntry encDataEntry
  rw [Pb.dec_pbDecode hd]
  simp only [g, normGo]

theorem entriesFromV0_mapIdx (dv : Nat) (dc : Compression) : ∀ (l : List KV) (off : Nat),
    entriesFromV0 dv dc off l =
      l.mapIdx fun i p => (p.1, off + (encAllL dv dc ((l.map fun p => dataRecOf p.2).take i)).length) := by
  intro l
  induction l with
  | nil => intro _; rfl
  | cons p l ih =>
    intro off
    obtain ⟨k, v⟩ := p
    rw [entriesFromV0, ih, List.mapIdx_cons]
    simp only [List.map_cons, List.take_zero, Legacy.encAllL_nil, List.length_nil, Nat.add_zero, List.take_succ_cons,
      encAllL_cons, List.length_append, Nat.add_assoc]

/-- the triples of a version-0 table: key, value as served, (offset of record `i` of data.rio, checksum 0) -/
def tripsV0 (cfg : Cfg) (kvs : List KV) : List Trip :=
  kvs.mapIdx fun i p => (p.1, normVal p.2, (⟨offsetOfL cfg.dv cfg.dc (kvs.map fun p => dataRecOf p.2) i, 0⟩ : IndexVal))

def loadedEntriesV0 (cfg : Cfg) (kvs : List KV) : List IEntry := (tripsV0 cfg kvs).map Trip.ie

theorem tripsV0_kv (cfg : Cfg) (kvs : List KV) : (tripsV0 cfg kvs).map Trip.kv = normKVs kvs := by
  rw [tripsV0, map_mapIdx]
  exact mapIdx_eq_map (fun p : KV => (p.1, normVal p.2)) kvs

theorem encAllL_nil (v : Nat) (c : Compression) : encAllL v c [] = [] := rfl

theorem openSeqL_of_parse (comps : Nat → Compression) (file : Bytes) (v ct : Nat)
    (h : parseFileHeader file = .ok (v, ct)) :
    openSeqL comps file = .ok (v, comps ct, file.drop fileHeaderSize) := by
  unfold openSeqL
  rw [h]

theorem openMmapL_of_parse (comps : Nat → Compression) (file : Bytes) (v ct : Nat)
    (hlen : ¬ file.length < fileHeaderSize) (h : parseFileHeader file = .ok (v, ct)) :
    openMmapL comps file = .ok (v, comps ct) := by
  unfold openMmapL
  rw [if_neg hlen, h]

theorem openSeqL_file (comps : Nat → Compression) (v ct : Nat) (c : Compression) (rs : List GoBytes)
    (hv : IsVersion v) (hct : ct ≤ maxCompression) (hc : comps ct = c) :
    openSeqL comps (encFileL v c ct rs) = .ok (v, c, encAllL v c rs) := by
  rw [encFileL_eq, openSeqL_of_parse comps _ v ct (parse_fileHeaderL v ct _ hv hct), drop_fileHeader, hc]

theorem openMmapL_file (comps : Nat → Compression) (v ct : Nat) (c : Compression) (rs : List GoBytes)
    (hv : IsVersion v) (hct : ct ≤ maxCompression) (hc : comps ct = c) :
    openMmapL comps (encFileL v c ct rs) = .ok (v, c) := by
  rw [encFileL_eq]
  have hlen : ¬ (fileHeader v ct ++ encAllL v c rs).length < fileHeaderSize := by
    rw [List.length_append, fileHeader_length]; show ¬ (8 + _ < 8); omega
  rw [openMmapL_of_parse comps _ v ct hlen (parse_fileHeaderL v ct _ hv hct), hc]

theorem loadEntriesSL_enc (v : Nat) (hv : IsVersion v) (c : Compression) (hl : LawfulC c) (es : List (Bytes × Nat)) :
    ∀ fuel, (encAllL v c (es.map indexRecOfV0)).length < fuel →
      (∀ e ∈ es, e.1.length < 2 ^ 64 ∧ e.2 < 2 ^ 64 ∧ FitsL c (indexRecOfV0 e)) →
      loadEntriesSL v c fuel (encAllL v c (es.map indexRecOfV0)) =
        .ok (es.map fun e => (normKey e.1, (⟨e.2, 0⟩ : IndexVal))) := by
  induction es with
  | nil =>
    intro fuel hf _
    obtain ⟨f, rfl⟩ := Nat.exists_eq_succ_of_ne_zero (Nat.ne_of_gt hf)
    rw [List.map_nil, encAllL_nil, loadEntriesSL, (isFramingL false hv c).next_nil]
    rfl
  | cons e es ih =>
    intro fuel hf hfit
    obtain ⟨f, rfl⟩ := Nat.exists_eq_succ_of_ne_zero (Nat.ne_of_gt (Nat.zero_lt_of_lt hf))
    obtain ⟨h1, h2, h3⟩ := hfit e List.mem_cons_self
    have hr := (isFramingL false hv c).next_enc hl (indexRecOfV0 e) (encAllL v c (es.map indexRecOfV0)) h3
    have hd := Pb.decIndexEntry_enc e.1 e.2 0 h1 h2 (by decide)
    rw [List.map_cons, encAllL_cons] at hf ⊢
    have ih' := ih f (Nat.lt_of_lt_of_le (Nat.lt_add_of_pos_left ((isFramingL false hv c).pos _))
      (Nat.le_of_lt_succ (List.length_append ▸ hf))) (fun x hx => hfit x (List.mem_cons_of_mem _ hx))
    have hb : backL false v c (indexRecOfV0 e) = some (encIndexEntry e.1 e.2 0) := backL_false_some _ _ _
    simp only [List.map_cons, loadEntriesSL, hr, hb]
    simp only [Option.getD_some, hd, List.drop_left, ih']
    rfl

theorem loadEntriesL_of_open (comps : Nat → Compression) (file : Bytes) (v : Nat) (c : Compression) (st : Bytes)
    (h : openSeqL comps file = .ok (v, c, st)) : loadEntriesL comps file = loadEntriesSL v c (st.length + 1) st := by
  unfold loadEntriesL; rw [h]

theorem loadedEntriesV0_eq (cfg : Cfg) (kvs : List KV) :
    loadedEntriesV0 cfg kvs = (entriesOfV0 cfg kvs).map fun e => (normKey e.1, (⟨e.2, 0⟩ : IndexVal)) := by
  rw [entriesOfV0, entriesFromV0_mapIdx, loadedEntriesV0, tripsV0, map_mapIdx, map_mapIdx]
  rfl

section CfgOk
variable {comps : Nat → Compression} {cfg : Cfg} (hc : CfgOk comps cfg)
include hc
theorem _root_.SST.V0.CfgOk.dataCodec : comps cfg.dct = cfg.dc := hc.1
theorem _root_.SST.V0.CfgOk.indexCodec : comps cfg.ict = cfg.ic := hc.2.1
theorem _root_.SST.V0.CfgOk.dataLawful : LawfulC cfg.dc := hc.2.2.1
theorem _root_.SST.V0.CfgOk.indexLawful : LawfulC cfg.ic := hc.2.2.2.1
theorem _root_.SST.V0.CfgOk.dataCode_le : cfg.dct ≤ maxCompression := hc.2.2.2.2.1
theorem _root_.SST.V0.CfgOk.indexCode_le : cfg.ict ≤ maxCompression := hc.2.2.2.2.2.1
theorem _root_.SST.V0.CfgOk.indexVersion : IsVersion cfg.iv := hc.2.2.2.2.2.2.1
theorem _root_.SST.V0.CfgOk.dataVersion : IsVersion cfg.dv := hc.2.2.2.2.2.2.2
end CfgOk

theorem loadEntriesL_table (comps : Nat → Compression) (cfg : Cfg) (kvs : List KV)
    (hc : CfgOk comps cfg) (hf : FitsV0 cfg kvs) :
    loadEntriesL comps (indexFileOfV0 cfg kvs) = .ok (loadedEntriesV0 cfg kvs) := by
  have hopen := openSeqL_file comps cfg.iv cfg.ict cfg.ic ((entriesOfV0 cfg kvs).map indexRecOfV0)
    hc.indexVersion hc.indexCode_le hc.indexCodec
  rw [loadEntriesL_of_open comps (indexFileOfV0 cfg kvs) _ _ _ hopen,
    loadEntriesSL_enc cfg.iv hc.indexVersion cfg.ic hc.indexLawful (entriesOfV0 cfg kvs) _ (Nat.lt_succ_self _)]
  · rw [loadedEntriesV0_eq]
  · intro e he
    refine ⟨?_, hf.2 e he⟩
    rw [entriesOfV0, entriesFromV0_mapIdx] at he
    obtain ⟨i, hi, rfl⟩ := List.mem_mapIdx.1 he
    exact (hf.1 _ (List.getElem_mem hi)).2.1

theorem loadedEntriesV0_strictAsc (cfg : Cfg) (kvs : List KV) (hs : StrictAsc bytesCmp kvs) :
    StrictAsc keyCmp (loadedEntriesV0 cfg kvs) := by
  refine strictAsc_ie ?_
  rw [tripsV0_kv, StrictAsc, normKVs, List.pairwise_map]
  exact hs

theorem loadedEntriesV0_keys (cfg : Cfg) (kvs : List KV) :
    (loadedEntriesV0 cfg kvs).map (fun e => e.1.getD []) = kvs.map (·.1) := by
  rw [loadedEntriesV0, keys_ie, tripsV0_kv, normKVs, List.map_map]
  rfl

theorem scanWithV0_good (dv : Nat) (dc : Compression) (data : Bytes) (skip : Bool) (ts : List Trip)
    (h : ∀ t ∈ ts, getValueV0 dv dc data t.2.2 skip = .ok t.2.1) :
    scanWithV0 dv dc data skip (ts.map Trip.ie) .done = (ts.map Trip.out, .done) := by
  induction ts with
  | nil => rfl
  | cons t ts ih =>
    have h1 := h t (by simp)
    have h2 := ih (fun x hx => h x (by simp [hx]))
    simp only [List.map_cons, scanWithV0, Trip.ie, h1]
    rw [h2]
    rfl

/-- `Scan` pairs the i-th index entry with the i-th sequential record; no offset is looked at -/
theorem fullScanV0S_trips (dv : Nat) (hv : IsVersion dv) (dc : Compression) (hl : LawfulC dc) :
    ∀ l : List KV, (∀ p ∈ l, FitsL dc (dataRecOf p.2) ∧ (p.2.getD []).length < 2 ^ 64) →
    ∀ es : List IEntry, es.map (·.1) = l.map (fun p => normKey p.1) →
    fullScanV0S dv dc es .done (encAllL dv dc (l.map fun p => dataRecOf p.2)) = ((normKVs l).map normKV, .done) := by
  intro l
  induction l with
  | nil => intro _ es he; rw [List.map_eq_nil_iff.1 he]; rfl
  | cons p rest ih =>
    intro hf es he
    obtain ⟨k, v⟩ := p
    obtain ⟨e, es, rfl⟩ := List.exists_cons_of_ne_nil (l := es) (by intro h; rw [h] at he; cases he)
    obtain ⟨he1, he2⟩ := List.cons.inj he
    obtain ⟨hfit, hlen⟩ := hf (k, v) List.mem_cons_self
    have hr := (isFramingL false hv dc).next_enc hl (dataRecOf v) (encAllL dv dc (rest.map fun p => dataRecOf p.2)) hfit
    have hb : backL false dv dc (dataRecOf v) = some (encDataEntry v) := backL_false_some _ _ _
    simp only [List.map_cons, encAllL_cons, fullScanV0S, hr, hb, List.drop_left, Option.getD_some,
      decDataEntry_enc v hlen, ih (fun q hq => hf q (List.mem_cons_of_mem _ hq)) es he2]
    simp [normKV, normKVs, he1]

/-- the reader `NewSSTableReader` returns on the version-0 table of `kvs` -/
def readerOfV0 (cfg : Cfg) (kvs : List KV) (o : ReadOpts) (bloom : Option (Bytes → Bool)) (md : Meta) : V0.Reader :=
  { data := dataFileOfV0 cfg kvs, dv := cfg.dv, dc := cfg.dc, bloom := bloom, skipHashOnRead := o.skipHashOnRead,
    md := md }

theorem getValueV0_eq (dv : Nat) (dc : Compression) (data : Bytes) (iv : IndexVal) (skip : Bool) :
    getValueV0 dv dc data iv skip = (protoValueAt dv dc data iv.off).bind (gate skip iv.sum) := by
  unfold getValueV0
  cases protoValueAt dv dc data iv.off <;> rfl

/-- the value of every entry sits in data.rio at the entry's offset: `legacy_readAt_offset` of the recordio layer -/
theorem getValueV0_table (cfg : Cfg) (kvs : List KV) (hv : IsVersion cfg.dv) (hl : LawfulC cfg.dc)
    (hf : FitsV0 cfg kvs) (skip : Bool) (t : Trip) (ht : t ∈ tripsV0 cfg kvs) :
    getValueV0 cfg.dv cfg.dc (dataFileOfV0 cfg kvs) t.2.2 skip = .ok t.2.1 := by
  obtain ⟨i, hi, rfl⟩ := List.mem_mapIdx.1 ht
  have hi' : i < (kvs.map fun p => dataRecOf p.2).length := by rw [List.length_map]; exact hi
  have hread := legacy_readAt_offset false cfg.dv cfg.dct cfg.dc _ i hi' hv hl
    (List.forall_mem_map.2 fun p hp => (hf.1 p hp).1)
  have hlt : offsetOfL cfg.dv cfg.dc (kvs.map fun p => dataRecOf p.2) i < (dataFileOfV0 cfg kvs).length := by
    have := (isFramingL false hv cfg.dc).pos (kvs.map fun p => dataRecOf p.2)[i]
    rw [dataFileOfV0, encFileL_split _ _ _ _ i hi', List.length_append, ← offsetOfL_eq, List.length_append]
    omega
  have hne : bareEofAt cfg.dv (dataFileOfV0 cfg kvs) (offsetOfL cfg.dv cfg.dc (kvs.map fun p => dataRecOf p.2) i)
      = false := by simp [bareEofAt, Nat.ne_of_lt hlt]
  rw [getValueV0_eq, protoValueAt, hne, show readAtL false cfg.dv cfg.dc (dataFileOfV0 cfg kvs) _ = _ from hread,
    List.getElem_map]
  simp only [dataRecOf, backL_false_some, Option.getD_some, decDataEntry_enc _ (hf.1 _ (List.getElem_mem hi)).2.2]
  exact gate_zero skip _

theorem openTableV0_of (comps : Nat → Compression) (k : LoaderKind) (o : ReadOpts) (t : Files)
    (bloom : Option (Bytes → Bool)) (md : Meta) (idx : Index) (dv : Nat) (dc : Compression)
    (h1 : TblDir.readMeta t.metaf = .ok md) (h2 : loadIndexL comps k t.index = some (.ok idx)) (h3 : md.version = 0)
    (h4 : openMmapL comps t.data = .ok (dv, dc)) :
    openTableV0 comps k o t bloom =
      some (.ok ({ data := t.data, dv := dv, dc := dc, bloom := bloom, skipHashOnRead := o.skipHashOnRead,
                   md := md }, idx)) := by
  unfold openTableV0
  rw [h1]
  simp only [h2, h3, h4, ne_eq, not_true_eq_false, if_false]

theorem _root_.SST.V0.MetaV0.parses {metaf : Option Bytes} {md : Meta} (hm : MetaV0 metaf md) :
    TblDir.readMeta metaf = .ok md := hm.1
theorem _root_.SST.V0.MetaV0.version {metaf : Option Bytes} {md : Meta} (hm : MetaV0 metaf md) : md.version = 0 := hm.2

theorem openTableV0_ok (comps : Nat → Compression) (cfg : Cfg) (kvs : List KV) (metaf : Option Bytes) (md : Meta)
    (hc : CfgOk comps cfg) (hm : MetaV0 metaf md) (k : LoaderKind) (o : ReadOpts) (bloom : Option (Bytes → Bool))
    (idx : Index) (hload : loadIndexL comps k (indexFileOfV0 cfg kvs) = some (.ok idx)) :
    openTableV0 comps k o (filesOf cfg kvs metaf) bloom = some (.ok (readerOfV0 cfg kvs o bloom md, idx)) := by
  exact openTableV0_of comps k o (filesOf cfg kvs metaf) bloom md idx cfg.dv cfg.dc hm.parses hload hm.version
    (openMmapL_file comps cfg.dv cfg.dct cfg.dc _ hc.dataVersion hc.dataCode_le hc.dataCodec)

theorem fullScanV0_of (comps : Nat → Compression) (r : V0.Reader) (it : Iter) (v : Nat) (c : Compression) (st : Bytes)
    (h : openSeqL comps r.data = .ok (v, c, st)) :
    r.fullScan comps it = .ok (fullScanV0S v c it.1 it.2 st) := by
  unfold V0.Reader.fullScan; rw [h]

theorem reads_as_map_of_trips (comps : Nat → Compression) (r : V0.Reader) (T : List Trip)
    (hv : ∀ t ∈ T, getValueV0 r.dv r.dc r.data t.2.2 r.skipHashOnRead = .ok t.2.1)
    (hscan : r.fullScan comps (T.map Trip.ie, .done) = .ok ((T.map Trip.kv).map normKV, .done))
    (hb : BloomOk r.bloom (T.map Trip.kv)) (P : Bytes → Prop) (idx : Index)
    (hr : IdxRefines P idx (T.map Trip.ie)) :
    ReadsAsMapV0 comps P r idx (T.map Trip.kv) := by
  have hsc : ∀ q : Bytes → Bool, r.scanIter ((T.filter fun t => q t.1).map Trip.ie, .done) =
      ((T.filter fun t => q t.1).map Trip.out, .done) := fun q =>
    scanWithV0_good r.dv r.dc r.data r.skipHashOnRead _ (fun t ht => hv t (List.mem_filter.mp ht).1)
  constructor
  · intro k hk
    rw [V0.Reader.get, hr.get k hk]
    exact congrArg (fun x => (idx, some x)) (get_trips T (g := r.getWith) rfl hv k)
  · intro k hk
    obtain ⟨i, hi, e⟩ := bloom_contains hb k idx ((hr.contains k hk).trans (by rw [isSome_spec]))
    rw [show i = idx from hi.elim id id] at e
    exact e
  · rw [V0.Reader.scan, hr.all]
    exact hscan
  · intro k
    rw [V0.Reader.scanFrom, hr.from_ k]
    exact congrArg (fun x => (idx, x)) (from_trips T hsc k)
  · intro lo hi
    rw [V0.Reader.scanRange, hr.between lo hi]
    exact congrArg (fun x => (idx, x)) (between_trips T hsc lo hi)

theorem bloomOk_norm (bloom : Option (Bytes → Bool)) (kvs : List KV) (hb : BloomOk bloom kvs) :
    BloomOk bloom (normKVs kvs) := by
  intro bf hbf p hp
  unfold normKVs at hp
  obtain ⟨q, hq, rfl⟩ := List.mem_map.mp hp
  exact hb bf hbf q hq

theorem fullScan_table (comps : Nat → Compression) (cfg : Cfg) (kvs : List KV) (hc : CfgOk comps cfg)
    (hf : FitsV0 cfg kvs) (o : ReadOpts) (bloom : Option (Bytes → Bool)) (md : Meta) :
    (readerOfV0 cfg kvs o bloom md).fullScan comps (loadedEntriesV0 cfg kvs, .done) =
      .ok ((normKVs kvs).map normKV, .done) := by
  rw [fullScanV0_of comps (readerOfV0 cfg kvs o bloom md) _ _ _ _
    (openSeqL_file comps cfg.dv cfg.dct cfg.dc _ hc.dataVersion hc.dataCode_le hc.dataCodec)]
  exact congrArg Except.ok (fullScanV0S_trips cfg.dv hc.dataVersion cfg.dc hc.dataLawful kvs
    (fun p hp => ⟨(hf.1 p hp).1, (hf.1 p hp).2.2⟩) _
    (by rw [loadedEntriesV0, tripsV0, map_mapIdx, map_mapIdx]; exact mapIdx_eq_map (fun p : KV => normKey p.1) kvs))

theorem reads_as_map_v0 (comps : Nat → Compression) (cfg : Cfg) (kvs : List KV)
    (hc : CfgOk comps cfg) (hf : FitsV0 cfg kvs) (o : ReadOpts) (bloom : Option (Bytes → Bool)) (md : Meta)
    (hb : BloomOk bloom kvs) (P : Bytes → Prop) (idx : Index)
    (hr : IdxRefines P idx (loadedEntriesV0 cfg kvs)) :
    ReadsAsMapV0 comps P (readerOfV0 cfg kvs o bloom md) idx (normKVs kvs) := by
  have h := reads_as_map_of_trips comps (readerOfV0 cfg kvs o bloom md) (tripsV0 cfg kvs)
    (fun t ht => getValueV0_table cfg kvs hc.dataVersion hc.dataLawful hf _ t ht)
    (by rw [tripsV0_kv]; exact fullScan_table comps cfg kvs hc hf o bloom md)
    (by rw [tripsV0_kv]; exact bloomOk_norm bloom kvs hb) P idx hr
  rwa [tripsV0_kv] at h

theorem loadIndexL_of_build {comps : Nat → Compression} {k : LoaderKind} {f : Bytes} {E : List IEntry} {idx : Index}
    (h : loadEntriesL comps f = .ok E) (hb : buildIndex k E = .ok idx) : loadIndexL comps k f = some (.ok idx) := by
  cases k with
  | slice | skip _ | map _ => simp only [loadIndexL, h]; exact congrArg some hb
  | disk => cases hb

theorem table_index_v0 (comps : Nat → Compression) (cfg : Cfg) (kvs : List KV)
    (hc : CfgOk comps cfg) (hf : FitsV0 cfg kvs) (hs : StrictAsc bytesCmp kvs)
    (k : LoaderKind) (hk : kindFits k (kvs.map (·.1))) :
    ∃ idx, loadIndexL comps k (indexFileOfV0 cfg kvs) = some (.ok idx) ∧
      IdxRefines (kindProbes k (kvs.map (·.1))) idx (loadedEntriesV0 cfg kvs) := by
  obtain ⟨idx, hb, hr⟩ :=
    build_refines (loadedEntriesV0_strictAsc cfg kvs hs) k (by rw [loadedEntriesV0_keys]; exact hk)
  exact ⟨idx, loadIndexL_of_build (loadEntriesL_table comps cfg kvs hc hf) hb, loadedEntriesV0_keys cfg kvs ▸ hr⟩

/-- a version-0 table laid out from an ascending list reads back as the sorted map of the list (values normalised),
whichever in-memory loader opens it, and reports the metadata of its metadata file -/
theorem table_reads_v0 (comps : Nat → Compression) (cfg : Cfg) (kvs : List KV) (metaf : Option Bytes) (md : Meta)
    (hc : CfgOk comps cfg) (hf : FitsV0 cfg kvs) (hs : StrictAsc bytesCmp kvs) (hm : MetaV0 metaf md)
    (k : LoaderKind) (hk : kindFits k (kvs.map (·.1))) (o : ReadOpts) (bloom : Option (Bytes → Bool))
    (hb : BloomOk bloom kvs) :
    ∃ r idx, openTableV0 comps k o (filesOf cfg kvs metaf) bloom = some (.ok (r, idx)) ∧ r.md = md ∧
      ReadsAsMapV0 comps (kindProbes k (kvs.map (·.1))) r idx (normKVs kvs) := by
  obtain ⟨idx, hload, href⟩ := table_index_v0 comps cfg kvs hc hf hs k hk
  exact ⟨readerOfV0 cfg kvs o bloom md, idx, openTableV0_ok comps cfg kvs metaf md hc hm k o bloom idx hload, rfl,
    reads_as_map_v0 comps cfg kvs hc hf o bloom md hb _ idx href⟩

/-- Opening and the full scan consult no Bloom filter: every loader that fits opens the table, with whatever
filter, as `readerOfV0`, and the full scan delivers every pair. -/
theorem table_scan_v0 (comps : Nat → Compression) (cfg : Cfg) (kvs : List KV) (metaf : Option Bytes) (md : Meta)
    (hc : CfgOk comps cfg) (hf : FitsV0 cfg kvs) (hs : StrictAsc bytesCmp kvs) (hm : MetaV0 metaf md)
    (k : LoaderKind) (hk : kindFits k (kvs.map (·.1))) (o : ReadOpts) (bloom : Option (Bytes → Bool)) :
    ∃ idx, openTableV0 comps k o (filesOf cfg kvs metaf) bloom = some (.ok (readerOfV0 cfg kvs o bloom md, idx)) ∧
      (readerOfV0 cfg kvs o bloom md).scan comps idx = .ok ((normKVs kvs).map normKV, .done) := by
  obtain ⟨idx, hload, href⟩ := table_index_v0 comps cfg kvs hc hf hs k hk
  refine ⟨idx, openTableV0_ok comps cfg kvs metaf md hc hm k o bloom idx hload, ?_⟩
  unfold V0.Reader.scan
  rw [href.all]
  exact fullScan_table comps cfg kvs hc hf o bloom md

/-! The layout depends on the data compressor only through what it makes of the stored messages
(SST/Proofs/SSTableV0Examples.lean carries the general theorems with this to the repository's files under ANY lawful
snappy implementation that encodes their seven small messages the way the files show). -/

theorem entriesFromV0_congr (dv : Nat) (c1 c2 : Comp) : ∀ (l : List KV) (off : Nat),
    (∀ p ∈ l, c1.enc (encDataEntry p.2) = c2.enc (encDataEntry p.2)) →
    entriesFromV0 dv (some c1) off l = entriesFromV0 dv (some c2) off l := by
  intro l
  induction l with
  | nil => intro _ _; rfl
  | cons p l ih =>
    intro off h
    obtain ⟨k, v⟩ := p
    have h1 := encRecordL_congr dv c1 c2 (encDataEntry v) (h (k, v) (by simp))
    simp only [entriesFromV0, dataRecOf, h1, ih _ (fun q hq => h q (by simp [hq]))]

theorem encAllL_data_congr (dv : Nat) (c1 c2 : Comp) (l : List KV)
    (h : ∀ p ∈ l, c1.enc (encDataEntry p.2) = c2.enc (encDataEntry p.2)) :
    encAllL dv (some c1) (l.map fun p => dataRecOf p.2) = encAllL dv (some c2) (l.map fun p => dataRecOf p.2) := by
  unfold encAllL
  rw [List.map_map, List.map_map]
  exact congrArg List.flatten (List.map_congr_left fun p hp => encRecordL_congr dv c1 c2 _ (h p hp))

/-- the same layout with another data compressor that agrees on the stored messages -/
def withDc (cfg : Cfg) (c : Comp) : Cfg := { cfg with dc := some c }

theorem filesOf_congr_dc (cfg : Cfg) (c1 c2 : Comp) (kvs : List KV) (metaf : Option Bytes)
    (h : ∀ p ∈ kvs, c1.enc (encDataEntry p.2) = c2.enc (encDataEntry p.2)) :
    filesOf (withDc cfg c1) kvs metaf = filesOf (withDc cfg c2) kvs metaf := by
  have he : entriesOfV0 (withDc cfg c1) kvs = entriesOfV0 (withDc cfg c2) kvs :=
    entriesFromV0_congr cfg.dv c1 c2 kvs fileHeaderSize h
  have hd : dataFileOfV0 (withDc cfg c1) kvs = dataFileOfV0 (withDc cfg c2) kvs := by
    unfold dataFileOfV0
    rw [encFileL_eq, encFileL_eq]
    exact congrArg _ (encAllL_data_congr cfg.dv c1 c2 kvs h)
  have hi : indexFileOfV0 (withDc cfg c1) kvs = indexFileOfV0 (withDc cfg c2) kvs := by
    unfold indexFileOfV0
    rw [he]
    rfl
  unfold filesOf
  rw [hd, hi]

theorem fitsV0_congr_dc (cfg : Cfg) (c1 c2 : Comp) (kvs : List KV)
    (h : ∀ p ∈ kvs, c1.enc (encDataEntry p.2) = c2.enc (encDataEntry p.2))
    (hf : FitsV0 (withDc cfg c2) kvs) : FitsV0 (withDc cfg c1) kvs := by
  obtain ⟨h1, h2⟩ := hf
  have he : entriesOfV0 (withDc cfg c1) kvs = entriesOfV0 (withDc cfg c2) kvs :=
    entriesFromV0_congr cfg.dv c1 c2 kvs fileHeaderSize h
  refine ⟨fun p hp => ⟨?_, (h1 p hp).2⟩, fun e he' => ?_⟩
  · have h' : ((dataRecOf p.2).getD []).length < 2 ^ 64 ∧ clenOf (some c2) ((dataRecOf p.2).getD []) < 2 ^ 64 :=
      (h1 p hp).1
    rwa [show clenOf (some c2) ((dataRecOf p.2).getD []) = clenOf (some c1) ((dataRecOf p.2).getD []) from
      congrArg List.length (h p hp).symm] at h'
  · rw [he] at he'
    exact h2 e he'

theorem metaV0_none : MetaV0 none {} := ⟨rfl, rfl⟩

/-- A version-0 table without metadata file, opened with any Bloom filter: the reader reports the all-zero
default metadata although the full scan delivers all `kvs.length` records. -/
theorem v0_meta_reported_any (comps : Nat → Compression) (cfg : Cfg) (kvs : List KV)
    (hc : CfgOk comps cfg) (hf : FitsV0 cfg kvs) (hs : StrictAsc bytesCmp kvs)
    (o : ReadOpts) (bloom : Option (Bytes → Bool)) :
    ∃ r idx, openTableV0 comps .slice o (filesOf cfg kvs none) bloom = some (.ok (r, idx)) ∧ r.metaData = {} ∧
      ∃ out, r.scan comps idx = .ok (out, .done) ∧ out.length = kvs.length := by
  obtain ⟨idx, hopen, hscan⟩ := table_scan_v0 comps cfg kvs none {} hc hf hs metaV0_none .slice trivial o bloom
  exact ⟨_, idx, hopen, rfl, _, hscan, by simp [normKVs]⟩

/-- whatever the files are: a version-0 reader reports exactly what the metadata file parses as (the all-zero
default when there is none), serves from the data file as it is, and holds the index loaded from the index file -/
theorem openTableV0_md (comps : Nat → Compression) (k : LoaderKind) (o : ReadOpts) (t : Files)
    (bloom : Option (Bytes → Bool)) (r : V0.Reader) (idx : Index)
    (h : openTableV0 comps k o t bloom = some (.ok (r, idx))) :
    TblDir.readMeta t.metaf = .ok r.md ∧ r.md.version = 0 ∧ r.data = t.data ∧
      loadIndexL comps k t.index = some (.ok idx) := by
  -- every failing step of `NewSSTableReader` contradicts `h`
  unfold openTableV0 at h
  split at h
  · cases h
  · split at h
    · cases h
    · cases h
    · split at h
      · cases h
      · split at h
        · cases h
        · cases h
          exact ⟨‹_›, Decidable.not_not.mp ‹_›, rfl, ‹_›⟩

/-- a reader without metadata is a compaction candidate by size alone: its reported total size 0 is below every
positive limit, the tombstone ratio is never looked at (numRecords = 0) -/
theorem candidateV0_no_meta (o : DBM.Opts) (r : V0.Reader) (h : r.md = {}) :
    candidateV0 o r = decide (0 < o.maxSize) := by
  unfold candidateV0 Stack.candidateMd
  rw [h]
  simp

theorem cellsOf_norm (l : List KV) : cellsOf (l.map normKV, .done) = l := by
  unfold cellsOf
  simp only [List.map_map]
  have : ((fun p : GoBytes × GoBytes => (p.1.getD [], p.2)) ∘ normKV) = id := by
    funext p; simp [normKV, normKey_getD]
  rw [this, List.map_id]

theorem mergeInputV0_of (comps : Nat → Compression) (t : Files) (bloom : Option (Bytes → Bool)) (r : V0.Reader)
    (idx : Index) (sr : ScanRes) (h1 : openTableV0 comps .slice {} t bloom = some (.ok (r, idx)))
    (h2 : r.scan comps idx = .ok sr) :
    mergeInputV0 comps t bloom = some (.ok (Stack.scanInput sr)) := by
  unfold mergeInputV0
  rw [h1]
  simp only [h2]

theorem mergeInputV0_table (comps : Nat → Compression) (cfg : Cfg) (kvs : List KV) (metaf : Option Bytes) (md : Meta)
    (hc : CfgOk comps cfg) (hf : FitsV0 cfg kvs) (hs : StrictAsc bytesCmp kvs) (hm : MetaV0 metaf md)
    (bloom : Option (Bytes → Bool)) :
    mergeInputV0 comps (filesOf cfg kvs metaf) bloom = some (.ok (Merge.inputOf ((normKVs kvs).map normKV))) := by
  obtain ⟨idx, hopen, hscan⟩ := table_scan_v0 comps cfg kvs metaf md hc hf hs hm .slice trivial {} bloom
  rw [mergeInputV0_of comps _ bloom _ idx _ hopen hscan]
  rfl

end SST.Proofs.V0
