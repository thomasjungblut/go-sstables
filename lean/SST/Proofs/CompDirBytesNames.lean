/-
Proofs for SST/Model/CompDirBytes.lean: directory names ↔ numbers, and that generated names are ASCII.
-/
import SST.Model.CompDirBytes
import SST.Proofs.Varint
namespace SST.Proofs.CompDir
open SST SST.CompDir Generated

def IsDigit (b : UInt8) : Prop := 48 ≤ b.toNat ∧ b.toNat ≤ 57

theorem digit_toNat (d : Nat) (h : d < 10) : (UInt8.ofNat (48 + d)).toNat = 48 + d :=
  toNat_ofNat_lt _ (by omega)

theorem isDigit_ofNat (d : Nat) (h : d < 10) : IsDigit (UInt8.ofNat (48 + d)) := by
  unfold IsDigit; rw [digit_toNat d h]; omega

theorem digitVal_of_isDigit {b : UInt8} (h : IsDigit b) : digitVal b = some (b.toNat - 48) := by
  unfold digitVal
  have h1 : (48 : UInt8) ≤ b := by rw [UInt8.le_iff_toNat_le]; exact h.1
  have h2 : b ≤ (57 : UInt8) := by rw [UInt8.le_iff_toNat_le]; exact h.2
  rw [if_pos ⟨h1, h2⟩]

theorem digitVal_ofNat (d : Nat) (h : d < 10) : digitVal (UInt8.ofNat (48 + d)) = some d := by
  rw [digitVal_of_isDigit (isDigit_ofNat d h), digit_toNat d h]; congr 1; omega

theorem digitVal_not_digit {b : UInt8} (h : ¬ IsDigit b) : digitVal b = none := by
  unfold digitVal
  rw [if_neg]
  intro hh
  apply h
  rw [UInt8.le_iff_toNat_le, UInt8.le_iff_toNat_le] at hh
  exact hh

theorem decDigits_lt (n : Nat) (h : n < 10) : decDigits n = [UInt8.ofNat (48 + n)] := by
  rw [decDigits, if_pos h]

theorem decDigits_ge (n : Nat) (h : ¬ n < 10) :
    decDigits n = decDigits (n / 10) ++ [UInt8.ofNat (48 + n % 10)] := by
  rw [decDigits, if_neg h]

theorem decDigits_ne_nil (n : Nat) : decDigits n ≠ [] := by
  by_cases h : n < 10
  · rw [decDigits_lt n h]; simp
  · rw [decDigits_ge n h]; simp

theorem decDigits_isDigit (n : Nat) : ∀ b ∈ decDigits n, IsDigit b := by
  induction n using Nat.strongRecOn with
  | _ n ih =>
    intro b hb
    by_cases h : n < 10
    · rw [decDigits_lt n h, List.mem_singleton] at hb
      rw [hb]; exact isDigit_ofNat n h
    · rw [decDigits_ge n h, List.mem_append, List.mem_singleton] at hb
      rcases hb with hb | hb
      · exact ih (n / 10) (by omega) b hb
      · rw [hb]; exact isDigit_ofNat _ (by omega)

theorem padZeros_isDigit (k n : Nat) : ∀ b ∈ padZeros k (decDigits n), IsDigit b := by
  intro b hb
  unfold padZeros at hb
  rw [List.mem_append] at hb
  rcases hb with hb | hb
  · have : b = 48 := (List.mem_replicate.mp hb).2
    rw [this]; unfold IsDigit; decide
  · exact decDigits_isDigit n b hb

theorem padZeros_ne_nil (k n : Nat) : padZeros k (decDigits n) ≠ [] := by
  unfold padZeros
  intro h
  exact decDigits_ne_nil n (List.append_eq_nil_iff.mp h).2

theorem parseDigits_append (a b : Bytes) : ∀ acc, parseDigits (a ++ b) acc = (parseDigits a acc).bind (parseDigits b) := by
  induction a with
  | nil => intro acc; simp [parseDigits]
  | cons d ds ih =>
    intro acc
    simp only [List.cons_append, parseDigits]
    cases digitVal d with
    | none => rfl
    | some v => exact ih _

theorem parseDigits_decDigits (n : Nat) : parseDigits (decDigits n) 0 = some n := by
  induction n using Nat.strongRecOn with
  | _ n ih =>
    by_cases h : n < 10
    · rw [decDigits_lt n h]
      simp only [parseDigits, digitVal_ofNat n h, Nat.zero_mul, Nat.zero_add]
    · rw [decDigits_ge n h, parseDigits_append, ih (n / 10) (by omega)]
      simp only [Option.bind_some, parseDigits, digitVal_ofNat (n % 10) (by omega)]
      congr 1; omega

theorem parseDigits_zeros (k : Nat) : parseDigits (List.replicate k 48) 0 = some 0 := by
  induction k with
  | zero => rfl
  | succ k ih =>
    rw [List.replicate_succ]
    have : digitVal 48 = some 0 := by decide
    simp only [parseDigits, this]
    exact ih

theorem parseNat_of_ne_nil {ds : Bytes} (h : ds ≠ []) : parseNat ds = parseDigits ds 0 := by
  cases ds with
  | nil => exact absurd rfl h
  | cons _ _ => rfl

theorem parseNat_decDigits (n : Nat) : parseNat (decDigits n) = some n := by
  rw [parseNat_of_ne_nil (decDigits_ne_nil n)]
  exact parseDigits_decDigits n

theorem parseNat_padZeros (k n : Nat) : parseNat (padZeros k (decDigits n)) = some n := by
  rw [parseNat_of_ne_nil (padZeros_ne_nil k n), padZeros, parseDigits_append, parseDigits_zeros]
  exact parseDigits_decDigits n

theorem tablePrefix_length : tablePrefix.length = 8 := rfl
theorem compPrefix_length : compPrefix.length = 18 := rfl

/-- the shape of `tableOfName` and `compOfName`: the prefix, a decimal number, and only a name that `fmt` itself
produces is accepted -/
def ofName (pre : Bytes) (fmt : Nat → Bytes) (p : Bytes) : Option Nat :=
  if p.take pre.length = pre then
    match parseNat (p.drop pre.length) with
    | some g => if fmt g = p then some g else none
    | none => none
  else none

theorem ofName_some {pre : Bytes} {fmt : Nat → Bytes} {p : Bytes} {g : Nat} (h : ofName pre fmt p = some g) :
    p = fmt g := by
  unfold ofName at h
  split at h
  · split at h
    · split at h
      · rename_i he
        cases h
        exact he.symm
      · cases h
    · cases h
  · cases h

theorem ofName_fmt {pre : Bytes} {fmt : Nat → Bytes} {g : Nat} {ds : Bytes} (hf : fmt g = pre ++ ds)
    (hp : parseNat ds = some g) : ofName pre fmt (fmt g) = some g := by
  unfold ofName
  rw [hf, List.take_left' rfl, if_pos rfl, List.drop_left' rfl, hp]
  simp [hf]

theorem tableOfName_eq : tableOfName = ofName tablePrefix tableName := rfl

theorem compOfName_eq : compOfName = ofName compPrefix compName := rfl

/-- `sstable_%015d` names table `g`, for every `g` (more than 15 digits included) -/
theorem tableOfName_tableName (g : Nat) : tableOfName (tableName g) = some g :=
  tableOfName_eq ▸ ofName_fmt rfl (parseNat_padZeros 15 g)

theorem compOfName_compName (id : Nat) : compOfName (compName id) = some id :=
  compOfName_eq ▸ ofName_fmt rfl (parseNat_decDigits id)

theorem tableOfName_some {p : Bytes} {g : Nat} (h : tableOfName p = some g) : p = tableName g :=
  ofName_some (tableOfName_eq ▸ h)

theorem compOfName_some {p : Bytes} {id : Nat} (h : compOfName p = some id) : p = compName id :=
  ofName_some (compOfName_eq ▸ h)

theorem tableName_inj {g g' : Nat} (h : tableName g = tableName g') : g = g' := by
  have h1 := tableOfName_tableName g
  rw [h, tableOfName_tableName] at h1
  exact (Option.some.inj h1).symm

theorem parseNat_not_digit {b : UInt8} (h : ¬ IsDigit b) (rest : Bytes) : parseNat (b :: rest) = none := by
  unfold parseNat
  simp [parseDigits, digitVal_not_digit h]

/-- the name of a compaction directory is never taken for a table's (the converse: `compOfName_tableName`): it goes on
with "compaction…" after "sstable_", and the letter `c` is no digit -/
theorem tableOfName_compName (id : Nat) : tableOfName (compName id) = none := by
  unfold tableOfName
  have h2 : (compName id).drop tablePrefix.length =
      0x63 :: ([0x6f, 0x6d, 0x70, 0x61, 0x63, 0x74, 0x69, 0x6f, 0x6e] ++ decDigits id) := by
    unfold compName compPrefix
    rw [List.append_assoc]
    exact List.drop_left' rfl
  rw [h2, parseNat_not_digit (by unfold IsDigit; decide)]
  split <;> rfl

theorem compOfName_tableName (g : Nat) : compOfName (tableName g) = none := by
  unfold compOfName
  rw [if_neg]
  intro h
  cases hx : padZeros 15 (decDigits g) with
  | nil => exact padZeros_ne_nil 15 g hx
  | cons x X =>
    have hd : IsDigit x := padZeros_isDigit 15 g x (by rw [hx]; exact List.mem_cons_self)
    unfold tableName at h
    rw [hx] at h
    have hx63 : x = 0x63 := by
      simp [compPrefix, tablePrefix] at h
      exact h.1
    rw [hx63] at hd
    revert hd
    unfold IsDigit
    decide

theorem mapM_tableOfName (gs : List Nat) : (gs.map tableName).mapM tableOfName = some gs := by
  induction gs with
  | nil => rfl
  | cons g gs ih =>
    rw [List.map_cons, List.mapM_cons, tableOfName_tableName, ih]
    rfl

/-- only lists of canonical table names resolve -/
theorem mapM_tableOfName_some : ∀ (paths : List Bytes) (ins : List Nat),
    paths.mapM tableOfName = some ins → paths = ins.map tableName
  | [], ins, h => by cases Option.some.inj h; rfl
  | p :: ps, ins, h => by
    rw [List.mapM_cons] at h
    cases hp : tableOfName p with
    | none => rw [hp] at h; cases h
    | some a =>
      cases hps : ps.mapM tableOfName with
      | none => rw [hp, hps] at h; cases h
      | some as =>
        rw [hp, hps] at h
        cases Option.some.inj h
        rw [List.map_cons, ← tableOfName_some hp, ← mapM_tableOfName_some ps as hps]

/-- the paths written for abstract metadata `cm` in directory `id` resolve to `cm` again -/
theorem absMeta_rawOf (id : Nat) (cm : FS.CompMeta) : absMeta (rawOf id cm) = some cm := by
  unfold absMeta rawOf
  simp only [mapM_tableOfName, tableOfName_tableName]

theorem utf8Valid_ascii : ∀ b : Bytes, (∀ c ∈ b, c < 0x80) → utf8Valid b = true := by
  intro b
  induction b with
  | nil => intro _; rfl
  | cons c rest ih =>
    intro h
    have hc : c < 0x80 := h c List.mem_cons_self
    unfold utf8Valid
    rw [if_pos hc]
    exact ih (fun x hx => h x (List.mem_cons_of_mem _ hx))

theorem isDigit_ascii {b : UInt8} (h : IsDigit b) : b < 0x80 := by
  rw [UInt8.lt_iff_toNat_lt]
  have : (0x80 : UInt8).toNat = 128 := rfl
  rw [this]
  exact Nat.lt_of_le_of_lt h.2 (by omega)

theorem tableName_ascii (g : Nat) : ∀ c ∈ tableName g, c < 0x80 := by
  intro c hc
  unfold tableName at hc
  rw [List.mem_append] at hc
  rcases hc with hc | hc
  · revert c; decide
  · exact isDigit_ascii (padZeros_isDigit 15 g c hc)

theorem compName_ascii (id : Nat) : ∀ c ∈ compName id, c < 0x80 := by
  intro c hc
  unfold compName at hc
  rw [List.mem_append] at hc
  rcases hc with hc | hc
  · revert c; decide
  · exact isDigit_ascii (decDigits_isDigit id c hc)

/-- generated names are ASCII: `proto.Marshal` accepts them -/
theorem rawOf_valid (id : Nat) (cm : FS.CompMeta) : (rawOf id cm).valid = true := by
  unfold RawMeta.valid rawOf
  simp only [Bool.and_eq_true, List.all_eq_true, List.mem_map]
  refine ⟨⟨utf8Valid_ascii _ (compName_ascii id), utf8Valid_ascii _ (tableName_ascii _)⟩, ?_⟩
  rintro x ⟨g, _, rfl⟩
  exact utf8Valid_ascii _ (tableName_ascii g)

end SST.Proofs.CompDir
