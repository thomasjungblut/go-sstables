/-
Zero-padded cuts of the flag file, record level: the one record of the flag, cut anywhere and followed by any number
of zero bytes, does not read, or reads as its payload cut and padded with zeros to its length (`rec_pad`).
(Helper file of SST/Proofs/CompDirBytesPad.lean.)
-/
import SST.Proofs.CompDirBytesDefs
import SST.Proofs.RecordIO
namespace SST.Proofs.CompDir.Pad
open SST SST.CompDir Generated SST.Proofs

theorem canonDec_zeros (w : Win) (y : Nat) :
    (∃ e, canonDec w (zeros y) = .error e) ∨ (0 < y ∧ canonDec w (zeros y) = .ok (0, 1)) := by
  cases y with
  | zero => exact Or.inl ⟨_, canonDec_nil w⟩
  | succ y => exact Or.inr ⟨by omega, canonDec_zero w _⟩

/-- a varint cut after at least one of its bytes and continued by zeros runs off the end, or — its first `t` bytes and
one zero byte being a varint again — is not canonical -/
theorem canonDec_cut (w : Win) (E : Bytes) (hE : IsVar E) (t : Nat) (h1 : 1 ≤ t) (ht : t < E.length) (z : Nat) :
    ∃ e, canonDec w (E.take t ++ zeros z) = .error e := by
  cases z with
  | zero =>
    obtain ⟨e, he⟩ := isVar_take_err E hE t ht 0 0 0
    obtain ⟨e', he'⟩ := Win.map_error (α := Nat × Nat) w e
    rw [zeros_zero, List.append_nil, canonDec_eq, show uvarintDec (E.take t) = .error e from he, he']
    exact ⟨_, rfl⟩
  | succ z =>
    obtain ⟨v0, _⟩ := isVar_take_zero E hE t ht
    have hT : (E.take t).length = t := List.length_take_of_le (Nat.le_of_lt ht)
    generalize E.take t = T at hT v0 ⊢
    subst hT
    rw [zeros_succ, List.append_cons]
    rcases canonDec_isVar w _ (zeros z) v0 with h | h
    · exact h
    · rw [List.length_append, List.length_singleton] at h
      refine absurd ⟨Nat.succ_le_succ h1, ?_⟩ (canonDec_ok_inv w _ _ _ h).2
      rw [Nat.add_sub_cancel, getD_append_left _ _ _ (by rw [List.length_append]; exact Nat.lt_succ_self _),
        List.getD_eq_getElem?_getD, List.getElem?_concat_length]
      rfl

theorem headerBody_decomp (n : Nat) : headerBody false n 0 = magicBytes ++ 0 :: (uvarintEnc n ++ [0]) := by
  rw [headerBody, uvarintEnc_zero]; simp

theorem encHeader_decomp (n : Nat) : encHeader false n 0 =
    magicBytes ++ 0 :: (uvarintEnc n ++ 0 :: uvarintEnc (crc32c (headerBody false n 0)).toNat) := by
  rw [encHeader]
  generalize (crc32c (headerBody false n 0)).toNat = crc
  rw [headerBody_decomp]; simp

/-- the header of an empty record does not have checksum 0 -/
theorem crc_emptyHeader_ne_zero : (crc32c (headerBody false 0 0)).toNat ≠ 0 := by decide +kernel

/-- cut inside the magic number -/
theorem hdr_cutM (w : Win) (t : Nat) (h1 : 1 ≤ t) (ht : t < 3) (z : Nat) (hw : w.bytes = magicBytes.take t ++ zeros z) :
    ∃ e, readHeader w = .error e := by
  have vM : IsVar magicBytes := by rw [← uvarintEnc_magic]; exact (isVar_enc _).1
  obtain ⟨e, he⟩ := canonDec_cut w magicBytes vM t h1 ht z
  exact ⟨e, readHeader_err1 w e (by rw [hw]; exact he)⟩

/-- cut inside the length field -/
theorem hdr_cutU (w : Win) (U : Bytes) (hU : IsVar U) (t : Nat) (h1 : 1 ≤ t) (ht : t < U.length) (z : Nat)
    (hw : w.bytes = magicBytes ++ 0 :: (U.take t ++ zeros z)) : ∃ e, readHeader w = .error e := by
  obtain ⟨e, he⟩ := canonDec_cut w U hU t h1 ht z
  exact ⟨e, readHeader_err3 w 3 0 _ e (by rw [hw]; exact canonDec_magic w _) (by rw [hw]; exact List.drop_left' rfl) he⟩

/-- the stream ends (in zeros) after the length field or after the compressed-length byte -/
theorem hdr_afterU (w : Win) (n : Nat) (hn : n < 2 ^ 64) (y : Nat)
    (hw : w.bytes = magicBytes ++ 0 :: (uvarintEnc n ++ zeros y)) :
    (∃ e, readHeader w = .error e) ∨ ((crc32c (headerBody false n 0)).toNat = 0 ∧ 2 ≤ y) := by
  have h1 : canonDec w w.bytes = .ok (magicNumber, 3) := by rw [hw]; exact canonDec_magic w _
  have h2 : w.bytes.drop 3 = 0 :: (uvarintEnc n ++ zeros y) := by rw [hw]; exact List.drop_left' rfl
  have h3 : canonDec w (uvarintEnc n ++ zeros y) = .ok (n, (uvarintEnc n).length) := canonDec_enc w n _ hn
  have hd3 : (uvarintEnc n ++ zeros y).drop (uvarintEnc n).length = zeros y := List.drop_left
  rcases canonDec_zeros w y with ⟨e, he⟩ | ⟨hp1, hk1⟩
  · exact Or.inl ⟨e, readHeader_err4 w 3 0 _ n _ e h1 h2 h3 (by rw [hd3]; exact he)⟩
  have hd4 : ((uvarintEnc n ++ zeros y).drop (uvarintEnc n).length).drop 1 = zeros (y - 1) := by
    rw [hd3]; exact zeros_drop _ _
  rcases canonDec_zeros w (y - 1) with ⟨e, he⟩ | ⟨hp2, hk2⟩
  · exact Or.inl ⟨e, readHeader_err5 w 3 0 _ n _ 0 1 e h1 h2 h3 (by rw [hd3]; exact hk1) (by rw [hd4]; exact he)⟩
  by_cases hcrc : (crc32c (headerBody false n 0)).toNat = 0
  · exact Or.inr ⟨hcrc, by omega⟩
  · left
    refine ⟨_, readHeader_err6 w 3 0 _ n _ 0 1 0 1 h1 h2 h3 (by rw [hd3]; exact hk1) (by rw [hd4]; exact hk2) ?_⟩
    obtain ⟨y1, rfl⟩ : ∃ y1, y = y1 + 1 := ⟨y - 1, by omega⟩
    have ht : w.bytes.take (3 + 1 + (uvarintEnc n).length + 1) = headerBody false n 0 := by
      rw [hw, headerBody_decomp, zeros_succ]
      have : magicBytes ++ 0 :: (uvarintEnc n ++ (0 :: zeros y1)) =
          (magicBytes ++ 0 :: (uvarintEnc n ++ [0])) ++ zeros y1 := by simp
      rw [this]
      apply List.take_left'
      simp [magic_length]; omega
    rw [ht]
    exact hcrc

/-- nothing but zeros after the magic number: at best the header of an empty record, whose checksum is not 0 -/
theorem hdr_zeros (w : Win) (y : Nat) (hw : w.bytes = magicBytes ++ zeros y) : ∃ e, readHeader w = .error e := by
  have h1 : canonDec w w.bytes = .ok (magicNumber, 3) := by rw [hw]; exact canonDec_magic w _
  have hd : w.bytes.drop 3 = zeros y := by rw [hw]; exact List.drop_left' rfl
  match y, hw, hd with
  | 0, _, hd => exact ⟨_, readHeader_err2 w 3 h1 hd⟩
  | 1, _, hd => exact ⟨_, readHeader_err3 w 3 0 [] _ h1 hd (canonDec_nil w)⟩
  | y + 2, hw, _ =>
    rcases hdr_afterU w 0 (by decide) y (by rw [hw, uvarintEnc_zero]; rfl) with h | ⟨hcrc, _⟩
    · exact h
    · exact absurd hcrc crc_emptyHeader_ne_zero

/-- cut inside the checksum field -/
theorem hdr_cutK (w : Win) (U : Bytes) (u : Nat) (K : Bytes) (hK : IsVar K) (t : Nat) (h1 : 1 ≤ t)
    (ht : t < K.length) (z : Nat) (hw : w.bytes = magicBytes ++ 0 :: (U ++ 0 :: (K.take t ++ zeros z)))
    (hU : canonDec w (U ++ 0 :: (K.take t ++ zeros z)) = .ok (u, U.length)) : ∃ e, readHeader w = .error e := by
  obtain ⟨e, he⟩ := canonDec_cut w K hK t h1 ht z
  exact ⟨e, readHeader_err5 w 3 0 _ u U.length 0 1 e (by rw [hw]; exact canonDec_magic w _)
    (by rw [hw]; exact List.drop_left' rfl) hU (by rw [List.drop_left]; exact canonDec_zero w _)
    (by rw [List.drop_left]; exact he)⟩

/-- the reader's window over a stream that ends in zeros -/
theorem fileWin_pad (A : Bytes) (hA : A.length ≤ recordHeaderMax) (z : Nat) :
    ∃ z', z' ≤ z ∧ (fileWin (A ++ zeros z)).bytes = A ++ zeros z' :=
  ⟨min (recordHeaderMax - A.length) z, Nat.min_le_right _ _, by
    rw [Buf.fileWin_bytes_eq, List.take_append, List.take_of_length_le hA, zeros_take]⟩

/-- the header of the flag's record, cut and zero padded: the header parse fails, or the checksum field happens to be
a single zero byte and the padding has completed the header -/
theorem hdr_pad (n : Nat) (hn : n < 2 ^ 64) (k : Nat) (hk : k < (encHeader false n 0).length) (z : Nat) :
    (∃ e, readHeader (fileWin ((encHeader false n 0).take k ++ zeros z)) = .error e) ∨
    ((crc32c (headerBody false n 0)).toNat = 0 ∧
      ∃ y, (encHeader false n 0).take k ++ zeros z = encHeader false n 0 ++ zeros y) := by
  obtain ⟨z', hz', hw⟩ := fileWin_pad ((encHeader false n 0).take k)
    (Nat.le_trans (List.length_take_le' _ _) (encHeader_length_le false n 0 hn (by decide))) z
  generalize fileWin ((encHeader false n 0).take k ++ zeros z) = w at hw ⊢
  have hU := (isVar_enc n).1
  have hK := (isVar_enc (crc32c (headerBody false n 0)).toNat).1
  have hUd : ∀ rest, canonDec w (uvarintEnc n ++ rest) = .ok (n, (uvarintEnc n).length) :=
    fun rest => canonDec_enc w n rest hn
  -- the window holds the header up to the length field and `y` zeros, `d` of which belong to the cut header
  have hA : ∀ y d, d + z' = y → w.bytes = magicBytes ++ 0 :: (uvarintEnc n ++ zeros y) →
      (∃ e, readHeader w = .error e) ∨ ((crc32c (headerBody false n 0)).toNat = 0 ∧
        ∃ y', (magicBytes ++ 0 :: uvarintEnc n) ++ zeros (d + z) = encHeader false n 0 ++ zeros y') := by
    intro y d hy hwb
    rcases hdr_afterU w n hn y hwb with h | ⟨hcrc, h2⟩
    · exact .inl h
    · obtain ⟨y2, hy2⟩ := Nat.exists_eq_add_of_le' (show 2 ≤ d + z by omega)
      refine .inr ⟨hcrc, y2, ?_⟩
      rw [encHeader_decomp, hcrc, uvarintEnc_zero, hy2]
      simp [zeros_succ]
  rw [encHeader_length, uvarintEnc_zero, List.length_singleton] at hk
  rw [encHeader_decomp] at hw hA ⊢
  generalize uvarintEnc (crc32c (headerBody false n 0)).toNat = K at *
  generalize uvarintEnc n = U at *
  rcases Nat.lt_or_ge k 3 with h3 | h3
  · -- inside the magic number
    left
    rw [List.take_append_of_le_length (Nat.le_of_lt h3)] at hw
    rcases Nat.eq_zero_or_pos k with rfl | hk0
    · cases z' with
      | zero => exact ⟨_, readHeader_err1 _ _ (by rw [hw]; exact canonDec_nil _)⟩
      | succ z' => exact ⟨_, readHeader_zero w _ hw⟩
    · exact hdr_cutM w k hk0 h3 z' hw
  obtain ⟨j, rfl⟩ := Nat.exists_eq_add_of_le h3
  rw [show 3 + j = magicBytes.length + j from rfl, List.take_length_add_append] at hw ⊢
  cases j with
  | zero => exact .inl (hdr_zeros w z' hw)
  | succ j =>
  rw [List.take_succ_cons] at hw ⊢
  rcases Nat.lt_or_ge j U.length with hj | hj
  · -- inside the length field (or right before it)
    left
    rw [List.take_append_of_le_length (Nat.le_of_lt hj)] at hw
    rcases Nat.eq_zero_or_pos j with rfl | hj0
    · exact hdr_zeros w (z' + 1) (by rw [hw, List.append_assoc]; rfl)
    · exact hdr_cutU w U hU j hj0 hj z' (by rw [hw, List.append_assoc, List.cons_append])
  obtain ⟨i, rfl⟩ := Nat.exists_eq_add_of_le hj
  rw [List.take_length_add_append] at hw ⊢
  cases i with
  | zero =>
    rw [List.take_zero, List.append_nil] at hw ⊢
    have h := hA z' 0 (Nat.zero_add _) (by rw [hw, List.append_assoc, List.cons_append])
    rwa [Nat.zero_add] at h
  | succ i =>
  rw [List.take_succ_cons] at hw ⊢
  rcases Nat.eq_zero_or_pos i with rfl | hi0
  · have e : ∀ y, (magicBytes ++ 0 :: (U ++ 0 :: K.take 0)) ++ zeros y = (magicBytes ++ 0 :: U) ++ zeros (1 + y) := by
      intro y; simp [Nat.add_comm 1 y, zeros_succ]
    rw [e] at hw ⊢
    exact hA (1 + z') 1 rfl (by rw [hw, List.append_assoc, List.cons_append])
  · left
    exact hdr_cutK w U n K hK i hi0 (by omega) z' (by rw [hw]; simp) (hUd _)

theorem encRecord_plain (P : Bytes) : encRecord none (some P) = encHeader false P.length 0 ++ P := rfl

/-- `ReadNext` on an intact header of an uncompressed, non-empty record, whatever follows it -/
theorem readNextS_header (n : Nat) (hn : n < 2 ^ 64) (h0 : n ≠ 0) (X : Bytes) :
    readNextS none (encHeader false n 0 ++ X) =
      if X.length = 0 then .error .eof else if X.length < n then .error .unexpectedEof
      else .ok (some (X.take n), (encHeader false n 0).length + n) := by
  unfold readNextS
  rw [readHeader_fileWin false n 0 X hn (by decide)]
  simp only [expectedLen, Bool.false_eq_true, if_false, List.drop_left, if_neg h0]
  rfl

/-- header intact, payload cut and padded -/
theorem readNext_payload (P : Bytes) (hP : P.length < 2 ^ 64) (j : Nat) (hj : j < P.length) (z : Nat) :
    (∃ e, readNextS none (encHeader false P.length 0 ++ (P.take j ++ zeros z)) = .error e) ∨
    ∃ n', readNextS none (encHeader false P.length 0 ++ (P.take j ++ zeros z)) = .ok (some (padCut P j 0), n') := by
  rw [readNextS_header P.length hP (Nat.ne_of_gt (Nat.zero_lt_of_lt hj))]
  by_cases h0 : (P.take j ++ zeros z).length = 0
  · rw [if_pos h0]; exact .inl ⟨_, rfl⟩
  rw [if_neg h0]
  by_cases hlen : (P.take j ++ zeros z).length < P.length
  · rw [if_pos hlen]; exact .inl ⟨_, rfl⟩
  rw [if_neg hlen]
  have hl : (P.take j).length = j := List.length_take_of_le (Nat.le_of_lt hj)
  rw [List.length_append, hl, zeros_length] at hlen
  rw [List.take_append, List.take_of_length_le (Nat.le_trans (Nat.le_of_eq hl) (Nat.le_of_lt hj)), hl, zeros_take,
    Nat.min_eq_left (Nat.sub_le_iff_le_add'.mpr (Nat.le_of_not_lt hlen))]
  exact .inr ⟨_, rfl⟩

theorem rec_pad (P : Bytes) (hP : P.length < 2 ^ 64) (k : Nat) (hk : k < (encRecord none (some P)).length) (z : Nat) :
    (∃ e, readNextS none ((encRecord none (some P)).take k ++ zeros z) = .error e) ∨
    ∃ j n', j < P.length ∧
      readNextS none ((encRecord none (some P)).take k ++ zeros z) = .ok (some (padCut P j 0), n') := by
  rw [encRecord_plain] at hk ⊢
  rw [List.length_append] at hk
  by_cases hcut : k < (encHeader false P.length 0).length
  · rw [List.take_append_of_le_length (by omega)]
    rcases hdr_pad P.length hP k hcut z with h | ⟨hcrc, y, hy⟩
    · exact Or.inl (readNextS_of_header_error none _ h)
    · have hn0 : 0 < P.length := Nat.pos_of_ne_zero fun h => by rw [h] at hcrc; exact crc_emptyHeader_ne_zero hcrc
      rw [hy]
      rcases readNext_payload P hP 0 hn0 y with h | ⟨n', h⟩
      · exact Or.inl h
      · exact Or.inr ⟨0, n', hn0, h⟩
  · rw [List.take_append, List.take_of_length_le (Nat.le_of_not_lt hcut), List.append_assoc]
    have hkP : k - (encHeader false P.length 0).length < P.length :=
      Nat.sub_lt_left_of_lt_add (Nat.le_of_not_lt hcut) hk
    rcases readNext_payload P hP _ hkP z with h | ⟨n', h⟩
    · exact Or.inl h
    · exact Or.inr ⟨_, n', hkP, h⟩

end SST.Proofs.CompDir.Pad
