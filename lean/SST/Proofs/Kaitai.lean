/-
The Kaitai interpreter on a written file (C20): the vlq reader reads back Go's uvarints below 2^56, a written
record is parsed to `expectedRec`, and `kaitaiParse` is the header object followed by `parseRecords`
(`kaitaiParse_header`, `parseRecords_enc`), whatever tail follows the records.
The schema value `Generated.schema` is regenerated from kaitai/recordio_v4.ksy on every run; every lemma below
that mentions it is re-checked against the current schema (a change of the field order or of `len_payload`
breaks the build of this file).
-/
import SST.Spec.Kaitai
import SST.Proofs.RecordIO
import SST.Generated.Kaitai
namespace SST.Kaitai
open SST Generated SST.Proofs

theorem and128 (b : UInt8) : (b &&& 128 != 0) = decide (b.toNat ≥ 128) := by
  -- quotient and remainder of `b &&& 2^7` by `2^7`: bit 7 of `b`, which for a byte is `b / 2^7`, and nothing below
  have h : (b &&& 128).toNat = 2 ^ 7 * (b.toNat / 2 ^ 7) := by
    have h0 : (b &&& 128).toNat = b.toNat &&& 2 ^ 7 := UInt8.toNat_and b 128
    rw [h0, ← Nat.div_add_mod (b.toNat &&& 2 ^ 7) (2 ^ 7), Nat.and_div_two_pow, Nat.and_mod_two_pow,
      Nat.div_self (by decide), Nat.mod_self, Nat.and_zero, Nat.and_one_is_mod,
      Nat.mod_eq_of_lt (Nat.div_lt_of_lt_mul (UInt8.toNat_lt b)), Nat.add_zero]
  rw [Bool.eq_iff_iff, bne_iff_ne, decide_eq_true_iff, ne_eq, ← UInt8.toNat_inj, h]
  show 2 ^ 7 * (b.toNat / 2 ^ 7) ≠ 0 ↔ _
  rw [← Nat.pos_iff_ne_zero, Nat.mul_pos_iff_of_pos_left (by decide), Nat.div_pos_iff]
  exact and_iff_right (by decide)

theorem and127 (b : UInt8) : (b &&& 127).toNat = b.toNat % 128 := by
  rw [UInt8.toNat_and]
  exact Nat.and_two_pow_sub_one_eq_mod b.toNat 7

theorem vlqValueAux_cons (m : Nat) (b : UInt8) (bs : List UInt8) (i : Nat) (h : i < m) :
    vlqValueAux m (b :: bs) i = b.toNat % 128 * 2 ^ (7 * i) + vlqValueAux m bs (i + 1) := by
  rw [vlqValueAux, if_neg (Nat.not_le_of_lt h), and127, Nat.shiftLeft_eq]

/-- the group loop stops exactly at the end of a varint-shaped prefix (Go's `PutUvarint` clears the continuation
bit on the last byte only) -/
theorem vlqGroups_isVar : ∀ (E : Bytes), IsVar E → ∀ rest, vlqGroups (E ++ rest) = .ok (E, rest)
  | [], h, _ => nomatch h
  | b :: bs, h, rest => by
    rw [List.cons_append, vlqGroups, and128]
    rcases h with ⟨rfl, hb⟩ | ⟨hb, hbs⟩
    · rw [if_neg (by rw [decide_eq_true_eq]; omega)]; rfl
    · rw [if_pos (decide_eq_true hb), vlqGroups_isVar bs hbs rest]

theorem vlqValueAux_vval (m : Nat) : ∀ (E : Bytes) (i : Nat), i + E.length ≤ m →
    vlqValueAux m E i = vval E * 2 ^ (7 * i)
  | [], _, _ => by rw [vlqValueAux, vval, Nat.zero_mul]
  | b :: bs, i, h => by
    rw [List.length_cons, ← Nat.add_assoc, Nat.add_right_comm] at h
    rw [vlqValueAux_cons _ _ _ _ (by omega), vlqValueAux_vval m bs (i + 1) h, vval, Nat.mul_succ]
    have := varint_acc 0 (b.toNat % 128) (vval bs) (7 * i)
    rwa [Nat.zero_add, Nat.zero_add] at this

/-- the Kaitai vlq reader of `m` groups reads any varint of at most `m` bytes, not only one the writer produced -/
theorem readVlq_isVar (m : Nat) (E rest : Bytes) (hE : IsVar E) (hl : E.length ≤ m) :
    readVlq m (E ++ rest) = .ok (vval E, rest) := by
  simp only [readVlq, vlqGroups_isVar E hE, vlqValue, vlqValueAux_vval m E 0 (by omega), Nat.mul_zero, Nat.pow_zero,
    Nat.mul_one]

/-- a uvarint below 2^56 is read back by the Kaitai vlq reader (8 groups) -/
theorem readVlq_enc (n : Nat) (rest : Bytes) (hn : n < vlqLimit) :
    readVlq 8 (uvarintEnc n ++ rest) = .ok (n, rest) := by
  have := readVlq_isVar 8 _ rest (isVar_enc n).1 (uvarintEnc_len_le 7 n (by simpa [vlqLimit] using hn))
  rwa [(isVar_enc n).2] at this

/-- 2^56 is written as 9 groups, one more than the schema's vlq reader adds up -/
theorem uvarintEnc_two_pow_56 : uvarintEnc (2 ^ 56) = [0x80, 0x80, 0x80, 0x80, 0x80, 0x80, 0x80, 0x80, 0x01] := by
  simp [uvarintEnc]

theorem readBytes_append (p rest : Bytes) : readBytes p.length (p ++ rest) = .ok (p, rest) := by
  cases p with
  | nil => simp [readBytes]
  | cons a p =>
    have h1 : ¬ ((a :: p).length = 0) := by simp
    have h2 : ¬ ((a :: p ++ rest).length = 0) := by simp
    have h3 : ¬ ((a :: p ++ rest).length < (a :: p).length) := by simp
    rw [readBytes, if_neg h1, if_neg h2, if_neg h3, List.take_left' rfl, List.drop_left' rfl]

theorem readU4le_le32 (n : Nat) (rest : Bytes) (h : n < 2 ^ 32) : readU4le (le32 n ++ rest) = .ok (n, rest) := by
  have := readBytes_append (le32 n) rest
  rw [show (le32 n).length = 4 from rfl] at this
  simp only [readU4le, this, bind, Except.bind, Proofs.le32Dec_le32 n h, pure, Except.pure]

/-- the record type of the current schema -/
def recTy : KType := (schema.types.lookup "record").getD default
def hdrTy : KType := (schema.types.lookup "file_header").getD default

def hdrEnv (v ct : Nat) : Env := [("version", .int v), ("compression_type", .int ct)]

def recEnv (nf : Bool) (u cl k : Nat) (p : Bytes) : Env :=
  [("magic", .bytes magicBytes), ("record_nil", .int (if nf then 1 else 0)), ("uncompressed_payload_len", .vlq u),
   ("compressed_payload_len", .vlq cl), ("crc32_checksum", .vlq k), ("payload", .bytes p)]

/-- what `len_payload` must evaluate to -/
def lenPayloadSpec (ct : Nat) (nf : Bool) (u cl : Nat) : Nat := if nf then 0 else if ct = 0 then u else cl

theorem recTy_seq : recTy.seq = [
    { id := "magic", kind := .contents magicBytes },
    { id := "record_nil", kind := .u1 },
    { id := "uncompressed_payload_len", kind := .vlq },
    { id := "compressed_payload_len", kind := .vlq },
    { id := "crc32_checksum", kind := .vlq },
    { id := "payload", kind := .sized (.inst "len_payload") }] := rfl

theorem schema_vlq : schema.vlqMaxGroups = 8 := rfl

/-- `len_payload` of the current schema computes the stored length -/
theorem lenPayload_eval (v ct : Nat) (nf : Bool) (u cl k : Nat) (m : Bytes) :
    evalNat schema "file_header" (hdrEnv v ct) recTy
      [("magic", .bytes m), ("record_nil", .int (if nf then 1 else 0)), ("uncompressed_payload_len", .vlq u),
       ("compressed_payload_len", .vlq cl), ("crc32_checksum", .vlq k)] (.inst "len_payload")
      = .ok (lenPayloadSpec ct nf u cl) := by
  cases nf <;> cases ct <;> rfl

theorem parseRecord_bytes (v ct : Nat) (nf : Bool) (u cl : Nat) (p rest : Bytes)
    (hu : u < vlqLimit) (hc : cl < vlqLimit) (hp : p.length = lenPayloadSpec ct nf u cl) :
    parseObj schema "file_header" (hdrEnv v ct) recTy (encHeader nf u cl ++ p ++ rest)
      = .ok (recEnv nf u cl (crc32c (headerBody nf u cl)).toNat p, rest) := by
  have hk : (crc32c (headerBody nf u cl)).toNat < vlqLimit := Nat.lt_trans (UInt32.toNat_lt _) (by decide)
  have hbytes : encHeader nf u cl ++ p ++ rest = magicBytes ++ ((if nf then 1 else 0) ::
      (uvarintEnc u ++ (uvarintEnc cl ++ (uvarintEnc (crc32c (headerBody nf u cl)).toNat ++ (p ++ rest))))) := by
    simp [encHeader, headerBody, magicBytes]
  rw [hbytes]
  generalize (crc32c (headerBody nf u cl)).toNat = k at hk ⊢
  have hrb : readBytes (lenPayloadSpec ct nf u cl) (p ++ rest) = .ok (p, rest) := by
    rw [← hp]; exact readBytes_append p rest
  simp only [parseObj, recTy_seq, parseSeq, parseField, readBytes_append, if_true, readU1, schema_vlq,
    readVlq_enc _ _ hu, readVlq_enc _ _ hc, readVlq_enc _ _ hk, List.nil_append, List.cons_append]
  have hnf : (if nf = true then (1 : UInt8) else 0).toNat = if nf = true then 1 else 0 := by cases nf <;> rfl
  simp only [hnf, lenPayload_eval, hrb, recEnv]

/-- relation between the header's compression code and the writer's compressor -/
def CodeMatches (ct : Nat) (c : Compression) : Prop := ct = 0 ↔ c = none

theorem mkRecord_recEnv (nf : Bool) (u cl k : Nat) (p : Bytes) :
    mkRecord (recEnv nf u cl k p) = .ok { recordNil := if nf then 1 else 0, ulen := u, clen := cl, crc := k, payload := p } := by
  simp only [mkRecord, recEnv, List.lookup, String.reduceBEq]

/-- one written record, followed by anything, is read as the expected record object -/
theorem parseRecord_enc (v ct : Nat) (c : Compression) (r : GoBytes) (rest : Bytes)
    (hm : CodeMatches ct c) (hf : KFitsRec c r) :
    ∃ env, parseObj schema "file_header" (hdrEnv v ct) recTy (encRecord c r ++ rest) = .ok (env, rest) ∧
      mkRecord env = .ok (expectedRec c r) := by
  cases r with
  | none =>
    refine ⟨_, ?_, mkRecord_recEnv true 0 (clenOf c []) _ []⟩
    have := parseRecord_bytes v ct true 0 (clenOf c []) [] rest (by decide) hf rfl
    rwa [List.append_nil] at this
  | some r =>
    refine ⟨_, ?_, mkRecord_recEnv false r.length (clenOf c r) _ (stored c r)⟩
    have hp : (stored c r).length = lenPayloadSpec ct false r.length (clenOf c r) := by
      cases c with
      | none => have : ct = 0 := hm.mpr rfl
                simp [stored, lenPayloadSpec, this]
      | some cc => have : ¬ ct = 0 := fun h => by have := hm.mp h; simp at this
                   simp [stored, lenPayloadSpec, clenOf, this]
    exact parseRecord_bytes v ct false r.length (clenOf c r) (stored c r) rest hf.1 hf.2 hp

/-- the written records are read one after the other; then comes whatever the reader makes of the `tail` -/
theorem parseRecords_enc (v ct : Nat) (c : Compression) (hm : CodeMatches ct c) (tail : Bytes)
    (out : Except Err (List KRecord))
    (htail : ∀ fuel, parseRecords schema "file_header" (hdrEnv v ct) recTy (fuel + 1) tail = out)
    (rs : List GoBytes) : ∀ fuel, (∀ r ∈ rs, KFitsRec c r) → (encAll c rs).length < fuel →
    parseRecords schema "file_header" (hdrEnv v ct) recTy fuel (encAll c rs ++ tail)
      = out.map (rs.map (expectedRec c) ++ ·) := by
  induction rs with
  | nil =>
    intro fuel _ hfuel
    obtain ⟨f, rfl⟩ : ∃ f, fuel = f + 1 := ⟨fuel - 1, by omega⟩
    rw [encAll_nil, List.nil_append, htail]
    cases out <;> rfl
  | cons r rs ih =>
    intro fuel hf hfuel
    have hpos := encRecord_pos c r
    rw [encAll_cons, List.length_append] at hfuel
    obtain ⟨f, rfl⟩ : ∃ f, fuel = f + 1 := ⟨fuel - 1, by omega⟩
    have hne : ¬ (encRecord c r ++ (encAll c rs ++ tail)).isEmpty = true := by
      rw [List.isEmpty_iff, List.append_eq_nil_iff]
      exact fun h => by rw [h.1] at hpos; exact Nat.lt_irrefl _ hpos
    obtain ⟨env, h1, h2⟩ := parseRecord_enc v ct c r (encAll c rs ++ tail) hm (hf r (by simp))
    rw [encAll_cons, List.append_assoc, parseRecords, if_neg hne, h1]
    simp only [h2, ih f (fun r hr => hf r (by simp [hr])) (by omega), List.map_cons]
    cases out <;> rfl

theorem hdrTy_seq : hdrTy.seq = [
    { id := "version", kind := .u4le none },
    { id := "compression_type", kind := .u4le (some "compression") }] := rfl

theorem parseHeader_enc (v ct : Nat) (rest : Bytes) (hv : v < 2 ^ 32) (hc : ct < 2 ^ 32) :
    parseObj schema "file_header" [] hdrTy (fileHeader v ct ++ rest) = .ok (hdrEnv v ct, rest) := by
  simp only [parseObj, hdrTy_seq, parseSeq, parseField, fileHeader, List.append_assoc,
    readU4le_le32 _ _ hv, readU4le_le32 _ _ hc, List.nil_append, List.cons_append, hdrEnv]

theorem mkHdr_hdrEnv (v ct : Nat) : mkHdr (hdrEnv v ct) = .ok { version := v, compression := ct } := by
  simp only [mkHdr, hdrEnv, List.lookup, String.reduceBEq]

theorem schema_top : schema.top = [{ id := "file_header", type := "file_header", repeatEos := false },
    { id := "record", type := "record", repeatEos := true }] := rfl

theorem schema_types : schema.types.lookup "file_header" = some hdrTy ∧ schema.types.lookup "record" = some recTy :=
  ⟨rfl, rfl⟩

/-- the top level of the schema: the file header object, then records to the end of the stream -/
theorem kaitaiParse_header (v ct : Nat) (rest : Bytes) (hv : v < 2 ^ 32) (hc : ct < 2 ^ 32) :
    kaitaiParse schema (fileHeader v ct ++ rest)
      = (parseRecords schema "file_header" (hdrEnv v ct) recTy (rest.length + 1) rest).map
          fun rs => ({ version := v, compression := ct }, rs) := by
  simp only [kaitaiParse, schema_top, schema_types.1, schema_types.2, Bool.false_or, Bool.not_true,
    parseHeader_enc v ct _ hv hc, mkHdr_hdrEnv]
  cases parseRecords schema "file_header" (hdrEnv v ct) recTy (rest.length + 1) rest <;> rfl

theorem kaitai_decodes (c : Compression) (v ct : Nat) (rs : List GoBytes)
    (hv : v < 2 ^ 32) (hc : ct < 2 ^ 32) (hm : CodeMatches ct c) (hf : ∀ r ∈ rs, KFitsRec c r) :
    kaitaiParse schema (fileHeader v ct ++ encAll c rs)
      = .ok ({ version := v, compression := ct }, rs.map (expectedRec c)) := by
  have := parseRecords_enc v ct c hm [] (.ok []) (fun _ => rfl) rs _ hf (Nat.lt_succ_self _)
  rw [List.append_nil] at this
  rw [kaitaiParse_header v ct _ hv hc, this]
  simp only [Except.map, List.append_nil]

/-- what the Kaitai reader reports for a tail of k+1 zero bytes where a record should start (the padding of a
direct-I/O image): the three magic bytes are missing or wrong -/
def padErr (k : Nat) : Err := if k + 1 < 3 then .unexpectedEof else .magic

theorem parseRecord_zeros (v ct k : Nat) :
    parseObj schema "file_header" (hdrEnv v ct) recTy (List.replicate (k + 1) 0) = .error (padErr k) := by
  match k with
  | 0 => rfl
  | 1 => rfl
  | k + 2 => rfl

theorem kaitai_rejects_padding (c : Compression) (v ct : Nat) (rs : List GoBytes) (k : Nat)
    (hv : v < 2 ^ 32) (hc : ct < 2 ^ 32) (hm : CodeMatches ct c) (hf : ∀ r ∈ rs, KFitsRec c r) :
    kaitaiParse schema (fileHeader v ct ++ encAll c rs ++ List.replicate (k + 1) 0) = .error (padErr k) := by
  have htail : ∀ fuel, parseRecords schema "file_header" (hdrEnv v ct) recTy (fuel + 1) (List.replicate (k + 1) 0)
      = .error (padErr k) := fun fuel => by
    rw [parseRecords, if_neg (by simp [List.replicate]), parseRecord_zeros]
  rw [List.append_assoc, kaitaiParse_header v ct _ hv hc,
    parseRecords_enc v ct c hm _ _ htail rs _ hf (by rw [List.length_append]; omega)]
  rfl

end SST.Kaitai
