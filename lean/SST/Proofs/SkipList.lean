/-
Height-list skip list (SST/Model/SkipList.lean) against the sorted map of SST/Spec/Sorted.lean.  The key of an
operation cuts the sorted node list (`Cuts`, SST/Proofs/SortedCut.lean); the descent `findGE` lands on the cut
(`findGE_cut`), so every operation of the model is computed on the two halves, as the specification is.
-/
import SST.Model.SkipList
import SST.Proofs.SortedCut
namespace SST.Proofs
open SST SkipList

variable {K V : Type}

def Sorted (cmp : K → K → Ordering) (nodes : List (SNode K V)) : Prop :=
  nodes.Pairwise fun a b => cmp a.key b.key = .lt

structure Inv (cmp : K → K → Ordering) (nodes : List (SNode K V)) : Prop where
  sorted : Sorted cmp nodes
  heights : ∀ n ∈ nodes, 1 ≤ n.height

theorem nextIdxL_some {level : Nat} : ∀ (l : List (SNode K V)) (i j : Nat),
    nextIdxL level l i = some j → i ≤ j ∧ j < i + l.length := by
  intro l
  induction l with
  | nil => intro i j h; simp [nextIdxL] at h
  | cons n ns ih =>
    intro i j h
    simp only [nextIdxL] at h
    split at h
    · cases h; simp
    · have := ih _ _ h
      exact ⟨Nat.le_of_succ_le this.1, Nat.lt_of_lt_of_eq this.2 (Nat.add_right_comm i 1 ns.length)⟩

theorem nextIdx_some {nodes : List (SNode K V)} {level start j : Nat}
    (h : nextIdx nodes level start = some j) : start ≤ j ∧ j < nodes.length := by
  obtain ⟨h1, h2⟩ := nextIdxL_some _ _ _ h
  rw [List.length_drop] at h2
  have hs : start < nodes.length :=
    Nat.lt_of_sub_pos (Nat.pos_of_lt_add_right (Nat.lt_of_le_of_lt h1 h2))
  rw [Nat.add_sub_of_le (Nat.le_of_lt hs)] at h2
  exact ⟨h1, h2⟩

theorem nextIdx_zero {nodes : List (SNode K V)} (hh : ∀ n ∈ nodes, 1 ≤ n.height) (start : Nat) :
    nextIdx nodes 0 start = if start < nodes.length then some start else none := by
  unfold nextIdx
  cases h : nodes.drop start with
  | nil =>
    have : nodes.length ≤ start := List.drop_eq_nil_iff.1 h
    simp [nextIdxL]
    omega
  | cons n ns =>
    have hm : n ∈ nodes := List.mem_of_mem_drop (h ▸ List.mem_cons_self)
    have hlen : start < nodes.length :=
      Nat.lt_of_sub_pos (by rw [← List.length_drop, h]; exact Nat.succ_pos _)
    simp only [nextIdxL, hlen, if_true]
    exact if_pos (hh n hm)

theorem findGEAux_spec (cmp : K → K → Ordering) (nodes : List (SNode K V)) (key : K) (p : Nat)
    (hp : p ≤ nodes.length) (c : CutAt cmp SNode.key nodes key p) (hh : ∀ n ∈ nodes, 1 ≤ n.height) :
    ∀ fuel start level, start ≤ p → nodes.length + level + 1 ≤ fuel + start →
      findGEAux cmp nodes key fuel start level
        = (if p < nodes.length then some p else none, p) := by
  intro fuel
  induction fuel with
  | zero => intro start level _ h; omega
  | succ fuel ih =>
    intro start level hsp hfuel
    rw [Nat.add_right_comm fuel 1 start] at hfuel
    unfold findGEAux
    -- at level 0 the search stops exactly at `p`
    have stop : level = 0 → (∀ j, nextIdx nodes level start = some j → p ≤ j) →
        (nextIdx nodes level start, start) = (if p < nodes.length then some p else none, p) := by
      rintro rfl hj
      rw [nextIdx_zero hh] at hj ⊢
      by_cases hs : start < nodes.length
      · rw [Nat.le_antisymm (hj start (if_pos hs)) hsp]
      · rw [Nat.le_antisymm (Nat.le_trans hp (Nat.le_of_not_lt hs)) hsp]
    have down : level ≠ 0 → findGEAux cmp nodes key fuel start (level - 1)
        = (if p < nodes.length then some p else none, p) := by
      intro hl0
      obtain ⟨l, rfl⟩ := Nat.exists_eq_succ_of_ne_zero hl0
      exact ih start l hsp (Nat.le_of_succ_le_succ hfuel)
    cases hn : nextIdx nodes level start with
    | some j =>
      obtain ⟨hsj, hjl⟩ := nextIdx_some hn
      have hget : nodes[j]? = some nodes[j] := List.getElem?_eq_getElem hjl
      simp only [hget]
      by_cases hc : cmp key nodes[j].key = .gt
      · have hjp : j < p := (c.lt_iff j hjl).2 hc
        rw [hc, beq_self_eq_true, if_pos rfl]
        exact ih (j + 1) level hjp (Nat.le_trans hfuel (Nat.add_le_add_left (Nat.succ_le_succ hsj) fuel))
      · have hpj : p ≤ j := Nat.le_of_not_lt fun h => hc ((c.lt_iff j hjl).1 h)
        rw [if_neg (by simpa using hc)]
        by_cases hl0 : level = 0
        · rw [if_pos hl0, ← hn]
          exact stop hl0 (by rw [hn]; rintro _ ⟨⟩; exact hpj)
        · rw [if_neg hl0]
          exact down hl0
    | none =>
      simp only
      by_cases hl0 : level = 0
      · rw [if_pos hl0]
        have := stop hl0 (by rw [hn]; nofun)
        rwa [hn] at this
      · rw [if_neg hl0]
        exact down hl0

section
variable {cmp : K → K → Ordering} {s : SkipList K V} {key : K} {l1 l2 : List (SNode K V)}

/-- the descent lands on the cut -/
theorem findGE_cut (e : s.nodes = l1 ++ l2) (c : Cuts cmp SNode.key key l1 l2)
    (hh : ∀ n ∈ s.nodes, 1 ≤ n.height) :
    findGE cmp s key = (l2.head?.map fun _ => l1.length, l1.length) := by
  have hlen : s.nodes.length = l1.length + l2.length := by rw [e, List.length_append]
  have := findGEAux_spec cmp s.nodes key l1.length (hlen ▸ Nat.le_add_right _ _) (e ▸ c.cutAt)
    hh (s.nodes.length + s.maxHeight + 1) 0 (s.maxHeight - 1) (Nat.zero_le _)
    (Nat.add_le_add_right (Nat.add_le_add_left (Nat.sub_le _ _) _) 1)
  rw [findGE, this, hlen]
  cases l2 with
  | nil => rw [List.length_nil, Nat.add_zero, if_neg (Nat.lt_irrefl _)]; rfl
  | cons n t => rw [List.length_cons, if_pos (Nat.lt_add_of_pos_right (Nat.succ_pos _))]; rfl

theorem found_cut (e : s.nodes = l1 ++ l2) (c : Cuts cmp SNode.key key l1 l2)
    (hh : ∀ n ∈ s.nodes, 1 ≤ n.height) :
    (findGE cmp s key).1.bind (s.nodes[·]?) = l2.head? := by
  rw [findGE_cut e c hh, e]
  cases l2 with
  | nil => rfl
  | cons n t => simp

/-- the nodes from the one the descent for `k` returns on: what an iterator started at `k` runs over -/
def nodesFrom (cmp : K → K → Ordering) (s : SkipList K V) (k : K) : List (SNode K V) :=
  match (findGE cmp s k).1 with
  | some j => s.nodes.drop j
  | none => []

theorem iterFrom_eq (cmp : K → K → Ordering) (s : SkipList K V) (k : K) :
    iterFrom cmp s k = (nodesFrom cmp s k).map fun n => (n.key, n.val) := by
  unfold iterFrom nodesFrom
  cases (findGE cmp s k).1 <;> rfl

theorem iterBetween_eq (cmp : K → K → Ordering) (s : SkipList K V) (lo hi : K) :
    iterBetween cmp s lo hi = if cmp lo hi == .gt then none else some (takeUpTo cmp hi (nodesFrom cmp s lo)) := by
  unfold iterBetween nodesFrom
  cases (findGE cmp s lo).1 <;> rfl

theorem nodesFrom_cut (e : s.nodes = l1 ++ l2) (c : Cuts cmp SNode.key key l1 l2)
    (hh : ∀ n ∈ s.nodes, 1 ≤ n.height) : nodesFrom cmp s key = l2 := by
  rw [nodesFrom, findGE_cut e c hh, e]
  cases l2 with
  | nil => rfl
  | cons n t => exact List.drop_left

theorem get_cut (e : s.nodes = l1 ++ l2) (c : Cuts cmp SNode.key key l1 l2)
    (hh : ∀ n ∈ s.nodes, 1 ≤ n.height) :
    get cmp s key = (l2.head?.filter fun n => cmp key n.key == .eq).map (·.val) := by
  unfold SkipList.get
  rw [found_cut e c hh]
  cases l2 with
  | nil => rfl
  | cons n t => rw [List.head?_cons, Option.filter_some]; dsimp only; cases cmp key n.key == .eq <;> rfl

theorem insert_cut (e : s.nodes = l1 ++ l2) (c : Cuts cmp SNode.key key l1 l2)
    (hh : ∀ n ∈ s.nodes, 1 ≤ n.height) (v : V) (h : Nat) :
    insert cmp s key v h =
      if (l2.head?.filter fun n => cmp key n.key == .eq).isSome then none
      else some { s with nodes := l1 ++ ⟨key, v, h⟩ :: l2 } := by
  unfold SkipList.insert
  simp only [found_cut e c hh]
  rw [findGE_cut e c hh, e, List.take_left, List.drop_left]
  cases l2 with
  | nil => simp
  | cons n t => cases hc : cmp key n.key == .eq <;> simp [hc]

theorem Cuts.kv (c : Cuts cmp SNode.key key l1 l2) :
    Cuts cmp Prod.fst key (l1.map fun n => (n.key, n.val)) (l2.map fun n => (n.key, n.val)) :=
  c.map Prod.fst _

end

theorem takeUpTo_spec {cmp : K → K → Ordering} (hl : LawfulCmp cmp) (hi : K) :
    ∀ l : List (SNode K V), Sorted cmp l →
      takeUpTo cmp hi l = (l.map fun n => (n.key, n.val)).filter fun p => cmp p.1 hi != .gt := by
  intro l
  induction l with
  | nil => intro _; rfl
  | cons n ns ih =>
    intro hs
    have hs' := List.pairwise_cons.1 hs
    -- once a node is not below `hi`, every later one is above it
    have hrest : cmp hi n.key ≠ .gt →
        (ns.map fun n => (n.key, n.val)).filter (fun p => cmp p.1 hi != .gt) = [] := by
      intro hc
      simp only [List.filter_eq_nil_iff, List.mem_map]
      rintro _ ⟨m, hm, rfl⟩
      simp [cmp_flip_lt hl (cmp_le_lt hl hc (hs'.1 m hm))]
    simp only [takeUpTo, List.map_cons, List.filter_cons]
    cases hc : cmp n.key hi with
    | lt => simp [ih hs'.2]
    | eq => simp [hrest (by rw [cmp_flip_eq hl hc]; decide)]
    | gt => simp [hrest (by rw [cmp_flip_gt hl hc]; decide)]

theorem insert_spec {cmp : K → K → Ordering} (hl : LawfulCmp cmp) (s : SkipList K V)
    (hi : Inv cmp s.nodes) (k : K) (v : V) (h : Nat) (hh : 1 ≤ h)
    (hne : ∀ p ∈ s.nodes.map fun n => (n.key, n.val), cmp k p.1 ≠ .eq) :
    ∃ s', insert cmp s k v h = some s' ∧ Inv cmp s'.nodes ∧
      (s'.nodes.map fun n => (n.key, n.val))
        = sortedInsert cmp k v (s.nodes.map fun n => (n.key, n.val)) := by
  obtain ⟨l1, l2, e, c⟩ := exists_cuts hl SNode.key k s.nodes hi.sorted
  have hne2 : ∀ n ∈ l2.head?, cmp k n.key ≠ .eq := fun n hn =>
    hne (n.key, n.val) (List.mem_map_of_mem (e ▸ List.mem_append_right _ (List.mem_of_mem_head? hn)))
  refine ⟨{ s with nodes := l1 ++ ⟨k, v, h⟩ :: l2 }, ?_,
    ⟨c.asc_insert hl (e ▸ hi.sorted) hne2 (x := ⟨k, v, h⟩) rfl, ?_⟩, ?_⟩
  · rw [insert_cut e c hi.heights, if_neg]
    cases l2 with
    | nil => exact Bool.false_ne_true
    | cons n t =>
      rw [List.head?_cons, Option.filter_some, if_neg (by simpa using hne2 n rfl)]
      exact Bool.false_ne_true
  · have hhs := hi.heights
    rw [e, List.forall_mem_append] at hhs
    exact List.forall_mem_append.2 ⟨hhs.1, List.forall_mem_cons.2 ⟨hh, hhs.2⟩⟩
  · rw [e]
    simp only [List.map_append]
    rw [c.kv.sortedInsert]
    rfl

theorem insertAll_spec {cmp : K → K → Ordering} (hl : LawfulCmp cmp) :
    ∀ (ins : List (K × V × Nat)) (s : SkipList K V), Inv cmp s.nodes →
      DistinctKeys cmp (ins.map (·.1)) → (∀ x ∈ ins, 1 ≤ x.2.2) →
      (∀ x ∈ ins, ∀ p ∈ s.nodes.map fun n => (n.key, n.val), cmp x.1 p.1 ≠ .eq) →
      ∃ s', insertAll cmp s ins = some s' ∧ Inv cmp s'.nodes ∧
        (s'.nodes.map fun n => (n.key, n.val))
          = ins.foldl (fun acc x => sortedInsert cmp x.1 x.2.1 acc)
              (s.nodes.map fun n => (n.key, n.val)) := by
  intro ins
  induction ins with
  | nil => intro s hi _ _ _; exact ⟨s, rfl, hi, rfl⟩
  | cons x rest ih =>
    intro s hi hd hh hne
    obtain ⟨k, v, h⟩ := x
    obtain ⟨s1, hins, hi1, hmap1⟩ :=
      insert_spec hl s hi k v h (hh _ List.mem_cons_self) (hne _ List.mem_cons_self)
    have hd' := List.pairwise_cons.1 (show List.Pairwise _ (k :: rest.map (·.1)) from hd)
    obtain ⟨s2, hall, hi2, hmap2⟩ := ih s1 hi1 hd'.2
      (fun x hx => hh x (List.mem_cons_of_mem _ hx))
      (by
        intro x hx p hp
        rw [hmap1] at hp
        rcases List.mem_cons.1 ((sortedInsert_perm cmp k v _).mem_iff.1 hp) with rfl | hp
        · exact fun he => hd'.1 x.1 (List.mem_map_of_mem hx) (cmp_flip_eq hl he)
        · exact hne x (List.mem_cons_of_mem _ hx) p hp)
    refine ⟨s2, ?_, hi2, ?_⟩
    · simp only [insertAll, hins]; exact hall
    · rw [hmap2, hmap1]; rfl

theorem get_spec {cmp : K → K → Ordering} (hl : LawfulCmp cmp) (s : SkipList K V)
    (hi : Inv cmp s.nodes) (k : K) :
    get cmp s k = specGet cmp (s.nodes.map fun n => (n.key, n.val)) k := by
  obtain ⟨l1, l2, e, c⟩ := exists_cuts hl SNode.key k s.nodes hi.sorted
  rw [get_cut e c hi.heights, specGet_map, e, c.find?_eq hl (e ▸ hi.sorted)]

theorem iterFrom_spec {cmp : K → K → Ordering} (hl : LawfulCmp cmp) (s : SkipList K V)
    (hi : Inv cmp s.nodes) (k : K) :
    iterFrom cmp s k = specFrom cmp (s.nodes.map fun n => (n.key, n.val)) k := by
  obtain ⟨l1, l2, e, c⟩ := exists_cuts hl SNode.key k s.nodes hi.sorted
  rw [iterFrom_eq, nodesFrom_cut e c hi.heights, e, List.map_append, c.kv.specFrom]

theorem iterBetween_spec {cmp : K → K → Ordering} (hl : LawfulCmp cmp) (s : SkipList K V)
    (hi : Inv cmp s.nodes) (lo hi' : K) :
    iterBetween cmp s lo hi' = specBetween cmp (s.nodes.map fun n => (n.key, n.val)) lo hi' := by
  obtain ⟨l1, l2, e, c⟩ := exists_cuts hl SNode.key lo s.nodes hi.sorted
  have hs2 : Sorted cmp l2 := (List.pairwise_append.1 (e ▸ hi.sorted)).2.1
  rw [iterBetween_eq, nodesFrom_cut e c hi.heights, takeUpTo_spec hl hi' l2 hs2, e, List.map_append,
    c.kv.specBetween]

theorem inv_empty (cmp : K → K → Ordering) : Inv cmp (SkipList.empty : SkipList K V).nodes :=
  ⟨List.Pairwise.nil, nofun⟩

theorem insertAll_empty {cmp : K → K → Ordering} (hl : LawfulCmp cmp) (ins : List (K × V × Nat))
    (hd : DistinctKeys cmp (ins.map (·.1))) (hh : ∀ x ∈ ins, 1 ≤ x.2.2) :
    ∃ s : SkipList K V, insertAll cmp SkipList.empty ins = some s ∧ Inv cmp s.nodes ∧
      (s.nodes.map fun n => (n.key, n.val)) = sortedOf cmp (ins.map fun x => (x.1, x.2.1)) := by
  obtain ⟨s, hall, hi, hmap⟩ :=
    insertAll_spec hl ins SkipList.empty (inv_empty cmp) hd hh (fun _ _ _ hn => nomatch hn)
  refine ⟨s, hall, hi, ?_⟩
  rw [hmap, sortedOf, List.foldl_map]; rfl

theorem sortedOf_perm {cmp : K → K → Ordering} (hl : LawfulCmp cmp) (ins : List (K × V × Nat))
    (hd : DistinctKeys cmp (ins.map (·.1))) :
    (sortedOf cmp (ins.map fun x => (x.1, x.2.1))).Perm (ins.map fun x => (x.1, x.2.1)) :=
  (sortedOf_spec cmp hl _ (by rw [List.map_map]; exact hd)).2

/-- Any insertion order of distinct keys, any heights ≥ 1: the skip list is the sorted map. -/
theorem skiplist_refines (cmp : K → K → Ordering) (hl : LawfulCmp cmp) (ins : List (K × V × Nat))
    (hd : DistinctKeys cmp (ins.map (·.1))) (hh : ∀ x ∈ ins, 1 ≤ x.2.2) :
    ∃ s : SkipList K V, insertAll cmp SkipList.empty ins = some s ∧
      let m := sortedOf cmp (ins.map fun x => (x.1, x.2.1))
      s.size = ins.length ∧
      iterAll s = m ∧
      (∀ k, get cmp s k = specGet cmp m k) ∧
      (∀ k, contains cmp s k = (specGet cmp m k).isSome) ∧
      (∀ k, iterFrom cmp s k = specFrom cmp m k) ∧
      (∀ lo hi, iterBetween cmp s lo hi = specBetween cmp m lo hi) := by
  obtain ⟨s, hall, hi, hmap⟩ := insertAll_empty hl ins hd hh
  refine ⟨s, hall, ?_⟩
  intro m
  refine ⟨?_, hmap, ?_, ?_, ?_, ?_⟩
  · have := (sortedOf_perm hl ins hd).length_eq
    rw [← hmap, List.length_map, List.length_map] at this
    exact this
  · intro k; rw [get_spec hl s hi k, hmap]
  · intro k; unfold contains; rw [get_spec hl s hi k, hmap]
  · intro k; rw [iterFrom_spec hl s hi k, hmap]
  · intro lo hi'; rw [iterBetween_spec hl s hi lo hi', hmap]

/-- a key that compares equal to a node's is refused: that node is the first not below the key -/
theorem insert_present {cmp : K → K → Ordering} {s : SkipList K V} (hl : LawfulCmp cmp) (hi : Inv cmp s.nodes)
    {k : K} (v : V) (h : Nat) {n : SNode K V} (hn : n ∈ s.nodes) (hkn : cmp k n.key = .eq) :
    insert cmp s k v h = none := by
  obtain ⟨l1, l2, e, c⟩ := exists_cuts hl SNode.key k s.nodes hi.sorted
  rw [insert_cut e c hi.heights, if_pos]
  rw [← c.find?_eq hl (e ▸ hi.sorted), ← e, List.find?_isSome]
  exact ⟨n, hn, by rw [hkn]; rfl⟩

/-- Inserting a key that compares equal to one already present is refused (the Go code panics). -/
theorem insert_duplicate_rejected (cmp : K → K → Ordering) (hl : LawfulCmp cmp) (ins : List (K × V × Nat))
    (hd : DistinctKeys cmp (ins.map (·.1))) (hh : ∀ x ∈ ins, 1 ≤ x.2.2)
    (s : SkipList K V) (hs : insertAll cmp SkipList.empty ins = some s)
    (k : K) (v : V) (h : Nat) (hk : ∃ x ∈ ins, cmp k x.1 = .eq) :
    insert cmp s k v h = none := by
  obtain ⟨s', hall, hi, hmap⟩ := insertAll_empty hl ins hd hh
  rw [hs] at hall
  cases hall
  obtain ⟨x, hx, hkx⟩ := hk
  -- the inserted key is the key of some node
  have hxm : (x.1, x.2.1) ∈ s.nodes.map fun n => (n.key, n.val) := by
    rw [hmap]
    exact (sortedOf_perm hl ins hd).mem_iff.2
      (List.mem_map_of_mem (f := fun x : K × V × Nat => (x.1, x.2.1)) hx)
  obtain ⟨n, hn, hnx⟩ := List.mem_map.1 hxm
  exact insert_present hl hi v h hn (by rw [show n.key = x.1 from congrArg Prod.fst hnx]; exact hkx)

end SST.Proofs
