/-
Helper lemmas for L6-fs: directory listings as sorted association lists, replayed mutations, listings against table
lists (`tblsOf`, `encT`);
and `Seg`, the form in which every statement about a sequence of file-system calls is made: a Hoare triple whose
invariant `Good` holds after every prefix of the calls (that is, at every point where a crash can cut them).
-/
import SST.Spec.FS
import SST.Proofs.DBLayers
import SST.Proofs.Keyed
import SST.Proofs.ListFacts
namespace SST.Proofs.FS
open SST SST.DBM SST.FS SST.Proofs.DB

theorem keys_updT (g : Nat) (f : TableDir → TableDir) (ts : List (Nat × TableDir)) :
    (updT g f ts).map (·.1) = ts.map (·.1) := by
  induction ts with
  | nil => rfl
  | cons p r ih =>
    simp only [updT, List.map_cons] at ih ⊢
    rw [ih]
    by_cases h : (p.1 == g) = true <;> simp [h]

theorem mem_insertT {g : Nat} {t : TableDir} {ts : List (Nat × TableDir)} {p : Nat × TableDir}
    (h : p ∈ insertT g t ts) : p ∈ ts ∨ p = (g, t) := by
  induction ts with
  | nil => simp [insertT] at h; exact Or.inr h
  | cons q r ih =>
    simp only [insertT] at h
    split at h
    · rcases List.mem_cons.1 h with (h | h)
      · exact Or.inr h
      · exact Or.inl h
    · split at h
      · exact Or.inl h
      · rcases List.mem_cons.1 h with (h | h)
        · exact Or.inl (h ▸ List.mem_cons_self)
        · rcases ih h with (h | h)
          · exact Or.inl (List.mem_cons_of_mem _ h)
          · exact Or.inr h

theorem mem_insertT_of_mem {g : Nat} {t : TableDir} {ts : List (Nat × TableDir)} {p : Nat × TableDir}
    (h : p ∈ ts) : p ∈ insertT g t ts := by
  induction ts with
  | nil => cases h
  | cons q r ih =>
    simp only [insertT]
    split
    · exact List.mem_cons_of_mem _ h
    · split
      · exact h
      · rcases List.mem_cons.1 h with (h | h)
        · exact h ▸ List.mem_cons_self
        · exact List.mem_cons_of_mem _ (ih h)

theorem insertT_sorted (g : Nat) (t : TableDir) (ts : List (Nat × TableDir))
    (h : (ts.map (·.1)).Pairwise (· < ·)) : ((insertT g t ts).map (·.1)).Pairwise (· < ·) := by
  induction ts with
  | nil => simp [insertT]
  | cons q r ih =>
    simp only [insertT]
    rw [List.map_cons, List.pairwise_cons] at h
    split
    · rename_i hlt
      rw [List.map_cons, List.pairwise_cons]
      refine ⟨?_, by rw [List.map_cons, List.pairwise_cons]; exact h⟩
      intro x hx
      rcases List.mem_cons.1 hx with (hx | hx)
      · exact hx ▸ hlt
      · exact Nat.lt_trans hlt (h.1 x hx)
    · split
      · rw [List.map_cons, List.pairwise_cons]; exact h
      · rename_i h1 h2
        rw [List.map_cons, List.pairwise_cons]
        refine ⟨?_, ih h.2⟩
        intro x hx
        obtain ⟨p, hp, rfl⟩ := List.mem_map.1 hx
        rcases mem_insertT hp with (hp | hp)
        · exact h.1 _ (List.mem_map.2 ⟨p, hp, rfl⟩)
        · subst hp
          show q.1 < g
          omega

theorem insertT_mid (g : Nat) (t : TableDir) (a b : List (Nat × TableDir)) (ha : ∀ p ∈ a, p.1 < g)
    (hb : ∀ p ∈ b, g < p.1) : insertT g t (a ++ b) = a ++ (g, t) :: b :=
  (Keyed.insertT_eq g t _).trans (Keyed.insertK_mid _ (g, t) a b ha hb)

theorem insertT_last (g : Nat) (t : TableDir) (ts : List (Nat × TableDir)) (h : ∀ p ∈ ts, p.1 < g) :
    insertT g t ts = ts ++ [(g, t)] :=
  (Keyed.insertT_eq g t _).trans (Keyed.insertK_last _ (g, t) ts h)

theorem updT_mid (g : Nat) (f : TableDir → TableDir) (a b : List (Nat × TableDir)) (t : TableDir)
    (ha : ∀ p ∈ a, p.1 ≠ g) (hb : ∀ p ∈ b, p.1 ≠ g) : updT g f (a ++ (g, t) :: b) = a ++ (g, f t) :: b :=
  Keyed.upd_mid Prod.fst g (fun p => (p.1, f p.2)) a b (g, t) ha hb rfl

theorem eraseT_mid (g : Nat) (a b : List (Nat × TableDir)) (t : TableDir)
    (ha : ∀ p ∈ a, p.1 ≠ g) (hb : ∀ p ∈ b, p.1 ≠ g) : eraseT g (a ++ (g, t) :: b) = a ++ b :=
  Keyed.erase_mid Prod.fst g a b (g, t) ha hb rfl

theorem updT_last (g : Nat) (f : TableDir → TableDir) (ts : List (Nat × TableDir)) (t : TableDir)
    (h : ∀ p ∈ ts, p.1 < g) : updT g f (ts ++ [(g, t)]) = ts ++ [(g, f t)] :=
  updT_mid g f ts [] t (fun p hp => Nat.ne_of_lt (h p hp)) nofun

theorem lookupT_none {g : Nat} {ts : List (Nat × TableDir)} :
    lookupT g ts = none ↔ ∀ p ∈ ts, p.1 ≠ g := by
  unfold lookupT
  rw [Option.map_eq_none_iff, List.find?_eq_none]
  constructor
  · intro h p hp; simpa using h p hp
  · intro h p hp; simpa using h p hp

theorem lookupT_some {g : Nat} {ts : List (Nat × TableDir)} {t : TableDir} (h : lookupT g ts = some t) :
    (g, t) ∈ ts := by
  unfold lookupT at h
  obtain ⟨p, hp, rfl⟩ := Option.map_eq_some_iff.1 h
  have h1 := List.mem_of_find?_eq_some hp
  have h2 := List.find?_some hp
  have : p.1 = g := by simpa using h2
  rw [← this]; exact h1

theorem lookupT_of_mem {g : Nat} {t : TableDir} {ts : List (Nat × TableDir)}
    (hs : (ts.map (·.1)).Pairwise (· < ·)) (h : (g, t) ∈ ts) : lookupT g ts = some t := by
  unfold lookupT
  rw [find?_eq_some_of_pairwise (fun a b hab hb => ?_) (List.pairwise_map.1 hs) h (beq_self_eq_true g)]
  · rfl
  · exact beq_false_of_ne (Nat.ne_of_lt (eq_of_beq hb ▸ hab))

theorem updT_id_of_absent (g : Nat) (f : TableDir → TableDir) (ts : List (Nat × TableDir))
    (h : ∀ p ∈ ts, p.1 ≠ g) : updT g f ts = ts := by
  induction ts with
  | nil => rfl
  | cons q r ih =>
    have hq := h q List.mem_cons_self
    have : (q.1 == g) = false := by simpa using hq
    simp only [updT, List.map_cons, this] at ih ⊢
    rw [ih (fun p hp => h p (List.mem_cons_of_mem _ hp))]
    rfl

theorem updT_append (g : Nat) (f : TableDir → TableDir) (a b : List (Nat × TableDir)) :
    updT g f (a ++ b) = updT g f a ++ updT g f b := by simp [updT]

theorem updT_updT (g : Nat) (f1 f2 : TableDir → TableDir) (ts : List (Nat × TableDir)) :
    updT g f2 (updT g f1 ts) = updT g (f2 ∘ f1) ts := by
  unfold updT
  rw [List.map_map]
  apply List.map_congr_left
  intro p _
  by_cases hp : p.1 = g <;> simp [hp]

theorem updT_congr (g : Nat) (f f' : TableDir → TableDir) (ts : List (Nat × TableDir))
    (h : ∀ p ∈ ts, p.1 = g → f p.2 = f' p.2) : updT g f ts = updT g f' ts := by
  unfold updT
  apply List.map_congr_left
  intro p hp
  by_cases hg : p.1 = g
  · simp [hg, h p hp hg]
  · simp [hg]

theorem eraseT_id_of_absent (g : Nat) (ts : List (Nat × TableDir)) (h : ∀ p ∈ ts, p.1 ≠ g) : eraseT g ts = ts := by
  unfold eraseT
  rw [List.filter_eq_self]
  intro p hp; simpa using h p hp

theorem eraseT_append (g : Nat) (a b : List (Nat × TableDir)) : eraseT g (a ++ b) = eraseT g a ++ eraseT g b := by
  simp [eraseT]

/-- a filter on names that rejects `g` does not see what happens to `g` -/
theorem filter_updT (q : Nat → Bool) (g : Nat) (f : TableDir → TableDir) (ts : List (Nat × TableDir))
    (hq : q g = false) : (updT g f ts).filter (fun p => q p.1) = ts.filter (fun p => q p.1) := by
  have h1 : ((fun p : Nat × TableDir => q p.1) ∘ fun p => if p.1 == g then (p.1, f p.2) else p) = fun p => q p.1 :=
    funext fun p => by by_cases hp : p.1 = g <;> simp [hp]
  rw [updT, List.filter_map, h1]
  refine (List.map_congr_left fun p hp => if_neg fun he => ?_).trans (List.map_id' _)
  have := (List.mem_filter.1 hp).2
  rw [eq_of_beq he, hq] at this
  cases this

theorem filter_eraseT (q : Nat → Bool) (g : Nat) (ts : List (Nat × TableDir))
    (hq : q g = false) : (eraseT g ts).filter (fun p => q p.1) = ts.filter (fun p => q p.1) := by
  rw [eraseT, List.filter_filter]
  exact List.filter_congr fun p _ => by by_cases hp : p.1 = g <;> simp [hp, hq]

theorem not_partMeta_of_complete {t : TableDir} (h : isComplete t = true) : isPartMeta t = false := by
  cases t with
  | part b => cases h
  | complete c => rfl

theorem tblsOf_nil : tblsOf [] = [] := rfl

theorem tblsOf_cons_complete (g : Nat) (c : Layer) (ts : List (Nat × TableDir)) :
    tblsOf ((g, .complete c) :: ts) = { gen := g, cells := c } :: tblsOf ts := by
  simp [tblsOf]

theorem tblsOf_cons_part (g : Nat) (b : Bool) (ts : List (Nat × TableDir)) :
    tblsOf ((g, .part b) :: ts) = tblsOf ts := by
  simp [tblsOf]

theorem tblsOf_append (a b : List (Nat × TableDir)) : tblsOf (a ++ b) = tblsOf a ++ tblsOf b := by
  simp [tblsOf]

theorem tblsOf_filter_complete (ts : List (Nat × TableDir)) :
    tblsOf (ts.filter (fun p => isComplete p.2)) = tblsOf ts := by
  induction ts with
  | nil => rfl
  | cons p r ih =>
    obtain ⟨g, t⟩ := p
    cases t with
    | part b =>
      rw [List.filter_cons_of_neg (by simp [isComplete]), tblsOf_cons_part, ih]
    | complete c =>
      rw [List.filter_cons_of_pos (by simp [isComplete]), tblsOf_cons_complete, tblsOf_cons_complete, ih]

/-- the directory listing of a list of live tables -/
def encT (ts : List Tbl) : List (Nat × TableDir) := ts.map fun t => (t.gen, .complete t.cells)

theorem tblsOf_encT (ts : List Tbl) : tblsOf (encT ts) = ts := by
  induction ts with
  | nil => rfl
  | cons t r ih => simp only [encT, List.map_cons] at ih ⊢; rw [tblsOf_cons_complete, ih]

theorem keys_encT (ts : List Tbl) : (encT ts).map (·.1) = ts.map (·.gen) := by
  simp [encT]

theorem encT_append (a b : List Tbl) : encT (a ++ b) = encT a ++ encT b := by simp [encT]

theorem encT_complete (ts : List Tbl) : ∀ p ∈ encT ts, isComplete p.2 = true := by
  intro p hp
  obtain ⟨t, _, rfl⟩ := List.mem_map.1 hp
  rfl

theorem encT_tblsOf (ts : List (Nat × TableDir)) (h : ∀ p ∈ ts, isComplete p.2 = true) : encT (tblsOf ts) = ts := by
  induction ts with
  | nil => rfl
  | cons p r ih =>
    obtain ⟨g, t⟩ := p
    have hp := h (g, t) List.mem_cons_self
    cases t with
    | part b => cases hp
    | complete c =>
      rw [tblsOf_cons_complete]
      show (g, TableDir.complete c) :: encT (tblsOf r) = _
      rw [ih (fun q hq => h q (List.mem_cons_of_mem _ hq))]

theorem tblsOf_insertT_part (g : Nat) (b : Bool) (ts : List (Nat × TableDir)) :
    tblsOf (insertT g (.part b) ts) = tblsOf ts := by
  induction ts with
  | nil => rfl
  | cons q r ih =>
    simp only [insertT]
    split
    · rw [tblsOf_cons_part]
    · split
      · rfl
      · obtain ⟨g', t⟩ := q
        cases t with
        | part b' => rw [tblsOf_cons_part, tblsOf_cons_part, ih]
        | complete c => rw [tblsOf_cons_complete, tblsOf_cons_complete, ih]

theorem keys_tblsOf_sub (ts : List (Nat × TableDir)) : ((tblsOf ts).map (·.gen)).Sublist (ts.map (·.1)) := by
  induction ts with
  | nil => exact List.Sublist.slnil
  | cons p r ih =>
    obtain ⟨g, t⟩ := p
    cases t with
    | part b => rw [tblsOf_cons_part]; exact List.Sublist.cons _ ih
    | complete c => rw [tblsOf_cons_complete]; exact List.Sublist.cons_cons _ ih

theorem mem_tblsOf {ts : List (Nat × TableDir)} {t : Tbl} (h : t ∈ tblsOf ts) : (t.gen, .complete t.cells) ∈ ts := by
  induction ts with
  | nil => cases h
  | cons p r ih =>
    obtain ⟨g, x⟩ := p
    cases x with
    | part b => rw [tblsOf_cons_part] at h; exact List.mem_cons_of_mem _ (ih h)
    | complete c =>
      rw [tblsOf_cons_complete] at h
      rcases List.mem_cons.1 h with (h | h)
      · subst h; exact List.mem_cons_self
      · exact List.mem_cons_of_mem _ (ih h)

theorem le_maxGen (ts : List Tbl) (t : Tbl) (h : t ∈ ts) : t.gen ≤ maxGen ts :=
  foldl_max_le _ 0 _ (Or.inr (List.mem_map.2 ⟨t, h, rfl⟩))

theorem isFlagged_iff (c : CompDir) : isFlagged c = true ↔ ∃ m, c.flag = some m := by
  unfold isFlagged; cases c.flag <;> simp

theorem not_isFlagged_iff (c : CompDir) : isFlagged c = false ↔ c.flag = none := by
  unfold isFlagged; cases c.flag <;> simp

/-- recovery looks at the flagged compaction directories only -/
theorem foldl_finishComp_flagged (cs : List CompDir) (ts : List (Nat × TableDir)) :
    cs.foldl finishComp ts = (cs.filter isFlagged).foldl finishComp ts := by
  induction cs generalizing ts with
  | nil => rfl
  | cons c cs ih =>
    rw [List.foldl_cons, ih]
    cases hf : isFlagged c with
    | true => rw [List.filter_cons_of_pos hf, List.foldl_cons]
    | false =>
      rw [List.filter_cons_of_neg (by simp [hf])]
      simp only [finishComp, (not_isFlagged_iff c).1 hf]

/-- a flagged compaction whose inputs lie between `A` and `B` in the listing: finishing it removes what is left of the
inputs (`X`, in any state) and puts the output in their place -/
theorem finishComp_mid {A X B : List (Nat × TableDir)} {c : CompDir} {m : CompMeta} (hf : c.flag = some m)
    (hr : m.replacement ∈ m.inputs) (hX : ∀ p ∈ X, p.1 ∈ m.inputs) (hA : ∀ p ∈ A, ∀ g ∈ m.inputs, p.1 < g)
    (hB : ∀ p ∈ B, ∀ g ∈ m.inputs, g < p.1) : finishComp (A ++ X ++ B) c = A ++ (m.replacement, c.out) :: B := by
  -- a name that differs from every input stays (the replacement is one of the inputs)
  have keep : ∀ l : List (Nat × TableDir), (∀ p ∈ l, ∀ g ∈ m.inputs, p.1 ≠ g) →
      l.filter (fun p => !(m.inputs.contains p.1 || p.1 == m.replacement)) = l := fun l hl =>
    List.filter_eq_self.2 fun p hp => by
      simp only [Bool.not_eq_true', Bool.or_eq_false_iff, List.contains_eq_mem, decide_eq_false_iff_not, beq_eq_false_iff_ne]
      exact ⟨fun hin => hl p hp _ hin rfl, hl p hp _ hr⟩
  have drop : X.filter (fun p => !(m.inputs.contains p.1 || p.1 == m.replacement)) = [] :=
    List.filter_eq_nil_iff.2 fun p hp => by
      simp only [Bool.not_eq_true, Bool.not_eq_false', Bool.or_eq_true, List.contains_eq_mem, decide_eq_true_eq]
      exact Or.inl (hX p hp)
  unfold finishComp rmInputs
  simp only [hf]
  rw [List.filter_append, List.filter_append, keep A fun p hp g hg => Nat.ne_of_lt (hA p hp g hg), drop,
    keep B fun p hp g hg => Nat.ne_of_gt (hB p hp g hg), List.append_nil]
  exact insertT_mid _ _ _ _ (fun p hp => hA p hp _ hr) (fun p hp => hB p hp _ hr)

theorem applyMuts_nil (l : Layer) : applyMuts l [] = l := rfl

theorem applyMuts_cons (l : Layer) (m : Mutation) (ms : List Mutation) :
    applyMuts l (m :: ms) = applyMuts (m.apply l) ms := rfl

theorem applyMuts_append (l : Layer) (a b : List Mutation) :
    applyMuts l (a ++ b) = applyMuts (applyMuts l a) b := by
  simp [applyMuts, List.foldl_append]

theorem applySpec_nil (f : Key → Option Bytes) : applySpec f [] = f := rfl
theorem applySpec_cons (f : Key → Option Bytes) (m : Mutation) (ms : List Mutation) :
    applySpec f (m :: ms) = applySpec (Mutation.spec f m) ms := rfl
theorem applySpec_append (f : Key → Option Bytes) (a b : List Mutation) :
    applySpec f (a ++ b) = applySpec (applySpec f a) b := by
  simp [applySpec, List.foldl_append]

def Mutation.key : Mutation → Key
  | .put k _ => k
  | .del k => k

def Mutation.val : Mutation → GoBytes
  | .put _ v => some v
  | .del _ => none

theorem apply_eq_set (l : Layer) (m : Mutation) : m.apply l = l.set (Mutation.key m) (Mutation.val m) := by
  cases m <;> rfl

theorem get_apply (l : Layer) (m : Mutation) (k : Key) :
    Layer.get (m.apply l) k = if k = Mutation.key m then some (Mutation.val m) else Layer.get l k := by
  rw [apply_eq_set, layerGet_set]

theorem get_applyMuts (l : Layer) (ms : List Mutation) (k : Key) :
    Layer.get (applyMuts l ms) k = (Layer.get (applyMuts [] ms) k).or (Layer.get l k) := by
  induction ms generalizing l with
  | nil => simp [applyMuts_nil, layerGet_nil]
  | cons m ms ih =>
    rw [applyMuts_cons, ih, applyMuts_cons, ih (m.apply [])]
    rw [get_apply, get_apply]
    by_cases h : k = Mutation.key m
    · simp [h]
    · simp [h, layerGet_nil]

theorem get_applyMuts_append (a b : List Mutation) (k : Key) :
    Layer.get (applyMuts [] (a ++ b)) k = (Layer.get (applyMuts [] b) k).or (Layer.get (applyMuts [] a) k) := by
  rw [applyMuts_append, get_applyMuts]

theorem applyMuts_ne_nil (l : Layer) (m : Mutation) (ms : List Mutation) : applyMuts l (m :: ms) ≠ [] := by
  induction ms generalizing l m with
  | nil => cases m <;> simp [applyMuts, Mutation.apply, Layer.set]
  | cons m' ms ih => rw [applyMuts_cons]; exact ih _ _

theorem applyMuts_eq_nil {ms : List Mutation} (h : applyMuts [] ms = []) : ms = [] := by
  cases ms with
  | nil => rfl
  | cons m ms => exact absurd h (applyMuts_ne_nil _ _ _)

/-- replaying validated records never stores an empty value -/
theorem applyMuts_val_ok' (ms : List Mutation) (hok : ∀ m ∈ ms, m.ok = true) :
    ∀ l : Layer, (∀ k v, Layer.get l k = some (some v) → v ≠ []) →
      ∀ k v, Layer.get (applyMuts l ms) k = some (some v) → v ≠ [] := by
  induction ms with
  | nil => intro l hl; exact hl
  | cons m ms ih =>
    intro l hl
    rw [applyMuts_cons]
    apply ih (fun m' hm' => hok m' (List.mem_cons_of_mem _ hm'))
    intro k v hk
    rw [get_apply] at hk
    by_cases hkm : k = Mutation.key m
    · rw [if_pos hkm] at hk
      have hm := hok m List.mem_cons_self
      cases m with
      | put k' v' =>
        simp only [Mutation.val, Option.some.injEq] at hk
        subst hk
        intro he; subst he
        simp [Mutation.ok] at hm
      | del k' => simp [Mutation.val] at hk
    · rw [if_neg hkm] at hk
      exact hl k v hk

theorem applyMuts_val_ok (ms : List Mutation) (hok : ∀ m ∈ ms, m.ok = true) (k : Key) (v : Bytes)
    (h : Layer.get (applyMuts [] ms) k = some (some v)) : v ≠ [] :=
  applyMuts_val_ok' ms hok [] (by intro k v h; simp [layerGet_nil] at h) k v h

theorem walMuts_nil : walMuts [] = [] := rfl
theorem walMuts_cons (f : WalFile) (fs : List WalFile) : walMuts (f :: fs) = fileMuts f ++ walMuts fs := by
  simp [walMuts]
theorem walMuts_append (a b : List WalFile) : walMuts (a ++ b) = walMuts a ++ walMuts b := by
  simp [walMuts]

theorem applyEvs_nil (d : Disk) : applyEvs d [] = d := rfl
theorem applyEvs_cons (d : Disk) (e : Ev) (es : List Ev) : applyEvs d (e :: es) = applyEvs (applyEv d e) es := rfl
theorem applyEvs_append (d : Disk) (a b : List Ev) : applyEvs d (a ++ b) = applyEvs (applyEvs d a) b := by
  simp [applyEvs, List.foldl_append]

theorem ackedCount_nil (n : Nat) : ackedCount [] n = 0 := rfl

/-- from any disk satisfying `P`, the property `Good` holds after every prefix of `es`, and `Q` at the end -/
def Seg (Good P : Disk → Prop) (es : List Ev) (Q : Disk → Prop) : Prop :=
  ∀ x, P x → (∀ n, Good (applyEvs x (es.take n))) ∧ Q (applyEvs x es)

theorem Seg.nil {Good P Q : Disk → Prop} (h : ∀ x, P x → Good x ∧ Q x) : Seg Good P [] Q := by
  intro x hx
  exact ⟨fun n => by simp only [List.take_nil, applyEvs_nil]; exact (h x hx).1, (h x hx).2⟩

theorem Seg.append {Good P Q R : Disk → Prop} {a b : List Ev} (h1 : Seg Good P a Q) (h2 : Seg Good Q b R) :
    Seg Good P (a ++ b) R := by
  intro x hx
  obtain ⟨g1, q1⟩ := h1 x hx
  obtain ⟨g2, r2⟩ := h2 _ q1
  refine ⟨?_, by rw [applyEvs_append]; exact r2⟩
  intro n
  rw [List.take_append, applyEvs_append]
  by_cases hn : n ≤ a.length
  · have : n - a.length = 0 := by omega
    rw [this, List.take_zero, applyEvs_nil]
    exact g1 n
  · rw [List.take_of_length_le (by omega)]
    exact g2 _

theorem Seg.cons {Good P Q R : Disk → Prop} {e : Ev} {es : List Ev}
    (h1 : ∀ x, P x → Good x ∧ Q (applyEv x e)) (h2 : Seg Good Q es R) : Seg Good P (e :: es) R := by
  intro x hx
  obtain ⟨g1, q1⟩ := h1 x hx
  obtain ⟨g2, r2⟩ := h2 _ q1
  refine ⟨?_, by rw [applyEvs_cons]; exact r2⟩
  intro n
  cases n with
  | zero => simp only [List.take_zero, applyEvs_nil]; exact g1
  | succ n => rw [List.take_succ_cons, applyEvs_cons]; exact g2 n

/-- a segment from a known disk, one call at a time -/
theorem Seg.step {Good R : Disk → Prop} {x y : Disk} {e : Ev} {es : List Ev} (hg : Good x) (he : applyEv x e = y)
    (h : Seg Good (fun z => z = y) es R) : Seg Good (fun z => z = x) (e :: es) R :=
  Seg.cons (fun _ hx => hx ▸ ⟨hg, he⟩) h

theorem Seg.done {Good R : Disk → Prop} {x : Disk} (hg : Good x) (hr : R x) : Seg Good (fun z => z = x) [] R :=
  Seg.nil (fun _ hx => hx ▸ ⟨hg, hr⟩)

theorem Seg.weaken {Good P P' Q Q' : Disk → Prop} {es : List Ev} (h : Seg Good P es Q)
    (hp : ∀ x, P' x → P x) (hq : ∀ x, Q x → Q' x) : Seg Good P' es Q' := by
  intro x hx
  obtain ⟨g, q⟩ := h x (hp x hx)
  exact ⟨g, hq _ q⟩

theorem Seg.good_mono {Good Good' P Q : Disk → Prop} {es : List Ev} (h : Seg Good P es Q)
    (hg : ∀ x, Good x → Good' x) : Seg Good' P es Q := by
  intro x hx
  obtain ⟨g, q⟩ := h x hx
  exact ⟨fun n => hg _ (g n), q⟩

/-- the disk at the end is one of the good disks, too -/
theorem Seg.post_good {Good P Q : Disk → Prop} {es : List Ev} (h : Seg Good P es Q) :
    Seg Good P es (fun x => Q x ∧ Good x) := by
  intro x hx
  obtain ⟨g, q⟩ := h x hx
  have := g es.length
  rw [List.take_length] at this
  exact ⟨g, q, this⟩

end SST.Proofs.FS
