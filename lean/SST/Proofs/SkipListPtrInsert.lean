/-
Pointer-level skip list: `Insert` (the pointer surgery) preserves the representation relation and is
`SkipList.insert` on the abstract image.  First, what a represented structure's level lists and `abs` are in terms
of `order` (`levelList_of_rep`, `abs_of_rep`).  The link loop is then summarised as a statement about pointers
(`linkLoop_linked`, no chains); then each level's chain is dealt with once: spliced below the height of
the new node, unchanged above.
-/
import SST.Proofs.SkipListPtrFind
namespace SST.SkipListPtr
open SST SST.Proofs

variable {K V : Type}

/-- the first step along a chain through entries that stand for arena nodes -/
theorem seg_cons_entry {arena : List (PNode K V)} {l : Nat} {e : Nat × SNode K V}
    {T : List (Nat × SNode K V)} {p : Option Nat}
    (hn : ∀ e' ∈ e :: T, ∃ n : PNode K V, arena[e'.1]? = some n ∧ e'.2 = toS n)
    (hs : Seg arena l p ((e :: T).map (·.1)) none) :
    ∃ n r, p = some e.1 ∧ arena[e.1]? = some n ∧ e.2 = toS n ∧ n.next[l]? = some r ∧
      Seg arena l r (T.map (·.1)) none := by
  obtain ⟨hp, n, hget, r, hr, hs'⟩ := hs
  obtain ⟨n', hget', he⟩ := hn e List.mem_cons_self
  cases hget.symm.trans hget'
  exact ⟨n, r, hp, hget, he, hr, hs'⟩

theorem walk_of_seg {arena : List (PNode K V)} {l : Nat} :
    ∀ (T : List (Nat × SNode K V)) (fuel : Nat) (p : Option Nat), T.length ≤ fuel →
      (∀ e ∈ T, ∃ n : PNode K V, arena[e.1]? = some n ∧ e.2 = toS n) →
      Seg arena l p (T.map (·.1)) none → walk arena l fuel p = T := by
  intro T
  induction T with
  | nil =>
    intro fuel p _ _ hs
    have : p = none := hs
    subst this
    cases fuel <;> rfl
  | cons e T ih =>
    intro fuel p hf hn hs
    obtain ⟨n, r, rfl, hget, he, hr, hs'⟩ := seg_cons_entry hn hs
    cases fuel with
    | zero => simp at hf
    | succ f =>
      have hf' : T.length ≤ f := by simpa using hf
      simp only [walk, hget, hr, Option.join_some]
      rw [ih f r hf' (fun e' he' => hn e' (List.mem_cons_of_mem _ he')) hs', ← he]

theorem levelList_of_rep {cmp : K → K → Ordering} {pl : PList K V} {order : List (Nat × SNode K V)}
    (hrep : Rep cmp pl order) {l : Nat} (hl : l < pl.maxHeight) :
    levelList pl l = order.filter (lvl l) := by
  obtain ⟨p, hp, hs⟩ := hrep.chain l hl
  unfold levelList
  rw [hp, Option.join_some]
  apply walk_of_seg
  · rw [hrep.size]; exact List.length_filter_le _ _
  · intro e he; exact hrep.node e ((List.mem_filter.1 he).1)
  · exact hs

theorem filter_lvl0 {cmp : K → K → Ordering} {pl : PList K V} {order : List (Nat × SNode K V)}
    (hrep : Rep cmp pl order) : order.filter (lvl 0) = order :=
  List.filter_eq_self.2 fun _ he => lvl0_true hrep he

theorem abs_of_rep {cmp : K → K → Ordering} {pl : PList K V} {order : List (Nat × SNode K V)}
    (hrep : Rep cmp pl order) :
    abs pl = { nodes := order.map (·.2), maxHeight := pl.maxHeight } := by
  unfold abs
  rw [levelList_of_rep hrep hrep.mh, filter_lvl0 hrep]

theorem Rep.addr_lt {cmp : K → K → Ordering} {pl : PList K V} {order : List (Nat × SNode K V)}
    (hrep : Rep cmp pl order) {e : Nat × SNode K V} (he : e ∈ order) : e.1 < pl.arena.length := by
  obtain ⟨n, hn, _⟩ := hrep.node e he
  exact (List.getElem?_eq_some_iff.1 hn).1

/-- an entry of height `i` between `o1` and `o2` is in the chains of the levels below `i` only -/
theorem idxAt_insert (o1 o2 : List (Nat × SNode K V)) (a : Nat) (k : K) (v : V) (i l : Nat) :
    idxAt (o1 ++ (a, ⟨k, v, i⟩) :: o2) l
      = if l < i then idxAt o1 l ++ a :: idxAt o2 l else idxAt o1 l ++ idxAt o2 l := by
  by_cases hl : l < i <;> simp [idxAt, lvl, hl]

/-- one round of the link loop: two pointers of level `i` change -/
theorem linkLevel_linked {pl : PList K V} {pt : List (Option Ref)} {xi i : Nat} {prev : Ref}
    {r r' : Option Nat} (hpt : pt[i]? = some (some prev)) (hne : prev ≠ .node xi)
    (hprev : nextOf pl prev i = some r) (hxi : nextOf pl (.node xi) i = some r') :
    ∃ pl', linkLevel pl pt xi i = some pl' ∧ shape pl' = shape pl ∧
      Linked (nextOf pl · i) (nextOf pl' · i) prev xi ∧
      ∀ l, l ≠ i → ∀ y, nextOf pl' y l = nextOf pl y l := by
  obtain ⟨pl1, hs1, hsh1, hn1⟩ := setNext_spec hxi r
  obtain ⟨pl', hs2, hsh2, hn2⟩ := setNext_spec ((hn1 prev).1.trans ((if_neg hne).trans hprev)) (some xi)
  refine ⟨pl', ?_, hsh2.trans hsh1, ⟨(hn2 prev).1.trans (if_pos rfl), ?_, fun y hy1 hy2 => ?_⟩,
    fun l hl y => ((hn2 y).2 l hl).trans ((hn1 y).2 l hl)⟩
  · simp only [linkLevel, hpt, hprev, hs1, hs2]
  · rw [(hn2 _).1, if_neg hne.symm, (hn1 _).1, if_pos rfl, hprev]
  · rw [(hn2 y).1, if_neg hy1, (hn1 y).1, if_neg hy2]

/-- The link loop as a statement about the pointers only: the levels `i ≤ l < n + i` are linked behind the
`prevTable` entries `prev l`, the other levels keep their pointers.  (`n + i`, not `i + n`: at `i = 0` the
bound is `n` by definition.) -/
theorem linkLoop_linked {pt : List (Option Ref)} {xi : Nat} (prev : Nat → Ref) :
    ∀ (n i : Nat) (plc : PList K V),
      (∀ l, i ≤ l → l < n + i → pt[l]? = some (some (prev l)) ∧ prev l ≠ .node xi ∧
        (∃ r, nextOf plc (prev l) l = some r) ∧ ∃ r, nextOf plc (.node xi) l = some r) →
      ∃ pl2, linkLoop pt xi n i plc = some pl2 ∧ shape pl2 = shape plc ∧
        (∀ l, i ≤ l → l < n + i → Linked (nextOf plc · l) (nextOf pl2 · l) (prev l) xi) ∧
        ∀ l, (l < i ∨ n + i ≤ l) → ∀ y, nextOf pl2 y l = nextOf plc y l := by
  intro n
  induction n with
  | zero =>
    intro i plc _
    exact ⟨plc, rfl, rfl, fun l h1 h2 => absurd (Nat.zero_add i ▸ h2) (Nat.not_lt.2 h1), fun _ _ _ => rfl⟩
  | succ n ih =>
    intro i plc hyp
    -- `n + i + 1` is the bound `n + (i + 1)` of the remaining rounds by definition
    simp only [Nat.add_right_comm n 1 i] at hyp ⊢
    have hi : i < n + i + 1 := Nat.lt_succ_of_le (Nat.le_add_left i n)
    obtain ⟨hpt, hne, ⟨r, hr⟩, ⟨r', hr'⟩⟩ := hyp i (Nat.le_refl i) hi
    obtain ⟨pl', hlink, hsh, hlk, hoth⟩ := linkLevel_linked hpt hne hr hr'
    obtain ⟨pl2, hloop, hsh2, hlk2, hoth2⟩ := ih (i + 1) pl' fun l h1 h2 => by
      rw [hoth l (Nat.ne_of_gt h1), hoth l (Nat.ne_of_gt h1)]; exact hyp l (Nat.le_of_lt h1) h2
    refine ⟨pl2, by simp only [linkLoop, hlink]; exact hloop, hsh2.trans hsh, fun l h1 h2 => ?_,
      fun l hl y => (hoth2 l (hl.imp Nat.lt_succ_of_lt id) y).trans (hoth l ?_ y)⟩
    · by_cases hl : l = i
      · rw [hl, funext (hoth2 i (.inl (Nat.lt_succ_self i)))]; exact hlk
      · rw [← funext (hoth l hl)]; exact hlk2 l (Nat.lt_of_le_of_ne h1 (Ne.symm hl)) h2
    · exact hl.elim Nat.ne_of_lt fun h => Nat.ne_of_gt (Nat.lt_of_lt_of_le hi h)

/-- allocation is a frame: with a node appended to the arena the same `order` is represented, every chain is as it
was -/
theorem Rep.alloc {cmp : K → K → Ordering} {pl : PList K V} {order : List (Nat × SNode K V)}
    (hrep : Rep cmp pl order) (nd : PNode K V) :
    Rep cmp { pl with arena := pl.arena ++ [nd] } order where
  nodup := hrep.nodup
  node e he := by
    obtain ⟨n, hn, hs⟩ := hrep.node e he
    exact ⟨n, (List.getElem?_append_left (List.getElem?_eq_some_iff.1 hn).1).trans hn, hs⟩
  headLen := hrep.headLen
  mh := hrep.mh
  hts := hrep.hts
  chain l hl := by
    refine path_head_iff.1 (path_frame rfl (fun j hj => ?_) (path_head_iff.2 (hrep.chain l hl)))
    obtain ⟨e, he, rfl⟩ := List.mem_map.1 hj
    show ((pl.arena ++ [nd])[e.1]?).bind _ = (pl.arena[e.1]?).bind _
    rw [List.getElem?_append_left (hrep.addr_lt (List.mem_filter.1 he).1)]
  size := hrep.size
  sorted := hrep.sorted

/-- The link loop, run on a well-formed structure that holds an unreachable node `xi` of height `h` with nil
pointers, with a `prevTable` that holds the per-level predecessors of the position between `o1` and `o2`,
splices the node in there. -/
theorem link_fresh {cmp : K → K → Ordering} {pl : PList K V} {o1 o2 : List (Nat × SNode K V)}
    {k : K} {v : V} {h xi : Nat} (hrep : Rep cmp pl (o1 ++ o2))
    (hxi : pl.arena[xi]? = some ⟨k, v, List.replicate h none⟩) (hnew : xi ∉ (o1 ++ o2).map (·.1))
    (h1 : 1 ≤ h) (hh : h ≤ pl.maxHeight) {pt : List (Option Ref)}
    (hpt : ∀ l, l < pl.maxHeight → pt[l]? = some (some (predRef o1 l)))
    (hs : Sorted cmp ((o1 ++ (xi, ⟨k, v, h⟩) :: o2).map (·.2))) :
    ∃ pl2, linkLoop pt xi h 0 pl = some pl2 ∧ pl2.maxHeight = pl.maxHeight ∧
      Rep cmp { pl2 with size := pl2.size + 1 } (o1 ++ (xi, ⟨k, v, h⟩) :: o2) := by
  have hfresh : ∀ l, xi ∉ idxAt o1 l ++ idxAt o2 l := fun l hm =>
    hnew ((List.Sublist.map _ List.filter_sublist).subset (idxAt_append o1 o2 l ▸ hm))
  have hpath : ∀ l, l < pl.maxHeight → Path (nextOf pl · l) .head (idxAt o1 l ++ idxAt o2 l) none :=
    fun l hl => idxAt_append o1 o2 l ▸ path_head_iff.2 (hrep.chain l hl)
  obtain ⟨pl2, hloop, hsh, hlk, hoth⟩ := linkLoop_linked (pt := pt) (xi := xi)
    (fun l => endRef .head (idxAt o1 l)) h 0 pl fun l _ hl => by
      have hlm := Nat.lt_of_lt_of_le hl hh
      refine ⟨by rw [endRef_head]; exact hpt l hlm, ?_, ⟨_, path_next_end (hpath l hlm)⟩, none, ?_⟩
      · exact endRef_ne Ref.noConfusion fun j hj hc =>
          hfresh l (Ref.node.inj hc ▸ List.mem_append_left _ hj)
      · rw [nextOf, hxi]; exact (List.getElem?_replicate ..).trans (if_pos hl)
  obtain ⟨hmh, hsz, hhl⟩ := shape_sizes hsh
  refine ⟨pl2, hloop, hmh, ?_, ?_, hhl.trans (hrep.headLen.trans hmh.symm), hmh ▸ hrep.mh, ?_, ?_, ?_, hs⟩
  · rw [List.map_append, List.map_cons, List.perm_middle.nodup_iff, ← List.map_append]
    exact List.nodup_cons.2 ⟨hnew, hrep.nodup⟩
  · have hold := fun e he => shape_node hsh (hrep.node e he)
    rw [List.forall_mem_append] at hold ⊢
    exact ⟨hold.1, List.forall_mem_cons.2 ⟨shape_node hsh
      ⟨_, hxi, by rw [toS, List.length_replicate]⟩, hold.2⟩⟩
  · have hhts := hrep.hts
    rw [List.forall_mem_append] at hhts ⊢
    exact ⟨hmh ▸ hhts.1, List.forall_mem_cons.2 ⟨⟨h1, hmh ▸ hh⟩, hmh ▸ hhts.2⟩⟩
  · -- each chain once: the new node spliced in below its height, untouched above
    intro l hl
    have hl : l < pl.maxHeight := hmh ▸ hl
    refine path_head_iff.1 ?_
    rw [idxAt_insert]
    by_cases hlh : l < h
    · rw [if_pos hlh]
      refine path_splice (hpath l hl) (fun _ _ => Ref.noConfusion) ?_ (hfresh l)
        (hlk l (Nat.zero_le l) hlh)
      rw [← idxAt_append]
      exact List.Nodup.sublist (List.Sublist.map _ List.filter_sublist) hrep.nodup
    · rw [if_neg hlh]
      exact (funext (hoth l (.inr (Nat.not_lt.1 hlh))) :
        (nextOf pl2 · l) = (nextOf pl · l)) ▸ hpath l hl
  · show pl2.size + 1 = _
    rw [hsz, hrep.size, List.length_append, List.length_append, List.length_cons, Nat.add_assoc]

/-- `Insert` on a well-formed structure whose order the new key cuts into `o1` and `o2`: a panic exactly
when the first entry of `o2` compares equal, whatever the height (the duplicate test comes first);
otherwise, for a height `1 ≤ h ≤ maxHeight`, the new node (allocated at the end of the arena) is spliced
between `o1` and `o2` on each of its `h` levels and the result is well-formed. -/
theorem insert_rep {cmp : K → K → Ordering} (hl : LawfulCmp cmp) {pl : PList K V}
    {order o1 o2 : List (Nat × SNode K V)} {k : K} (v : V) {h : Nat}
    (hrep : Rep cmp pl order) (ho : order = o1 ++ o2) (c : Cuts cmp (fun e => e.2.key) k o1 o2) :
    (∀ e ∈ o2.head?, cmp k e.2.key = .eq → insert cmp pl k v h = none) ∧
    ((∀ e ∈ o2.head?, cmp k e.2.key ≠ .eq) → 1 ≤ h → h ≤ pl.maxHeight →
      ∃ pl', insert cmp pl k v h = some pl' ∧ pl'.maxHeight = pl.maxHeight ∧
        Rep cmp pl' (o1 ++ (pl.arena.length, ⟨k, v, h⟩) :: o2)) := by
  have hfind := findGE_spec hrep ho c (some (List.replicate pl.maxHeight none))
    (by rintro _ ⟨⟩; exact List.length_replicate)
  -- the duplicate test looks at the first entry of `o2`
  have hdup : ∀ e ∈ o2.head?, (pl.arena[e.1]?).map (fun n => cmp k n.key == .eq)
      = some (cmp k e.2.key == .eq) := by
    intro e he
    obtain ⟨n, hn, hs⟩ := hrep.node e (ho ▸ List.mem_append_right _ (List.mem_of_mem_head? he))
    rw [hn, hs]; rfl
  constructor
  · intro e he heq
    simp [insert, hfind, Option.mem_def.1 he, hdup e he, heq]
  · intro hnodup h1 hh
    have hnotgt : ¬ h > pl.maxHeight := Nat.not_lt.2 hh
    subst ho
    obtain ⟨pl2, hloop, hmh, hrep2⟩ := link_fresh (hrep.alloc ⟨k, v, List.replicate h none⟩)
      List.getElem?_concat_length
      (fun hm => let ⟨_, he, hee⟩ := List.mem_map.1 hm; Nat.ne_of_lt (hrep.addr_lt he) hee) h1 hh
      (pt := fillPrev o1 pl.maxHeight (List.replicate pl.maxHeight none)) (fun l hl => by
        rw [fillPrev_get _ _ _ _ (by rw [List.length_replicate]; exact Nat.le_refl _), if_pos hl])
      (List.pairwise_map.2 (c.asc_insert hl (List.pairwise_map.1 hrep.sorted) hnodup rfl))
    refine ⟨{ pl2 with size := pl2.size + 1 }, ?_, hmh, hrep2⟩
    simp only [insert, hfind, Option.map_some, hnotgt, if_false, hloop]
    cases ho2 : o2.head? with
    | none => rfl
    | some e =>
      simp only [Option.map_some, hdup e ho2]
      rw [show (cmp k e.2.key == .eq) = false by simpa using hnodup e ho2]

end SST.SkipListPtr
