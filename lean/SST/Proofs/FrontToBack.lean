/-
Parsers that read their input front to back (`F2B`): on a prefix of any input such a parser gives the same result,
and what it finds lies inside the prefix, or it runs off the end (`RanOut`).  The property is shown one field at a
time (`F2B.bind`, `F2B.byte`); Go's uvarint decoder is the first instance.  What a cut does to a record header
parser, and through it to a record reader, rests on this alone.
-/
import SST.Model.RecordIO
import SST.Proofs.Varint
namespace SST.Proofs
open SST

/-- how a reader fails whose input ends too early: at a field boundary, or inside a field -/
def RanOut {α : Type} (x : Except Err α) : Prop := x = .error .eof ∨ x = .error .unexpectedEof

theorem RanOut.error {α : Type} {x : Except Err α} (h : RanOut x) : ∃ e, x = .error e :=
  h.elim (fun h => ⟨_, h⟩) (fun h => ⟨_, h⟩)

theorem RanOut.ite {α : Type} (p : Prop) [Decidable p] :
    RanOut (.error (if p then .eof else .unexpectedEof) : Except Err α) := by
  by_cases h : p
  · rw [if_pos h]; exact Or.inl rfl
  · rw [if_neg h]; exact Or.inr rfl

/-- `p`, the rest of a parser `a` bytes into what it parses, reads front to back: on a prefix `s` of any input it
gives the same result, and what it finds (of length `len`, counted from the start) lies inside `s` — or it runs
off the end of `s` -/
def F2B {α : Type} (len : α → Nat) (a : Nat) (p : Bytes → Except Err α) : Prop :=
  ∀ s t, (p (s ++ t) = p s ∧ ∀ h, p s = .ok h → len h ≤ s.length + a) ∨ RanOut (p s)

namespace F2B
variable {α : Type} {len : α → Nat} {a : Nat}

theorem error (len : α → Nat) (a : Nat) (e : Err) : F2B len a fun _ => .error e :=
  fun _ _ => Or.inl ⟨rfl, fun _ hh => nomatch hh⟩

theorem ok (H : α) (h : len H ≤ a) : F2B len a fun _ => .ok H := by
  refine fun s _ => Or.inl ⟨rfl, fun _ hh => ?_⟩
  cases hh
  exact Nat.le_trans h (Nat.le_add_left _ _)

/-- a field read by `d` (value, bytes consumed), then a parser that reads what follows it front to back (`p` stands
for the bytes of the field).  The `match` is the one the model's parsers are written with. -/
theorem bind {d : Bytes → Except Err (Nat × Nat)} (hd : F2B (·.2) 0 d) {F : Nat → Nat → Bytes → Except Err α}
    (hF : ∀ v n p, p.length = n → F2B len (a + n) fun r => F v n (p ++ r)) :
    F2B len a fun s => match d s with
      | .error e => .error e
      | .ok (v, n) => F v n s := by
  intro s t
  simp only []
  rcases hd s t with ⟨e1, l1⟩ | k1
  case inr => exact Or.inr (k1.imp (by intro k; rw [k]) (by intro k; rw [k]))
  rw [e1]
  cases h1 : d s with
  | error e => exact Or.inl ⟨rfl, fun h hh => nomatch hh⟩
  | ok p =>
    obtain ⟨v, n⟩ := p
    have hn : n ≤ s.length := l1 (v, n) h1
    have hp := List.length_take_of_le hn
    have hs := congrArg List.length (List.take_append_drop n s)
    rw [List.length_append, hp] at hs
    have := hF v n (s.take n) hp (s.drop n) t
    simp only [← List.append_assoc, List.take_append_drop] at this
    exact this.imp_left fun ⟨e, l⟩ => ⟨e, fun h hh => by have := l h hh; omega⟩

/-- one byte likewise (the continuation also sees the whole input: a checksum is taken over it); a cut right in
front of the byte is a plain EOF -/
theorem byte {F : UInt8 → Bytes → Bytes → Except Err α} (hF : ∀ b, F2B len (a + 1) fun r => F b r (b :: r)) :
    F2B len a fun s => match s with
      | [] => .error .eof
      | b :: rest => F b rest s := by
  intro s t
  cases s with
  | nil => exact Or.inr (Or.inl rfl)
  | cons b rest =>
    refine (hF b rest t).imp_left fun ⟨e, l⟩ => ⟨e, fun h hh => ?_⟩
    have := l h hh
    rw [List.length_cons]; omega

theorem ok_ext {p : Bytes → Except Err α} (hp : F2B len 0 p) {s : Bytes} {h : α} (hok : p s = .ok h) :
    len h ≤ s.length ∧ ∀ t, p (s ++ t) = .ok h := by
  have key : ∀ t, p (s ++ t) = p s ∧ ∀ h, p s = .ok h → len h ≤ s.length + 0 := fun t =>
    (hp s t).resolve_right (by rw [hok]; rintro (k | k) <;> cases k)
  exact ⟨(key []).2 h hok, fun t => (key t).1.trans hok⟩

theorem take {p : Bytes → Except Err α} (hp : F2B len 0 p) {X : Bytes} {H : α} (hX : p X = .ok H) (j : Nat) :
    (p (X.take j) = .ok H ∧ len H ≤ j) ∨ RanOut (p (X.take j)) := by
  rcases hp (X.take j) (X.drop j) with ⟨e, l⟩ | h
  · rw [List.take_append_drop, hX] at e
    exact Or.inl ⟨e.symm, Nat.le_trans (l H e.symm) (List.length_take_le j X)⟩
  · exact Or.inr h

end F2B

theorem uvarintDec_f2b : F2B (·.2) 0 uvarintDec := by
  intro s t
  rcases uvarintDecAux_prefix s t 0 0 0 with k | k
  · refine Or.inl ⟨k.symm, fun h hh => ?_⟩
    have := (uvarintDecAux_ok_ext s 0 0 0 h.1 h.2 hh).2.1
    show h.2 ≤ s.length + 0
    omega
  · exact Or.inr k

/-- a varint that decodes within the header window decodes on the whole stream -/
theorem uvarintDec_take_ok {s : Bytes} {n v c : Nat} (h : uvarintDec (s.take n) = .ok (v, c)) :
    uvarintDec s = .ok (v, c) :=
  List.take_append_drop n s ▸ (uvarintDec_f2b.ok_ext h).2 (s.drop n)

/-- a record header parser reads front to back; the header it finds is `hlen` bytes long -/
abbrev FrontToBack (rh : Bytes → Except Err RecHeader) : Prop := F2B RecHeader.hlen 0 rh

end SST.Proofs
