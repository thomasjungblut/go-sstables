/-
Proofs for L7 (C05): background micro-steps never change what the database stands for, the two-phase read
returns the atomic answer, and every history of a valid schedule has a sequential witness: the log of the executed
critical sections in the order of their positions (`effs`), which the invariant `WF` of a run describes
(`witness_of_wf`).  Last, histories of Gets only (for C18).
-/
import SST.Spec.Conc
import SST.Proofs.DBInv
namespace SST.Proofs.Conc
open SST SST.DBM SST.Conc SST.Proofs.DB

theorem reflectOn_fresh (s : State) (sizes : List Nat) :
    reflectOn s s.tables.length sizes = (compactStep s sizes).1 := by
  unfold reflectOn
  have h1 : ({ s with tables := s.tables.take s.tables.length } : State) = s := by
    rw [List.take_length]
  rw [h1, List.drop_length, List.append_nil]
  exact (compactStep_retabled s sizes).eq.symm

/-- the cycle acts on the prefix the selection saw; the tables appended since only lengthen what follows the run -/
theorem reflectOn_retabled (s : State) (n : Nat) (sizes : List Nat) : Retabled s (reflectOn s n sizes) := by
  unfold reflectOn
  have hsplit : s.tables.take n ++ s.tables.drop n = s.tables := List.take_append_drop n s.tables
  rcases compactStep_spec2 { s with tables := s.tables.take n } sizes with
    (h | ⟨pre, t0, sel', post, htab, h⟩) <;> rw [h]
  · show Retabled s { s with tables := s.tables.take n ++ s.tables.drop n }
    rw [hsplit]
    exact .refl s
  · have htab' : s.tables = pre ++ (t0 :: sel') ++ (post ++ s.tables.drop n) := by
      rw [← List.append_assoc (pre ++ (t0 :: sel')) post, ← show s.tables.take n = _ from htab, hsplit]
    have := retabled_merge s pre t0 sel' _ htab'
    rwa [← List.append_assoc (pre ++ [_]) post] at this

/-- the micro-steps of the flusher, the compactor and the rotation hook, as functions on the database state -/
inductive BgStep : State → State → Prop where
  | addReader (s : State) : BgStep s (flushStep s)
  | reflect (s : State) (n : Nat) (sizes : List Nat) : BgStep s (reflectOn s n sizes)
  | hookRotate (s : State) : BgStep s (DBM.step s .rotate).1

theorem bgStep_sameMap (s s' : State) (h : Inv s) (hb : BgStep s s') : SameMap s s' := by
  cases hb with
  | addReader => exact flushStep_sameMap s h
  | reflect n sizes => exact (reflectOn_retabled s n sizes).sameMap h
  | hookRotate => exact internal_step s h .rotate trivial

theorem bgStep_rel {s s' : State} (hb : BgStep s s') (sp : Spec) (h : Rel s sp) : Rel s' sp :=
  (bgStep_sameMap s s' h.inv hb).rel h

theorem bg_steps_preserve_abs (steps : List Step) (s' : State) (hb : BgStep (runState {} steps) s') (k : Key) :
    abs s' k = abs (runState {} steps) k ∧ DBM.get s' k = DBM.get (runState {} steps) k :=
  have h := bgStep_sameMap _ s' (reach_inv steps) hb
  ⟨h.m k, h.get k⟩

/-- what may happen to the database state while a reader is between its two halves: only `addReader`
(other readers' steps do not change the state) -/
inductive ReaderMay : State → State → Prop where
  | refl (s : State) : ReaderMay s s
  | addReader (s s' : State) : ReaderMay s s' → ReaderMay s (flushStep s')

theorem readerMay_mem (s s' : State) (h : ReaderMay s s') : s'.w = s.w ∧ s'.r = s.r := by
  induction h with
  | refl => exact ⟨rfl, rfl⟩
  | addReader s' _ ih => exact ⟨(flushStep_w s').trans ih.1, (flushStep_r s').trans ih.2⟩

theorem readerMay_sameMap (s s' : State) (hi : Inv s) (h : ReaderMay s s') : SameMap s s' := by
  induction h with
  | refl => exact rel_self _ hi
  | addReader s' _ ih => exact (flushStep_sameMap s' ih.inv).rel ih

theorem readMemRes_same (snap cur : State) (k : Key) (hw : cur.w = snap.w) (hr : cur.r = snap.r) :
    readMemRes snap cur k = DBM.get snap k := by
  unfold readMemRes
  rw [hw, hr]

theorem get_two_phase_ok (steps : List Step) (s' : State) (k : Key)
    (hm : ReaderMay (runState {} steps) s') :
    let s := runState {} steps
    readMemRes s s' k = DBM.get s k ∧
    readMemRes s s' k = DBM.get s' k ∧
    readMemRes s s' k = (if (!s.isOpen || s.closed) = true then .notOpen else
      match abs s k with | some v => .value v | none => .notFound) := by
  intro s
  obtain ⟨hw, hr⟩ := readerMay_mem s s' hm
  have h1 := readMemRes_same s s' k hw hr
  exact ⟨h1, h1.trans ((readerMay_sameMap s s' (reach_inv steps) hm).get k).symm, h1.trans (get_abs s k)⟩

theorem specOpsSt_append (sp : Spec) (l : List Op) (o : Op) :
    specOpsSt sp (l ++ [o]) =
      ((specOp (specOpsSt sp l).1 o).1, (specOpsSt sp l).2 ++ [(specOp (specOpsSt sp l).1 o).2]) := by
  induction l generalizing sp with
  | nil => rfl
  | cons a l ih => exact congrArg (fun p => (p.1, (specOp sp a).2 :: p.2)) (ih (specOp sp a).1)

/-- The invariant of a run: the effect log `effs` (newest first, at most one entry per invocation, each at a position
inside its call's interval) replays on the reference map to the logged answers (`spec`), and every thread state and every
history entry that carries an answer points at its log entry. -/
structure WF (sp0 : Spec) (c : Conf) : Prop where
  /-- the effect log, run sequentially on the reference map, gives the logged answers and ends in a map the
  database state stands for -/
  spec : ∃ sp, Rel c.db sp ∧ specOpsSt sp0 (c.effs.reverse.map (·.op)) = (sp, c.effs.reverse.map (·.res))
  bounds : ∀ e ∈ c.effs, e.inv < e.pos ∧ e.pos < c.now
  sorted : c.effs.Pairwise (fun a b => b.pos < a.pos)
  nodup : c.effs.Pairwise (fun a b => a.inv ≠ b.inv)
  called : ∀ e ∈ c.effs, (⟨e.thread, e.op, e.inv⟩ : Call) ∈ c.calls
  clNow : ∀ t i, (c.cl t).inv? = some i → i < c.now
  clDistinct : ∀ t t' i, (c.cl t).inv? = some i → (c.cl t').inv? = some i → t = t'
  fresh : ∀ t op i, c.cl t = .invoked op i → ∀ e ∈ c.effs, e.inv ≠ i
  pend : ∀ t op i, c.cl t = .invoked op i → (⟨t, op, i⟩ : Call) ∈ c.calls
  reading : ∀ t k i snap, c.cl t = .reading k i snap →
      t ∈ c.rlock ∧ c.db.w = snap.w ∧ c.db.r = snap.r ∧
        ∃ p, (⟨t, .get k, i, p, DBM.get snap k⟩ : Eff) ∈ c.effs
  done : ∀ t op i r, c.cl t = .done op i r → ∃ p, (⟨t, op, i, p, r⟩ : Eff) ∈ c.effs
  hist : ∀ h ∈ c.hist, ∃ p, (⟨h.thread, h.op, h.inv, p, h.res⟩ : Eff) ∈ c.effs ∧ p < h.resp ∧ h.resp < c.now

theorem setCl_same (c : Conf) (t : Nat) (st : CState) : c.setCl t st t = st := by simp [Conf.setCl]

theorem setCl_other (c : Conf) (t x : Nat) (st : CState) (h : x ≠ t) : c.setCl t st x = c.cl x := by
  simp [Conf.setCl, h]

/-- a thread's state after thread `t` moved: the new state of `t`, or what it was -/
theorem setCl_cases {c : Conf} {t x : Nat} {st y : CState} (h : c.setCl t st x = y) :
    (x = t ∧ st = y) ∨ (x ≠ t ∧ c.cl x = y) := by
  by_cases hx : x = t
  · exact .inl ⟨hx, by rw [← h, hx, setCl_same]⟩
  · exact .inr ⟨hx, by rw [← h, setCl_other _ _ _ _ hx]⟩

/-- a thread found in another kind of state than the one `t` moved to is not `t` -/
theorem setCl_of_ne {c : Conf} {t x : Nat} {st y : CState} (h : c.setCl t st x = y) (hne : st ≠ y) :
    x ≠ t ∧ c.cl x = y :=
  (setCl_cases h).resolve_left fun h' => hne h'.2

theorem wf_init (s0 : State) (h : Inv s0) : WF (specOf s0) (init s0) where
  spec := ⟨specOf s0, rel_self s0 h, rfl⟩
  bounds := fun _ he => nomatch he
  sorted := .nil
  nodup := .nil
  called := fun _ he => nomatch he
  clNow := fun _ _ hi => nomatch hi
  clDistinct := fun _ _ _ hi => nomatch hi
  fresh := fun _ _ _ hi => nomatch hi
  pend := fun _ _ _ hi => nomatch hi
  reading := fun _ _ _ _ hi => nomatch hi
  done := fun _ _ _ _ hi => nomatch hi
  hist := fun _ he => nomatch he

theorem WF.bounds_succ {sp0 : Spec} {c : Conf} (h : WF sp0 c) :
    ∀ e ∈ c.effs, e.inv < e.pos ∧ e.pos < c.now + 1 :=
  fun e he => ⟨(h.bounds e he).1, Nat.lt_succ_of_lt (h.bounds e he).2⟩

/-- completed calls stay logged when the effect log only grows -/
theorem WF.hist_succ {sp0 : Spec} {c : Conf} (h : WF sp0 c) (effs' : List Eff)
    (hsub : ∀ e ∈ c.effs, e ∈ effs') :
    ∀ x ∈ c.hist, ∃ p, (⟨x.thread, x.op, x.inv, p, x.res⟩ : Eff) ∈ effs' ∧ p < x.resp ∧ x.resp < c.now + 1 :=
  fun x hx =>
    let ⟨p, h1, h2, h3⟩ := h.hist x hx
    ⟨p, hsub _ h1, h2, Nat.lt_succ_of_lt h3⟩

/-- the thread that moves stays in its call, leaves it, or starts the call with index `now`: invocation indices
stay below `now` and distinct -/
theorem WF.cl_succ {sp0 : Spec} {c : Conf} (h : WF sp0 c) (t : Nat) (st : CState)
    (hst : ∀ j, st.inv? = some j → (c.cl t).inv? = some j ∨ j = c.now) :
    (∀ x j, (c.setCl t st x).inv? = some j → j < c.now + 1) ∧
    (∀ x y j, (c.setCl t st x).inv? = some j → (c.setCl t st y).inv? = some j → x = y) := by
  have hinv : ∀ x j, (c.setCl t st x).inv? = some j → (x = t ∧ j = c.now) ∨ (c.cl x).inv? = some j := by
    intro x j hj
    by_cases hx : x = t
    · rw [hx, setCl_same] at hj
      exact (hst j hj).symm.imp (fun e => ⟨hx, e⟩) (fun e => hx ▸ e)
    · rw [setCl_other _ _ _ _ hx] at hj
      exact .inr hj
  refine ⟨fun x j hj => ?_, fun x y j hx hy => ?_⟩
  · rcases hinv x j hj with (⟨_, e⟩ | h')
    · exact e ▸ Nat.lt_succ_self _
    · exact Nat.lt_succ_of_lt (h.clNow x j h')
  · -- an index in use is below `now`
    rcases hinv x j hx with (⟨ex, ej⟩ | hx') <;> rcases hinv y j hy with (⟨ey, ej'⟩ | hy')
    · rw [ex, ey]
    · exact absurd (h.clNow y j hy') (ej ▸ Nat.lt_irrefl _)
    · exact absurd (h.clNow x j hx') (ej' ▸ Nat.lt_irrefl _)
    · exact h.clDistinct x y j hx' hy'

/-- a step that no client sees: the database stands for the same map afterwards, and the memstore pair is left
alone unless nobody holds the read lock -/
theorem wf_bg (sp0 : Spec) (c : Conf) (h : WF sp0 c) (db' : State) (comp' : Option (Nat × List Nat))
    (hb : ∀ sp, Rel c.db sp → Rel db' sp) (hm : (db'.w = c.db.w ∧ db'.r = c.db.r) ∨ c.rlock = []) :
    WF sp0 { c with db := db', comp := comp', now := c.now + 1 } :=
  { h with
    spec := by
      obtain ⟨sp, hr, hs⟩ := h.spec
      exact ⟨sp, hb sp hr, hs⟩
    bounds := h.bounds_succ
    clNow := fun t i hi => Nat.lt_succ_of_lt (h.clNow t i hi)
    reading := by
      intro t k i snap hi
      obtain ⟨h1, h2, h3, h4⟩ := h.reading t k i snap hi
      rcases hm with (⟨hw, hr⟩ | hn)
      · exact ⟨h1, hw.trans h2, hr.trans h3, h4⟩
      · rw [hn] at h1; exact absurd h1 (by simp)
    hist := h.hist_succ _ fun _ => id }

/-- logging the effect of the call thread `t` is in (its lock-protected step happens now) -/
theorem effs_append_ok (sp0 : Spec) (c : Conf) (h : WF sp0 c) (t : Nat) (op : Op) (i : Nat)
    (hcl : c.cl t = .invoked op i) (r : Res) :
    (∀ x ∈ (⟨t, op, i, c.now, r⟩ : Eff) :: c.effs, x.inv < x.pos ∧ x.pos < c.now + 1) ∧
    ((⟨t, op, i, c.now, r⟩ : Eff) :: c.effs).Pairwise (fun a b => b.pos < a.pos) ∧
    ((⟨t, op, i, c.now, r⟩ : Eff) :: c.effs).Pairwise (fun a b => a.inv ≠ b.inv) ∧
    (∀ x ∈ (⟨t, op, i, c.now, r⟩ : Eff) :: c.effs, (⟨x.thread, x.op, x.inv⟩ : Call) ∈ c.calls) := by
  have hi : i < c.now := h.clNow t i (by rw [hcl]; rfl)
  refine ⟨List.forall_mem_cons.2 ⟨⟨hi, Nat.lt_succ_self _⟩, h.bounds_succ⟩,
    List.pairwise_cons.2 ⟨fun a ha => (h.bounds a ha).2, h.sorted⟩,
    List.pairwise_cons.2 ⟨fun a ha => (h.fresh t op i hcl a ha).symm, h.nodup⟩,
    List.forall_mem_cons.2 ⟨h.pend t op i hcl, h.called⟩⟩

/-- another thread still waiting for its lock-protected step is not the one whose effect is logged now -/
theorem fresh_cons (sp0 : Spec) (c : Conf) (h : WF sp0 c) (t : Nat) (op : Op) (i : Nat)
    (hcl : c.cl t = .invoked op i) (r : Res) (t' : Nat) (ht : t' ≠ t) (op' : Op) (j : Nat)
    (hj : c.cl t' = .invoked op' j) : ∀ e ∈ (⟨t, op, i, c.now, r⟩ : Eff) :: c.effs, e.inv ≠ j :=
  List.forall_mem_cons.2 ⟨fun hij => ht (h.clDistinct t' t j (by rw [hj]; rfl) (by rw [hcl, ← hij]; rfl)),
    h.fresh t' op' j hj⟩

theorem spec_append_ok (sp0 : Spec) (c : Conf) (h : WF sp0 c) (e : Eff) (db' : State)
    (hstep : ∀ sp, Rel c.db sp → Rel db' (specOp sp e.op).1 ∧ e.res = (specOp sp e.op).2) :
    ∃ sp, Rel db' sp ∧
      specOpsSt sp0 ((e :: c.effs).reverse.map (·.op)) = (sp, (e :: c.effs).reverse.map (·.res)) := by
  obtain ⟨sp, hr, hs⟩ := h.spec
  obtain ⟨h1, h2⟩ := hstep sp hr
  refine ⟨(specOp sp e.op).1, h1, ?_⟩
  rw [List.reverse_cons, List.map_append, List.map_append, List.map_singleton, List.map_singleton,
    specOpsSt_append, hs, h2]

theorem wf_inv (sp0 : Spec) (c : Conf) (h : WF sp0 c) (t : Nat) (op : Op) (hcl : c.cl t = .idle) :
    WF sp0 { c with cl := c.setCl t (.invoked op c.now), calls := ⟨t, op, c.now⟩ :: c.calls,
                    now := c.now + 1 } := by
  obtain ⟨c1, c2⟩ := h.cl_succ t (.invoked op c.now) fun j hj => .inr (Option.some.inj hj).symm
  exact { h with
    bounds := h.bounds_succ
    called := fun e he => List.mem_cons_of_mem _ (h.called e he)
    clNow := c1
    clDistinct := c2
    fresh := by
      intro t' op' i hi e he
      rcases setCl_cases hi with (⟨_, hst⟩ | ⟨_, hi⟩)
      · cases hst; exact Nat.ne_of_lt (Nat.lt_trans (h.bounds e he).1 (h.bounds e he).2)
      · exact h.fresh t' op' i hi e he
    pend := by
      intro t' op' i hi
      rcases setCl_cases hi with (⟨rfl, hst⟩ | ⟨_, hi⟩)
      · cases hst; exact List.mem_cons_self
      · exact List.mem_cons_of_mem _ (h.pend t' op' i hi)
    reading := fun t' k i snap hi => h.reading t' k i snap (setCl_of_ne hi nofun).2
    done := fun t' op' i r hi => h.done t' op' i r (setCl_of_ne hi nofun).2
    hist := h.hist_succ _ fun _ => id }

/-- `write t rot`: the critical section of a put / delete -/
theorem wf_write (sp0 : Spec) (c : Conf) (h : WF sp0 c) (t : Nat) (op : Op) (i : Nat)
    (hcl : c.cl t = .invoked op i) (hrl : c.rlock = []) (db' : State) (r : Res)
    (hstep : ∀ sp, Rel c.db sp → Rel db' (specOp sp op).1 ∧ r = (specOp sp op).2) :
    WF sp0 { c with db := db', cl := c.setCl t (.done op i r),
                    effs := ⟨t, op, i, c.now, r⟩ :: c.effs, now := c.now + 1 } := by
  obtain ⟨e1, e2, e3, e4⟩ := effs_append_ok sp0 c h t op i hcl r
  obtain ⟨c1, c2⟩ := h.cl_succ t (.done op i r) (fun j hj => .inl (by rw [hcl]; exact hj))
  exact {
    spec := spec_append_ok sp0 c h ⟨t, op, i, c.now, r⟩ db' hstep
    bounds := e1
    sorted := e2
    nodup := e3
    called := e4
    clNow := c1
    clDistinct := c2
    fresh := fun t' op' j hj =>
      have ⟨ht, hj⟩ := setCl_of_ne hj nofun
      fresh_cons sp0 c h t op i hcl r t' ht op' j hj
    pend := fun t' op' j hj => h.pend t' op' j (setCl_of_ne hj nofun).2
    -- nobody is between the two halves of a get while the write lock is held
    reading := fun t' k j snap hj =>
      absurd (hrl ▸ (h.reading t' k j snap (setCl_of_ne hj nofun).2).1) List.not_mem_nil
    done := by
      intro t' op' j r' hj
      rcases setCl_cases hj with (⟨rfl, hst⟩ | ⟨_, hj⟩)
      · cases hst; exact ⟨c.now, List.mem_cons_self⟩
      · exact (h.done t' op' j r' hj).imp fun p hp => List.mem_cons_of_mem _ hp
    hist := h.hist_succ _ fun _ => List.mem_cons_of_mem _ }

/-- `readTables t`: the first half of a get -/
theorem wf_readTables (sp0 : Spec) (c : Conf) (h : WF sp0 c) (t : Nat) (k : Key) (i : Nat)
    (hcl : c.cl t = .invoked (.get k) i) :
    WF sp0 { c with cl := c.setCl t (.reading k i c.db), rlock := t :: c.rlock,
                    effs := ⟨t, .get k, i, c.now, DBM.get c.db k⟩ :: c.effs, now := c.now + 1 } := by
  obtain ⟨e1, e2, e3, e4⟩ := effs_append_ok sp0 c h t (.get k) i hcl (DBM.get c.db k)
  obtain ⟨c1, c2⟩ := h.cl_succ t (.reading k i c.db) (fun j hj => .inl (by rw [hcl]; exact hj))
  exact {
    spec := spec_append_ok sp0 c h ⟨t, .get k, i, c.now, DBM.get c.db k⟩ c.db
      (fun sp hr => ⟨hr, get_sim c.db sp hr k⟩)
    bounds := e1
    sorted := e2
    nodup := e3
    called := e4
    clNow := c1
    clDistinct := c2
    fresh := fun t' op' j hj =>
      have ⟨ht, hj⟩ := setCl_of_ne hj nofun
      fresh_cons sp0 c h t (.get k) i hcl _ t' ht op' j hj
    pend := fun t' op' j hj => h.pend t' op' j (setCl_of_ne hj nofun).2
    reading := by
      intro t' k' j snap hj
      rcases setCl_cases hj with (⟨rfl, hst⟩ | ⟨_, hj⟩)
      · cases hst; exact ⟨List.mem_cons_self, rfl, rfl, c.now, List.mem_cons_self⟩
      · obtain ⟨h1, h2, h3, p, hp⟩ := h.reading t' k' j snap hj
        exact ⟨List.mem_cons_of_mem _ h1, h2, h3, p, List.mem_cons_of_mem _ hp⟩
    done := fun t' op' j r' hj =>
      (h.done t' op' j r' (setCl_of_ne hj nofun).2).imp fun p hp => List.mem_cons_of_mem _ hp
    hist := h.hist_succ _ fun _ => List.mem_cons_of_mem _ }

/-- `readMem t`: the second half of a get returns what the first half's position promised -/
theorem wf_readMem (sp0 : Spec) (c : Conf) (h : WF sp0 c) (t : Nat) (k : Key) (i : Nat) (snap : State)
    (hcl : c.cl t = .reading k i snap) :
    WF sp0 { c with cl := c.setCl t (.done (.get k) i (readMemRes snap c.db k)),
                    rlock := c.rlock.filter (· != t), now := c.now + 1 } := by
  obtain ⟨c1, c2⟩ := h.cl_succ t (.done (.get k) i (readMemRes snap c.db k)) (fun j hj => .inl (by rw [hcl]; exact hj))
  exact { h with
    bounds := h.bounds_succ
    clNow := c1
    clDistinct := c2
    fresh := fun t' op' j hj => h.fresh t' op' j (setCl_of_ne hj nofun).2
    pend := fun t' op' j hj => h.pend t' op' j (setCl_of_ne hj nofun).2
    reading := by
      intro t' k' j snap' hj
      obtain ⟨ht, hj⟩ := setCl_of_ne hj nofun
      obtain ⟨h1, h2⟩ := h.reading t' k' j snap' hj
      exact ⟨List.mem_filter.2 ⟨h1, by simpa using ht⟩, h2⟩
    done := by
      intro t' op' j r' hj
      rcases setCl_cases hj with (⟨rfl, hst⟩ | ⟨_, hj⟩)
      · cases hst
        obtain ⟨_, hw, hr, p, hp⟩ := h.reading t' k i snap hcl
        rw [readMemRes_same snap c.db k hw hr]
        exact ⟨p, hp⟩
      · exact h.done t' op' j r' hj
    hist := h.hist_succ _ fun _ => id }

theorem wf_resp (sp0 : Spec) (c : Conf) (h : WF sp0 c) (t : Nat) (op : Op) (i : Nat) (r : Res)
    (hcl : c.cl t = .done op i r) :
    WF sp0 { c with cl := c.setCl t .idle, hist := ⟨t, op, i, c.now, r⟩ :: c.hist, now := c.now + 1 } := by
  obtain ⟨c1, c2⟩ := h.cl_succ t .idle (fun j hj => by cases hj)
  exact { h with
    bounds := h.bounds_succ
    clNow := c1
    clDistinct := c2
    fresh := fun t' op' j hj => h.fresh t' op' j (setCl_of_ne hj nofun).2
    pend := fun t' op' j hj => h.pend t' op' j (setCl_of_ne hj nofun).2
    reading := fun t' k' j snap' hj => h.reading t' k' j snap' (setCl_of_ne hj nofun).2
    done := fun t' op' j r' hj => h.done t' op' j r' (setCl_of_ne hj nofun).2
    hist := by
      obtain ⟨p, hp⟩ := h.done t op i r hcl
      exact List.forall_mem_cons.2 ⟨⟨p, hp, (h.bounds _ hp).2, Nat.lt_succ_self _⟩, h.hist_succ _ fun _ => id⟩ }

theorem isEmpty_false_eq_nil {α : Type} (l : List α) (h : ¬ ((!l.isEmpty) = true)) : l = [] := by
  cases l with
  | nil => rfl
  | cons _ _ => simp at h

theorem step_wf (sp0 : Spec) (c c' : Conf) (ev : Ev) (h : WF sp0 c) (hs : step? c ev = some c') :
    WF sp0 c' := by
  cases ev <;> dsimp only [step?] at hs
  case inv t op =>
    split at hs
    next hcl =>
      cases hs
      exact wf_inv sp0 c h t op hcl
    next => cases hs
  case write t rot =>
    split at hs
    next => cases hs
    next hrl =>
      have hrl' := isEmpty_false_eq_nil _ hrl
      split at hs
      next k v i hcl =>
        cases hs
        exact wf_write sp0 c h t (.put k v) i hcl hrl' _ _ fun sp hr => put_sim c.db sp hr k v rot
      next k i hcl =>
        cases hs
        exact wf_write sp0 c h t (.del k) i hcl hrl' _ _ fun sp hr => del_sim c.db sp hr k
      next => cases hs
  case readTables t =>
    split at hs
    next k i hcl =>
      cases hs
      exact wf_readTables sp0 c h t k i hcl
    next => cases hs
  case readMem t =>
    split at hs
    next k i snap hcl =>
      cases hs
      exact wf_readMem sp0 c h t k i snap hcl
    next => cases hs
  case resp t =>
    split at hs
    next op i r hcl =>
      cases hs
      exact wf_resp sp0 c h t op i r hcl
    next => cases hs
  case hookRotate =>
    split at hs
    next => cases hs
    next hrl =>
      cases hs
      exact wf_bg sp0 c h _ c.comp (bgStep_rel (.hookRotate c.db)) (.inr (isEmpty_false_eq_nil _ hrl))
  case addReader =>
    cases hs
    exact wf_bg sp0 c h _ c.comp (bgStep_rel (.addReader c.db)) (.inl ⟨flushStep_w c.db, flushStep_r c.db⟩)
  case select sizes =>
    split at hs
    next =>
      cases hs
      -- nothing but the compactor's private state changes
      exact wf_bg sp0 c h c.db _ (fun _ hr => hr) (.inl ⟨rfl, rfl⟩)
    next => cases hs
  case reflect =>
    split at hs
    next => cases hs
    next hrl =>
      split at hs
      next n sizes hcomp =>
        cases hs
        exact wf_bg sp0 c h _ none (bgStep_rel (.reflect c.db n sizes)) (.inr (isEmpty_false_eq_nil _ hrl))
      next => cases hs

theorem run_wf (sp0 : Spec) (sched : Sched) (c c' : Conf) (h : WF sp0 c) (hr : Conc.run c sched = some c') :
    WF sp0 c' := by
  induction sched generalizing c with
  | nil => cases hr; exact h
  | cons e es ih =>
    simp only [Conc.run] at hr
    split at hr
    · rename_i c1 hs
      exact ih c1 (step_wf sp0 c c1 e h hs) hr
    · cases hr

def effW (e : Eff) : WEntry := ⟨e.thread, e.op, e.inv, e.res⟩

theorem witness_of_wf (sp0 : Spec) (c : Conf) (h : WF sp0 c) :
    IsWitness sp0 c.calls.reverse c.hist.reverse (c.effs.reverse.map effW) where
  called := by
    intro e he
    obtain ⟨x, hx, rfl⟩ := List.mem_map.1 he
    exact List.mem_reverse.2 (h.called x (List.mem_reverse.1 hx))
  nodup := by
    rw [List.pairwise_map, List.pairwise_reverse]
    exact h.nodup.imp (fun hab => Ne.symm hab)
  complete := by
    intro e he
    obtain ⟨p, hp, _⟩ := h.hist e (List.mem_reverse.1 he)
    exact ⟨_, List.mem_map.2 ⟨_, List.mem_reverse.2 hp, rfl⟩, rfl, rfl, rfl, rfl⟩
  realtime := by
    rw [List.pairwise_map, List.pairwise_reverse]
    refine h.sorted.imp_of_mem ?_
    intro b a hb ha hab e he hinv
    -- `b` is newer than `a`: in the witness `a` stands before `b`
    obtain ⟨p, hp, hp2, _⟩ := h.hist e (List.mem_reverse.1 he)
    have : (⟨e.thread, e.op, e.inv, p, e.res⟩ : Eff) = b :=
      eq_of_key_eq (·.inv) h.nodup hp hb hinv
    subst this
    exact Nat.lt_asymm (Nat.lt_trans (h.bounds a ha).1 (Nat.lt_trans hab hp2))
  legal := by
    obtain ⟨sp, _, hs⟩ := h.spec
    rw [List.map_map, List.map_map]
    exact congrArg Prod.snd hs

theorem linearizable (steps : List Step) (sched : Sched) (calls : List Call) (hist : List HEntry)
    (h : exec (runState {} steps) sched = some (calls, hist)) :
    ∃ w, IsWitness (specOf (runState {} steps)) calls hist w := by
  unfold exec at h
  cases hr : Conc.run (init (runState {} steps)) sched with
  | none => rw [hr] at h; cases h
  | some c =>
    rw [hr] at h
    simp only [Option.map_some, Option.some.injEq, Prod.mk.injEq] at h
    obtain ⟨h1, h2⟩ := h
    subst h1 h2
    exact ⟨_, witness_of_wf _ c (run_wf _ sched _ c (wf_init _ (reach_inv steps)) hr)⟩

theorem specOpsSt_gets (sp : Spec) (ops : List Op) (hg : ∀ o ∈ ops, ∃ k, o = .get k) :
    specOpsSt sp ops = (sp, ops.map fun o => (specOp sp o).2) := by
  induction ops with
  | nil => rfl
  | cons o ops ih =>
    obtain ⟨k, rfl⟩ := hg _ List.mem_cons_self
    have e := ih (fun o ho => hg o (List.mem_cons_of_mem _ ho))
    show ((specOpsSt sp ops).1, specGet sp k :: (specOpsSt sp ops).2) = _
    rw [e]
    rfl

theorem gets_only (steps : List Step) (sched : Sched) (calls : List Call) (hist : List HEntry)
    (h : exec (runState {} steps) sched = some (calls, hist))
    (hg : ∀ c ∈ calls, ∃ k, c.op = .get k) :
    ∀ e ∈ hist, ∃ k, e.op = .get k ∧ e.res = DBM.get (runState {} steps) k := by
  obtain ⟨w, hw⟩ := linearizable steps sched calls hist h
  have hget : ∀ x ∈ w, ∃ k, x.op = Op.get k := fun x hx => hg _ (hw.called x hx)
  have hl := hw.legal
  unfold specOps at hl
  rw [specOpsSt_gets _ _ (List.forall_mem_map.2 hget), List.map_map] at hl
  intro e he
  obtain ⟨x, hx, _, h2, _, h4⟩ := hw.complete e he
  obtain ⟨k, hk⟩ := hget x hx
  refine ⟨k, h2 ▸ hk, ?_⟩
  rw [← h4, ← List.map_inj_left.1 hl x hx]
  show (specOp _ x.op).2 = _
  rw [hk]
  exact (get_sim _ _ (rel_self _ (reach_inv steps)) k).symm

end SST.Proofs.Conc
