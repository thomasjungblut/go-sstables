/-
Round trip of the WAL record encoding: what `PutBytes` / `DeleteBytes` marshal is unmarshalled and dispatched
by the recovery callback to the same mutation.
-/
import SST.Model.WalMutation
import SST.Proofs.Proto
namespace SST.Proofs.WalMut
open SST SST.FS SST.WalMut SST.Proofs.Pb

/-- key and value lengths (and hence the nested message) fit the 64-bit length fields -/
def MutFits : Mutation → Prop
  | .put k v => k.length + v.length + 22 < 2 ^ 64
  | .del k => k.length + 11 < 2 ^ 64

theorem dec_msgField (num : Nat) (inner : Bytes) (hs : walSchema num = some .bytes) (h1 : 1 ≤ num)
    (h2 : num ≤ 536870911) (hl : inner.length < 2 ^ 64) :
    pbDecode walSchema (pbMsgField num inner) = ([(num, .bytes inner)], none) := by
  apply dec_pbDecode
  rw [← List.append_nil (pbMsgField num inner)]
  exact dec_lenField hs h1 h2 hl (dec_nil _ _)

/- the decoded fields in the shape `dec_bytes` builds them, starting from the empty accumulator -/
def upsertFields (k v : Bytes) : PbFields := [] ++ optB 3 k ++ optB 4 v
def tombstoneFields (k : Bytes) : PbFields := [] ++ optB 2 k

theorem dec_encUpsert (k v : Bytes) (hk : k.length < 2 ^ 64) (hv : v.length < 2 ^ 64) :
    pbDecode upsertSchema (encUpsert k v) = (upsertFields k v, none) := by
  apply dec_pbDecode
  have e : encUpsert k v = pbBytesField 3 k ++ (pbBytesField 4 v ++ []) := by simp [encUpsert]
  rw [e]
  apply dec_bytes rfl (by decide) (by decide) hk
  apply dec_bytes rfl (by decide) (by decide) hv
  exact dec_nil _ _

theorem dec_encTombstone (k : Bytes) (hk : k.length < 2 ^ 64) :
    pbDecode tombstoneSchema (encTombstone k) = (tombstoneFields k, none) := by
  apply dec_pbDecode
  have e : encTombstone k = pbBytesField 2 k ++ [] := by simp [encTombstone]
  rw [e]
  apply dec_bytes rfl (by decide) (by decide) hk
  exact dec_nil _ _

theorem stringsOk_optB (utf8 : Bytes → Bool) (strs : List Nat) (num : Nat) (b : Bytes)
    (h : strs.contains num = false) : stringsOk utf8 strs (optB num b) = true := by
  unfold optB stringsOk
  split
  · rfl
  · have : num ∉ strs := by simpa using h
    simp [this]

theorem stringsOk_append (utf8 : Bytes → Bool) (strs : List Nat) (a b : PbFields) :
    stringsOk utf8 strs (a ++ b) = (stringsOk utf8 strs a && stringsOk utf8 strs b) := by
  simp [stringsOk, List.all_append]

/-- `Unmarshal ∘ Marshal` of an upsert: the oneof holds an `UpsertMutation` with exactly the non-empty bytes fields -/
theorem decode_encode_put (utf8 : Bytes → Bool) (k v : Bytes) (h : MutFits (.put k v)) :
    decWalMutation utf8 (encPut k v) = .ok (.add (upsertFields k v)) := by
  simp only [MutFits] at h
  have hk : k.length < 2 ^ 64 := by omega
  have hv : v.length < 2 ^ 64 := by omega
  have hl : (encUpsert k v).length < 2 ^ 64 := by
    have a := pbBytesField_len_le 3 k (by decide) hk
    have b := pbBytesField_len_le 4 v (by decide) hv
    simp only [encUpsert, List.length_append]; omega
  unfold decWalMutation encPut
  rw [dec_msgField 1 _ rfl (by decide) (by decide) hl]
  have hs : stringsOk utf8 [1, 2] (upsertFields k v) = true := by
    simp only [upsertFields, stringsOk_append, stringsOk_optB utf8 [1, 2] 3 k (by decide),
      stringsOk_optB utf8 [1, 2] 4 v (by decide)]
    rfl
  simp only [List.foldl_cons, List.foldl_nil, oneofStep, dec_encUpsert k v hk hv, hs, if_true]

/-- `Unmarshal ∘ Marshal` of a tombstone (the empty key included: `12 00`) -/
theorem decode_encode_del_oneof (utf8 : Bytes → Bool) (k : Bytes) (h : MutFits (.del k)) :
    decWalMutation utf8 (encDel k) = .ok (.del (tombstoneFields k)) := by
  simp only [MutFits] at h
  have hk : k.length < 2 ^ 64 := by omega
  have hl : (encTombstone k).length < 2 ^ 64 := by
    have a := pbBytesField_len_le 2 k (by decide) hk
    simp only [encTombstone]; omega
  unfold decWalMutation encDel
  rw [dec_msgField 2 _ rfl (by decide) (by decide) hl]
  have hs : stringsOk utf8 [1] (tombstoneFields k) = true := by
    simp only [tombstoneFields, stringsOk_append, stringsOk_optB utf8 [1] 2 k (by decide)]
    rfl
  simp only [List.foldl_cons, List.foldl_nil, oneofStep, dec_encTombstone k hk, hs, if_true]
  rfl

theorem get_optB_self (num : Nat) (b : Bytes) : pbGetBytes ([] ++ optB num b) num = normKey b := by
  simp only [pbGetBytes_optB, pbGetBytes_nil, normKey]
  by_cases h : b.length = 0 <;> simp [h]

/-- a tombstone replays as the deletion of its key — for EVERY key, the empty one included -/
theorem decode_encode_del (utf8 : Bytes → Bool) (k : Bytes) (h : MutFits (.del k)) :
    replayRecord utf8 (some (encDel k)) = .ok (.mut (.del k)) := by
  unfold replayRecord
  simp only [Option.getD_some, decode_encode_del_oneof utf8 k h, dispatch, tombstoneFields]
  rw [get_optB_self]
  by_cases hk : k.length = 0
  · have : k = [] := List.eq_nil_of_length_eq_zero hk
    subst this
    simp [normKey, strField, pbGetBytes, optB]
  · simp [normKey, hk]

theorem get_upsertFields (k v : Bytes) :
    pbGetBytes (upsertFields k v) 3 = normKey k ∧ pbGetBytes (upsertFields k v) 4 = normKey v := by
  simp only [upsertFields, pbGetBytes_optB, pbGetBytes_nil, normKey]
  by_cases hk : k.length = 0 <;> by_cases hv : v.length = 0 <;> simp [hk, hv]

theorem normKey_of_ne {k : Bytes} (h : k ≠ []) : normKey k = some k :=
  if_neg fun h0 => h (List.eq_nil_of_length_eq_zero h0)

/-- an upsert with non-empty key and value (all that `PutBytes` logs) replays as that upsert -/
theorem replay_put (utf8 : Bytes → Bool) (k v : Bytes) (h : MutFits (.put k v)) (hk : k ≠ []) (hv : v ≠ []) :
    replayRecord utf8 (some (encPut k v)) = .ok (.mut (.put k v)) := by
  unfold replayRecord
  simp only [Option.getD_some, decode_encode_put utf8 k v h, dispatch, get_upsertFields, normKey_of_ne hk,
    normKey_of_ne hv]

/-- the mutations `PutBytes`/`DeleteBytes` log: non-empty key and value for upserts, any key for tombstones -/
def Loggable : Mutation → Prop
  | .put k v => k ≠ [] ∧ v ≠ []
  | .del _ => True

theorem replay_encMutation (utf8 : Bytes → Bool) (m : Mutation) (hf : MutFits m) (hl : Loggable m) :
    replayRecord utf8 (some (encMutation m)) = .ok (.mut m) := by
  cases m with
  | put k v => exact replay_put utf8 k v hf hl.1 hl.2
  | del k => exact decode_encode_del utf8 k hf

theorem replayRecords_enc (utf8 : Bytes → Bool) (ms : List Mutation)
    (h : ∀ m ∈ ms, MutFits m ∧ Loggable m) :
    replayRecords utf8 (ms.map fun m => some (encMutation m)) = some ms := by
  induction ms with
  | nil => rfl
  | cons m ms ih =>
    rw [List.forall_mem_cons] at h
    simp only [List.map_cons, replayRecords, replay_encMutation utf8 m h.1.1 h.1.2, ih h.2]
    rfl

end SST.Proofs.WalMut
