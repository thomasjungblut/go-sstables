/-
L3 assembled: the stacked reader, `Merge` and `MergeCompact` against the overlay spec (C08).
-/
import SST.Proofs.MergeGroup
import SST.Proofs.MergeLoops
namespace SST.Proofs.Merge
open SST SST.Merge PQ SST.Proofs.FH SST.Proofs.PQB SST.Proofs.MergeOrd SST.Proofs.MergeSpec
open SST.Proofs.MergeGroup SST.Proofs.MergeLoops

theorem toItems_nonDesc {t : Table} (ha : Asc t) : NonDesc goCmp (toItems t) := by
  unfold NonDesc toItems
  rw [List.pairwise_map]
  apply List.Pairwise.imp _ ha
  intro a b hab
  simp only [goCmp_nk, nk_pbKey]
  rw [hab]; simp

theorem scans_nonDesc {Ss : List Table} (hts : ∀ t ∈ Ss, Asc t) : ∀ l ∈ Ss.map toItems, NonDesc goCmp l := by
  intro l hl
  obtain ⟨t, ht, rfl⟩ := List.mem_map.mp hl
  exact toItems_nonDesc (hts t ht)

theorem normAll_tagged (Ss : List Table) : normAll (tagged (Ss.map toItems)) = tagged Ss := by
  have h : (fun p : Table × Nat => normAll (tagOf (Prod.map toItems id p))) = tagOf := by
    funext ⟨t, i⟩
    show ((toItems t).map _).map _ = _
    rw [List.map_map, toItems, List.map_map]
    exact List.map_congr_left fun q _ => by simp [nk_pbKey]
  rw [tagged_eq, tagged_eq, List.zipIdx_map, List.flatMap_map, normAll, List.map_flatMap]
  exact congrArg (List.flatMap · _) h

theorem tagged_records (Ss : List Table) : (tagged Ss).map (fun x => (x.1, x.2.1)) = Ss.flatten := by
  rw [tagged_eq, List.map_flatMap]
  simp only [tagOf, List.map_map, Function.comp_def, List.map_id']
  rw [List.flatMap_def, List.zipIdx_map_fst]

/-- `pq_sorted_merge` for tables: the complete merge of the tables' scans, keys normalised, is a sorted permutation
of the tables' records numbered by table -/
theorem drain_tagged (Ss : List Table) (hts : ∀ t ∈ Ss, Asc t) :
    (normAll (PQ.drain goCmp (Ss.map toItems))).Pairwise (fun a b => bytesCmp a.1 b.1 ≠ .gt) ∧
    (normAll (PQ.drain goCmp (Ss.map toItems))).Perm (tagged Ss) := by
  obtain ⟨hs, hp⟩ := pq_sorted_merge goCmp goCmp_lawful (Ss.map toItems) (scans_nonDesc hts)
  exact ⟨List.pairwise_map.mpr hs, normAll_tagged Ss ▸ hp.map _⟩

theorem mergedFrom_drain (Ss : List Table) (hts : ∀ t ∈ Ss, Asc t) :
    MergedFrom Ss (normAll (PQ.drain goCmp (Ss.map toItems))) :=
  ⟨(drain_tagged Ss hts).1, fun k v c => (drain_tagged Ss hts).2.mem_iff.trans (mem_tagged Ss k v c)⟩

theorem newestValue_append_single (xs : List Table) (t : Table) (k : Bytes) :
    newestValue (xs ++ [t]) k = (match tget t k with | some v => some v | none => newestValue xs k) := by
  induction xs with
  | nil => simp [newestValue]; cases tget t k <;> rfl
  | cons x xs ih =>
    simp only [List.cons_append, newestValue, ih]
    cases tget t k <;> rfl

theorem superGetAux_eq (l : List Table) (k : Bytes) :
    superGetAux l k = (match newestValue l.reverse k with | some v => .ok v | none => .error .notFound) := by
  induction l with
  | nil => simp [superGetAux, newestValue]
  | cons t older ih =>
    simp only [superGetAux, List.reverse_cons, newestValue_append_single, tableGet]
    cases tget t k with
    | some v => rfl
    | none => simp [ih]

theorem superContainsAux_eq (l : List Table) (k : Bytes) :
    superContainsAux l k = .ok (newestValue l.reverse k).isSome := by
  induction l with
  | nil => simp [superContainsAux, newestValue]
  | cons t older ih =>
    simp only [superContainsAux, List.reverse_cons, newestValue_append_single, tableContains]
    cases tget t k with
    | some v => rfl
    | none => simp [ih]

theorem super_get (ts : List Table) (hts : ∀ t ∈ ts, Asc t) (k : Bytes) :
    superGet ts k = (match tget (overlay ts) k with | some v => .ok v | none => .error .notFound) := by
  unfold superGet
  rw [superGetAux_eq, List.reverse_reverse, tget_overlay hts]

theorem super_contains (ts : List Table) (hts : ∀ t ∈ ts, Asc t) (k : Bytes) :
    superContains ts k = .ok (tget (overlay ts) k).isSome := by
  unfold superContains
  rw [superContainsAux_eq, List.reverse_reverse, tget_overlay hts]

theorem inputOf_clean (scans : List (List Item)) : ∀ i ∈ scans.map inputOf, i.endErr = none := by
  intro i hi
  obtain ⟨s, _, rfl⟩ := List.mem_map.mp hi
  rfl

theorem inputOf_items (scans : List (List Item)) : (scans.map inputOf).map FInput.items = scans := by
  rw [List.map_map]
  exact List.map_id'' (fun _ => rfl) _

theorem superIterate_eq (Ss : List Table) (hts : ∀ t ∈ Ss, Asc t) :
    superIterate (Ss.map toItems) = .ok (asItems (live (overlay Ss))) := by
  have hs := (source_clean goCmp_lawful (inputOf_clean (Ss.map toItems))).2
  obtain ⟨s, hnew, hcol⟩ := mcCollect_source scanReduceLatestWins hs
  rw [inputOf_items, groupRunT_done] at hcol
  unfold superIterate
  simp only [hnew, hcol]
  have hm := mergedFrom_drain Ss hts
  exact congrArg _ ((compactOf_sorted lw_valReducer _ hm.sorted).trans (congrArg _ (groupTbl_lw hts hm)))

theorem mapM_ok {α β : Type} (f : α → Except Err β) (g : α → β) (h : ∀ a, f a = .ok (g a)) :
    ∀ l : List α, l.mapM f = .ok (l.map g) := by
  intro l
  induction l with
  | nil => rfl
  | cons a l ih =>
    rw [List.mapM_cons, h a, ih]
    rfl

theorem super_scan (ts : List Table) (hts : ∀ t ∈ ts, Asc t) :
    superScan ts = .ok (asItems (live (overlay ts))) := by
  unfold superScan
  rw [mapM_ok tableScan toItems (fun _ => rfl)]
  exact superIterate_eq ts hts

/-- scans restricted by a key predicate: restrict the overlay -/
theorem superIterate_filter (ts : List Table) (hts : ∀ t ∈ ts, Asc t) (F : Bytes → Bool) :
    superIterate (ts.map fun t => toItems (t.filter fun p => F p.1)) =
      .ok (asItems ((live (overlay ts)).filter fun p => F p.1)) := by
  have e := superIterate_eq _ (map_filter_asc hts fun p => F p.1)
  rw [overlay_map_filter hts F, filter_comm_live, List.map_map] at e
  exact e

theorem super_scanFrom (ts : List Table) (hts : ∀ t ∈ ts, Asc t) (k : Bytes) :
    superScanFrom ts k = .ok (asItems (fromKey (live (overlay ts)) k)) := by
  unfold superScanFrom
  rw [mapM_ok (tableScanFrom · k) (fun t => toItems (t.filter fun p => bytesCmp k p.1 != .gt)) (fun _ => rfl)]
  exact superIterate_filter ts hts fun x => bytesCmp k x != .gt

theorem super_scanRange (ts : List Table) (hts : ∀ t ∈ ts, Asc t) (lo hi : Bytes) :
    superScanRange ts lo hi =
      if bytesCmp lo hi = .gt ∧ ts ≠ [] then .error .rejected
      else .ok (asItems (between (live (overlay ts)) lo hi)) := by
  unfold superScanRange
  by_cases hgt : bytesCmp lo hi = .gt
  · cases ts with
    | nil =>
      simp only [List.mapM_nil, ne_eq, not_true_eq_false, and_false, if_false]
      exact superIterate_filter [] (by simp) fun x => bytesCmp lo x != .gt && bytesCmp x hi != .gt
    | cons t r =>
      have : tableScanRange t lo hi = .error .rejected := by simp [tableScanRange, hgt]
      rw [List.mapM_cons, this]
      simp [hgt]
      rfl
  · have hf : ∀ t : Table, tableScanRange t lo hi =
        .ok (toItems (t.filter fun p => bytesCmp lo p.1 != .gt && bytesCmp p.1 hi != .gt)) := by
      intro t; simp [tableScanRange, hgt]
    rw [mapM_ok _ _ hf, if_neg (fun h => hgt h.1)]
    exact superIterate_filter ts hts fun x => bytesCmp lo x != .gt && bytesCmp x hi != .gt

theorem recordsOf_asItems (m : Table) : recordsOf (asItems m) = m := by
  unfold recordsOf asItems
  rw [List.map_map]
  exact List.map_id'' (fun _ => rfl) _

/-- on inputs that are plain scans (`inputOf`: no read fault) `MergeCompact` feeds the compaction of the complete merge to
the writer -/
theorem mergeCompact_clean_eq (reduce : ReduceFn) (scans : List (List Item)) (w : Merge.WState) :
    mergeCompact (scans.map inputOf) w reduce =
      feedItems (compactOf reduce (PQ.drain goCmp scans)) .done w := by
  rw [mergeCompact_eq_consume, consume_clean (inputOf_clean scans), groupRunT_done, mergedOf, inputOf_items]
  rfl

/-- `MergeCompact` of all tables into a fresh writer, with ANY reducer that applies `g` to the newest value of a key:
it succeeds and writes an ascending table that reads `red g` of the newest value -/
theorem mergeCompact_reads {reduce : ReduceFn} {g : GoBytes → Option Bytes}
    (hr : ValReducer reduce fun vs cs => g (lwVal vs cs)) (ts : List Table) (hts : ∀ t ∈ ts, Asc t) :
    ∃ wr, mergeCompact ((ts.map toItems).map inputOf) {} reduce = (none, wr) ∧ Asc wr.out ∧
      ∀ k, tget wr.out k = red g (newestValue ts k) := by
  have hm := mergedFrom_drain ts hts
  have ha := groupTbl_asc (fun vs cs => g (lwVal vs cs)) _ hm.sorted
  obtain ⟨h1, h2⟩ := (feed_fresh (asItems _)).1 (by rwa [recordsOf_asItems])
  rw [recordsOf_asItems] at h2
  rw [mergeCompact_clean_eq, compactOf_sorted hr _ hm.sorted]
  exact ⟨_, Prod.ext h1 rfl, by rw [h2]; exact ha, fun k => by rw [h2]; exact tget_groupTbl_newest hts hm g k⟩

/-- hence it writes the ascending table `m` that reads `red g` of the overlay -/
theorem mergeCompact_eq {reduce : ReduceFn} {g : GoBytes → Option Bytes}
    (hr : ValReducer reduce fun vs cs => g (lwVal vs cs)) (ts : List Table) (hts : ∀ t ∈ ts, Asc t)
    {m : Table} (ha : Asc m) (hg : ∀ k, tget m k = red g (tget (overlay ts) k)) :
    (mergeCompact ((ts.map toItems).map inputOf) {} reduce).1 = none ∧
    (mergeCompact ((ts.map toItems).map inputOf) {} reduce).2.out = m := by
  obtain ⟨wr, h, hasc, hget⟩ := mergeCompact_reads hr ts hts
  rw [h]
  exact ⟨rfl, asc_ext hasc ha fun k => by rw [hget, hg, tget_overlay hts]⟩

/-- on inputs that are plain scans (`inputOf`: no read fault) `Merge` feeds the complete merge to the writer -/
theorem merge_clean_eq (scans : List (List Item)) (w : Merge.WState) :
    merge (scans.map inputOf) w = feedItems (untag (PQ.drain goCmp scans)) .done w := by
  rw [merge_eq_consume, consume_clean (inputOf_clean scans), mergedOf, inputOf_items]

theorem recordsOf_untag (D : List (GoBytes × GoBytes × Nat)) :
    recordsOf (untag D) = (normAll D).map fun x => (x.1, x.2.1) := by
  unfold recordsOf untag normAll
  rw [List.map_map, List.map_map]
  rfl

theorem disjoint_iff_flatten {Ss : List Table} (hts : ∀ t ∈ Ss, Asc t) :
    PairwiseDisjoint Ss ↔ Ss.flatten.Pairwise (fun p q => p.1 ≠ q.1) := by
  rw [List.pairwise_flatten]
  exact ⟨fun h => ⟨fun t ht => (hts t ht).imp ne_of_lt, h⟩, fun h => h.2⟩

theorem disjoint_iff_drain (Ss : List Table) (hts : ∀ t ∈ Ss, Asc t) :
    PairwiseDisjoint Ss ↔
      (normAll (PQ.drain goCmp (Ss.map toItems))).Pairwise (fun a b => a.1 ≠ b.1) := by
  rw [disjoint_iff_flatten hts, ← tagged_records, List.pairwise_map]
  exact ((drain_tagged Ss hts).2.pairwise_iff (fun h => Ne.symm h)).symm

/-- a strictly ascending complete merge of pairwise disjoint tables, the tags dropped, is the overlay -/
theorem overlay_of_disjoint {Ss : List Table} {L : List TItem} (hts : ∀ t ∈ Ss, Asc t) (hm : MergedFrom Ss L)
    (hd : PairwiseDisjoint Ss) (hstrict : L.Pairwise (fun a b => bytesCmp a.1 b.1 = .lt)) :
    L.map (fun x => (x.1, x.2.1)) = overlay Ss := by
  apply asc_ext_mem (List.pairwise_map.mpr hstrict) (overlay_asc Ss)
  intro k v
  rw [← tget_some_iff (overlay_asc Ss), tget_overlay hts, List.mem_map]
  constructor
  · rintro ⟨⟨k', v', c⟩, hx, heq⟩
    simp only [Prod.mk.injEq] at heq
    obtain ⟨rfl, rfl⟩ := heq
    -- no other table has the key
    refine hm.newest hts hx fun v'' c' hx' => Nat.le_of_not_lt fun hcc => ?_
    obtain ⟨S, hS, hmS⟩ := (hm.mem k' v' c).mp hx
    obtain ⟨S', hS', hmS'⟩ := (hm.mem k' v'' c').mp hx'
    obtain ⟨hlt, hS⟩ := List.getElem?_eq_some_iff.mp hS
    obtain ⟨hlt', hS'⟩ := List.getElem?_eq_some_iff.mp hS'
    exact List.pairwise_iff_getElem.mp hd c c' hlt hlt' hcc (k', v') (hS ▸ hmS) (k', v'') (hS' ▸ hmS') rfl
  · intro hnv
    obtain ⟨c, t, hc, hg, _⟩ := newestValue_some_iff.mp hnv
    exact ⟨(k, v, c), (hm.mem k v c).mpr ⟨t, hc, tget_mem hg⟩, rfl⟩

/-- plain `Merge` of pairwise disjoint tables into a fresh writer succeeds and writes the overlay, which is
then the sorted union of all records -/
theorem merge_disjoint (ts : List Table) (hts : ∀ t ∈ ts, Asc t) (hd : PairwiseDisjoint ts) :
    (merge ((ts.map toItems).map inputOf) {}).1 = none ∧
    (merge ((ts.map toItems).map inputOf) {}).2.out = overlay ts ∧
    (overlay ts).Perm ts.flatten := by
  have hm := mergedFrom_drain ts hts
  -- sorted and without equal keys: the merged keys are strictly ascending
  have hstrict : (normAll (PQ.drain goCmp (ts.map toItems))).Pairwise (fun a b => bytesCmp a.1 b.1 = .lt) :=
    (hm.sorted.and ((disjoint_iff_drain ts hts).mp hd)).imp fun h => bytesCmp_lt_of_le_ne h.1 h.2
  have hov := overlay_of_disjoint hts hm hd hstrict
  rw [merge_clean_eq]
  have hrec : recordsOf (untag (PQ.drain goCmp (ts.map toItems))) = overlay ts := by rw [recordsOf_untag, hov]
  obtain ⟨hs, hout⟩ := (feed_fresh _).1 (hrec ▸ overlay_asc ts)
  refine ⟨hs, hout.trans hrec, ?_⟩
  have := (drain_tagged ts hts).2.map (fun x => (x.1, x.2.1))
  rwa [tagged_records, hov] at this

/-- plain `Merge` of tables that share a key: the writer rejects the duplicate and `Merge` returns that error -/
theorem merge_overlap (ts : List Table) (hts : ∀ t ∈ ts, Asc t) (hd : ¬ PairwiseDisjoint ts) :
    (merge ((ts.map toItems).map inputOf) {}).1 = some .rejected := by
  rw [merge_clean_eq]
  refine (feed_fresh _).2 fun hasc => hd ((disjoint_iff_drain ts hts).mpr ?_)
  rw [recordsOf_untag] at hasc
  exact (List.pairwise_map.mp hasc).imp fun h => ne_of_lt h

end SST.Proofs.Merge
