/-
The abstract-disk WAL (L6-fs) is a sound abstraction of the byte-level log: abstraction of cut files,
recovery on bytes = recovery on the abstraction, and byte-level events as abstract events.
-/
import SST.Spec.WalAbs
import SST.Proofs.Wal
import SST.Proofs.WalMutation
import SST.Proofs.Keyed
namespace SST.Proofs.WalAbs
open SST SST.FS SST.WalMut SST.WalAbs Generated

/-- `scanS` on whole records with anything behind them at which the next read fails (the loop of
`IsFraming.readAll_append`, counting the bytes) -/
theorem scanS_append (c : Compression) (hl : LawfulC c) {tail : Bytes} {e : Err} (ht : readNextS c tail = .error e)
    (rs : List GoBytes) : ∀ fuel, (∀ r ∈ rs, FitsRec c r) → rs.length < fuel →
      scanS c fuel (encAll c rs ++ tail) = (rs, (encAll c rs).length) := by
  induction rs with
  | nil =>
    intro fuel _ hfu
    obtain ⟨f, rfl⟩ := Nat.exists_eq_succ_of_ne_zero (Nat.ne_of_gt hfu)
    simp only [encAll_nil, List.nil_append, scanS, ht, List.length_nil]
  | cons r rs ih =>
    intro fuel hf hfu
    obtain ⟨f, rfl⟩ := Nat.exists_eq_succ_of_ne_zero (Nat.ne_of_gt (Nat.zero_lt_of_lt hfu))
    rw [encAll_cons, List.append_assoc]
    simp only [scanS, readNextS_enc c r _ hl (hf r (List.mem_cons_self ..)), List.drop_left,
      ih f (fun x hx => hf x (List.mem_cons_of_mem _ hx)) (Nat.lt_of_succ_lt_succ hfu), List.length_append]

/-- `file_reads` for the scanner -/
theorem file_scans (c : Compression) (ct : Nat) (hl : LawfulC c) (xs : List GoBytes) (hf : ∀ r ∈ xs, FitsRec c r)
    {tail : Bytes} {e : Err} (ht : readNextS c tail = .error e) :
    scan c (fileBytes c ct xs ++ tail) = (xs, (encAll c xs).length) := by
  unfold scan fileBytes
  rw [List.append_assoc, drop_fileHeader]
  apply scanS_append c hl ht xs _ hf
  rw [List.length_append, List.length_append]
  exact Nat.lt_succ_of_le (Nat.le_trans (length_le_encAll c xs)
    (Nat.le_trans (Nat.le_add_right _ _) (Nat.le_add_left _ _)))

theorem rr_append (utf8 : Bytes → Bool) (a b : List GoBytes) :
    replayRecords utf8 (a ++ b) =
      (replayRecords utf8 a).bind fun x => (replayRecords utf8 b).map fun y => x ++ y := by
  induction a with
  | nil => simp [replayRecords]
  | cons r a ih =>
    simp only [List.cons_append, replayRecords]
    cases replayRecord utf8 r with
    | error e => rfl
    | ok x =>
      cases x with
      | skip => exact ih
      | «mut» m =>
        simp only [ih]
        cases replayRecords utf8 a with
        | none => rfl
        | some xa =>
          cases replayRecords utf8 b with
          | none => rfl
          | some xb => rfl

theorem rr_of_decodes (utf8 : Bytes → Bool) (l : List GoBytes) (h : ∀ r ∈ l, Decodes utf8 r) :
    ∃ ms, replayRecords utf8 l = some ms := by
  induction l with
  | nil => exact ⟨[], rfl⟩
  | cons r l ih =>
    rw [List.forall_mem_cons] at h
    obtain ⟨ms, hms⟩ := ih h.2
    obtain ⟨x, hx⟩ := h.1
    cases x with
    | skip => exact ⟨ms, by simp [replayRecords, hx, hms]⟩
    | «mut» m => exact ⟨m :: ms, by simp [replayRecords, hx, hms]⟩

theorem absFile_num (cOf : Nat → Compression) (utf8 : Bytes → Bool) (e : Nat × Bytes) (f : WalFile)
    (h : absFile cOf utf8 e = some f) : f.num = e.1 := by
  unfold absFile at h
  split at h
  · split at h
    · simp at h; subst h; rfl
    · simp at h
  · simp only [Option.map_eq_some_iff] at h
    obtain ⟨ms, _, rfl⟩ := h
    rfl

theorem absWal_cons (cOf : Nat → Compression) (utf8 : Bytes → Bool) (e : Nat × Bytes) (es : DirN) :
    absWal cOf utf8 (e :: es) =
      (absFile cOf utf8 e).bind fun f => (absWal cOf utf8 es).map (f :: ·) := by
  rw [absWal]
  cases absFile cOf utf8 e <;> cases absWal cOf utf8 es <;> rfl

theorem absWal_append (cOf : Nat → Compression) (utf8 : Bytes → Bool) (x y : DirN) :
    absWal cOf utf8 (x ++ y) =
      (absWal cOf utf8 x).bind fun X => (absWal cOf utf8 y).map fun Y => X ++ Y := by
  induction x with
  | nil => simp [absWal]
  | cons e es ih =>
    rw [List.cons_append, absWal_cons, absWal_cons, ih]
    cases absFile cOf utf8 e <;> cases absWal cOf utf8 es <;> cases absWal cOf utf8 y <;> rfl

theorem absWal_snoc (cOf : Nat → Compression) (utf8 : Bytes → Bool) (d : DirN) (e : Nat × Bytes)
    (W : List WalFile) :
    absWal cOf utf8 (d ++ [e]) = some W ↔
      ∃ Wpre a, absWal cOf utf8 d = some Wpre ∧ absFile cOf utf8 e = some a ∧ Wpre ++ [a] = W := by
  rw [absWal_append, absWal_cons]
  cases absWal cOf utf8 d <;> cases absFile cOf utf8 e <;> simp [absWal]

theorem absWal_nums (cOf : Nat → Compression) (utf8 : Bytes → Bool) (d : DirN) (W : List WalFile)
    (h : absWal cOf utf8 d = some W) : W.map (·.num) = d.map (·.1) := by
  induction d generalizing W with
  | nil => cases h; rfl
  | cons e es ih =>
    simp only [absWal_cons, Option.bind_eq_some_iff, Option.map_eq_some_iff] at h
    obtain ⟨f, hf, fs, hfs, rfl⟩ := h
    simp [ih fs hfs, absFile_num cOf utf8 e f hf]

theorem absRecovery_cons_complete (f : WalFile) (rest : List WalFile) (hh : f.header = true)
    (ht : f.torn = false) : absRecovery (f :: rest) = (absRecovery rest).map (f.recs ++ ·) := by
  unfold absRecovery
  have e1 : walReadable (f :: rest) = walReadable rest := by
    cases rest <;> simp [walReadable, hh, ht]
  have e2 : walMuts (f :: rest) = f.recs ++ walMuts rest := by
    simp [walMuts, fileMuts, hh]
  rw [e1, e2]
  split <;> rfl

theorem absRecovery_single (f : WalFile) : absRecovery [f] = some (fileMuts f) := by
  simp [absRecovery, walReadable, walMuts]

/-- the abstract state of a cut file whose header is complete -/
def cutFile (c : Compression) (f : Nat) (rs : List GoBytes) (n : Nat) (x : List Mutation) : WalFile :=
  { num := f, header := true, recs := x,
    torn := decide (fileHeaderSize + (encAll c (rs.take (wholeIn c rs n))).length < n) }

/-- the abstract state of file `j` holding the first `n` bytes of the complete file with records `rs` -/
def absCut (c : Compression) (utf8 : Bytes → Bool) (j : Nat) (rs : List GoBytes) (n : Nat) : Option WalFile :=
  if n < fileHeaderSize then some { num := j, header := false }
  else (replayRecords utf8 (rs.take (wholeIn c rs n))).map (cutFile c j rs n)

section
variable {cOf : Nat → Compression} (utf8 : Bytes → Bool) {c : Compression} {ct : Nat}
  (hc : cOf ct = c) (hl : LawfulC c) (hct : ct ≤ maxCompression)
include hc hl hct

theorem absFile_cut (rs : List GoBytes)
    (hf : ∀ r ∈ rs, FitsRec c r) (j : Nat) (b : Bytes) (hb : b <+: fileBytes c ct rs) :
    absFile cOf utf8 (j, b) = absCut c utf8 j rs b.length := by
  unfold absFile absCut
  by_cases hn : b.length < fileHeaderSize
  · obtain ⟨e, hp, hk⟩ := (parseFileHeader_short b hn).eofKind
    simp only [if_pos hn, hp, hk, if_true]
  · obtain ⟨tail, h1, h2⟩ := file_cut c ct rs hf hb (Nat.le_of_not_lt hn)
    obtain ⟨e, he⟩ := h2.error
    have hf' : ∀ r ∈ rs.take (wholeIn c rs b.length), FitsRec c r := fun r hr => hf r (List.mem_of_mem_take hr)
    obtain ⟨p1, _⟩ := file_reads c ct hl hct _ hf' he
    have p3 := file_scans c ct hl _ hf' he
    rw [← h1] at p1 p3
    simp only [if_neg hn, p1, hc, p3]
    rfl

theorem absFile_complete (rs : List GoBytes)
    (hf : ∀ r ∈ rs, FitsRec c r) (j : Nat) :
    absFile cOf utf8 (j, fileBytes c ct rs) =
      (replayRecords utf8 rs).map fun ms => { num := j, header := true, recs := ms, torn := false } := by
  have hl8 := fileBytes_length c ct rs
  rw [absFile_cut utf8 hc hl hct rs hf j _ (List.prefix_refl _)]
  unfold absCut cutFile
  rw [hl8, if_neg (Nat.not_lt.mpr (Nat.le_add_right _ _)), wholeIn_all c ct rs _ (Nat.le_of_eq hl8),
    List.take_length, decide_eq_false (Nat.lt_irrefl _)]

theorem refine_ks (full : List (List GoBytes))
    (hf : FitsAll c full) (ks : List Nat) (j : Nat) (b : Bytes) (hb : b <+: fileOf c ct full j) :
    (absWal cOf utf8 (ks.map (fun i => (i, fileOf c ct full i)) ++ [(j, b)])).bind absRecovery =
      replayRecords utf8 ((ks.map (fun i => full.getD i [])).flatten ++
        (full.getD j []).take (wholeIn c (full.getD j []) b.length)) := by
  induction ks with
  | nil =>
    have hcut := absFile_cut utf8 hc hl hct (full.getD j []) (forall_getD full hf j) j b hb
    simp only [List.map_nil, List.nil_append, List.flatten_nil, absWal, hcut]
    unfold absCut
    by_cases h8 : b.length < fileHeaderSize
    · rw [if_pos h8, wholeIn_small c _ _ h8]
      simp [absRecovery_single, fileMuts, replayRecords]
    · rw [if_neg h8]
      cases replayRecords utf8 ((full.getD j []).take (wholeIn c (full.getD j []) b.length)) with
      | none => rfl
      | some ms => simp [absRecovery_single, fileMuts, cutFile]
  | cons k ks ih =>
    have hk := absFile_complete utf8 hc hl hct (full.getD k []) (forall_getD full hf k) k
    simp only [List.map_cons, List.cons_append, absWal, List.flatten_cons, List.append_assoc]
    rw [show fileOf c ct full k = fileBytes c ct (full.getD k []) from rfl, hk, rr_append]
    cases hr : replayRecords utf8 (full.getD k []) with
    | none => rfl
    | some ms =>
      simp only [Option.map_some, Option.bind_some]
      rw [← ih]
      cases absWal cOf utf8 (ks.map (fun i => (i, fileOf c ct full i)) ++ [(j, b)]) with
      | none => rfl
      | some W => exact absRecovery_cons_complete _ W rfl rfl

end

/-- recovery on the abstraction of a crash image, in terms of the records the image holds: the abstract twin of
`replay_img` -/
theorem abs_img (cOf : Nat → Compression) (utf8 : Bytes → Bool) (c : Compression) (ct : Nat)
    (hc : cOf ct = c) (hl : LawfulC c) (hct : ct ≤ maxCompression) (full : List (List GoBytes))
    (hf : FitsAll c full) (d : DirN) (hd : Img (fileOf c ct full) full.length d) :
    (absWal cOf utf8 d).bind absRecovery = replayRecords utf8 (imgRecords c full d) := by
  rcases hd with rfl | ⟨j, b, hj, hb, rfl⟩
  · rfl
  · rw [imgRecords_snoc]
    unfold completeDir
    rw [refine_ks utf8 hc hl hct full hf _ j b hb, range_map_getD full j (Nat.le_of_lt hj)]

/-- For every directory the appender can leave behind at a kill (`Img`: only the last file incomplete), recovery
on the bytes (replayer + unmarshal + dispatch) and recovery on the abstract files (`walReadable`, `walMuts`)
agree: both fail or both replay the same mutations in the same order. -/
theorem replay_refines_abstract (cOf : Nat → Compression) (utf8 : Bytes → Bool) (c : Compression) (ct : Nat)
    (hc : cOf ct = c) (hl : LawfulC c) (hct : ct ≤ maxCompression) (full : List (List GoBytes))
    (hf : FitsAll c full) (hm : full.length ≤ maxWalFiles) (d : DirN)
    (hd : Img (fileOf c ct full) full.length d) :
    byteRecovery cOf utf8 d = (absWal cOf utf8 d).bind absRecovery := by
  unfold byteRecovery
  rw [replay_img cOf c ct hc hl hct full hf hm d hd, abs_img cOf utf8 c ct hc hl hct full hf d hd]

/-- the callback turns the record into a mutation (what `PutBytes`/`DeleteBytes` log always does) -/
def DecodesMut (utf8 : Bytes → Bool) (r : GoBytes) : Prop := ∃ m, replayRecord utf8 r = .ok (.mut m)

/-- under `DecodesMut` the callback is a map: one mutation per record, for the list and each of its prefixes -/
theorem rr_of_decodesMut (utf8 : Bytes → Bool) (l : List GoBytes) (h : ∀ r ∈ l, DecodesMut utf8 r) :
    ∃ ms, replayRecords utf8 l = some ms ∧ ms.length = l.length ∧
      ∀ q, replayRecords utf8 (l.take q) = some (ms.take q) := by
  induction l with
  | nil => exact ⟨[], rfl, rfl, fun q => by rw [List.take_nil, List.take_nil]; rfl⟩
  | cons r l ih =>
    obtain ⟨⟨m, hm⟩, hl⟩ := List.forall_mem_cons.mp h
    obtain ⟨ms, hms, hlen, htk⟩ := ih hl
    refine ⟨m :: ms, by simp only [replayRecords, hm, hms, Option.map_some], congrArg (· + 1) hlen, fun q => ?_⟩
    cases q with
    | zero => rfl
    | succ q => simp only [List.take_succ_cons, replayRecords, hm, htk q, Option.map_some]

/-- the three events that change one file's abstract state -/
def fileEv (x : WalFile) : Ev → WalFile
  | .walHeader _ => { x with header := true }
  | .walAppend _ m => if x.header then { x with recs := x.recs ++ [m], torn := false } else x
  | .walTorn _ => { x with torn := true }
  | _ => x

def IsFileEv (f : Nat) : Ev → Prop
  | .walHeader n => n = f
  | .walAppend n _ => n = f
  | .walTorn n => n = f
  | _ => False

/-- the abstract events `mapEv` gives a write that takes a file from abstract state `a` to `b` -/
def deltaEvs (f : Nat) (a b : WalFile) : List Ev :=
  (if !a.header && b.header then [Ev.walHeader f] else []) ++ (b.recs.drop a.recs.length).map (Ev.walAppend f) ++
    (if b.torn then [Ev.walTorn f] else [])

theorem mapEv_write (cOf : Nat → Compression) (utf8 : Bytes → Bool) {d : DirN} {f : Nat} {x : Bytes} (bs : Bytes)
    {a b : WalFile} (hd : fileIn d f = x) (ha : absFile cOf utf8 (f, x) = some a)
    (hb : absFile cOf utf8 (f, x ++ bs) = some b) : mapEv cOf utf8 d (.write f bs) = deltaEvs f a b := by
  unfold mapEv deltaEvs
  simp only [hd, ha, hb]

theorem deltaEvs_file (f : Nat) (a b : WalFile) : ∀ e ∈ deltaEvs f a b, IsFileEv f e := by
  intro e he
  simp only [deltaEvs, List.mem_append, List.mem_map] at he
  rcases he with (he | ⟨m, _, rfl⟩) | he
  · split at he
    · simp at he; subst he; rfl
    · simp at he
  · rfl
  · split at he
    · simp at he; subst he; rfl
    · simp at he

theorem fileEv_num (x : WalFile) (e : Ev) : (fileEv x e).num = x.num := by
  cases e <;> simp [fileEv]
  split <;> rfl

theorem applyEv_file (f : Nat) (D : Disk) (e : Ev) (he : IsFileEv f e) :
    applyEv D e = { D with wal := updW f (fileEv · e) D.wal } := by
  cases e with
  | walHeader n => cases he; rfl
  | walAppend n m => cases he; rfl
  | walTorn n => cases he; rfl
  | _ => exact he.elim

theorem applyEvs_file (f : Nat) (Wpre : List WalFile) (L : List Ev) (hL : ∀ e ∈ L, IsFileEv f e) :
    ∀ (D : Disk) (a : WalFile), D.wal = Wpre ++ [a] → (∀ y ∈ Wpre, y.num ≠ f) → a.num = f →
      (applyEvs D L).wal = Wpre ++ [L.foldl fileEv a] ∧ (applyEvs D L).walDir = D.walDir := by
  induction L with
  | nil => intro D a h _ _; exact ⟨h, rfl⟩
  | cons e L ih =>
    intro D a hD hpre ha
    rw [List.forall_mem_cons] at hL
    have hstep : (applyEv D e).wal = Wpre ++ [fileEv a e] ∧ (applyEv D e).walDir = D.walDir := by
      rw [applyEv_file f D e hL.1]
      exact ⟨by show updW _ _ D.wal = _; rw [hD, Keyed.updW_last _ _ _ _ hpre ha], rfl⟩
    obtain ⟨h1, h2⟩ := ih hL.2 (applyEv D e) (fileEv a e) hstep.1 hpre
      (by rw [fileEv_num]; exact ha)
    exact ⟨h1, h2.trans hstep.2⟩

theorem foldl_appends (x : WalFile) (hh : x.header = true) (f : Nat) (z : List Mutation) :
    (z.map (Ev.walAppend f)).foldl fileEv x =
      { x with recs := x.recs ++ z, torn := if z = [] then x.torn else false } := by
  induction z generalizing x with
  | nil => simp
  | cons m z ih =>
    simp only [List.map_cons, List.foldl_cons, fileEv, hh, if_true]
    rw [ih _ rfl]
    simp

theorem fileIn_img (F : Nat → Bytes) (f : Nat) (b : Bytes) : fileIn (completeDir F f ++ [(f, b)]) f = b := by
  unfold fileIn
  have : (completeDir F f).find? (fun e => e.1 == f) = none := by
    rw [List.find?_eq_none]
    intro x hx
    simpa using Nat.ne_of_lt (lt_of_mem_completeDir hx)
  rw [List.find?_append, this]
  simp

/-- the abstract state of a cut file in closed form: `ms` are the mutations of ALL records of the file -/
theorem absCut_eq (c : Compression) (utf8 : Bytes → Bool) (f : Nat) (rs : List GoBytes) (ms : List Mutation)
    (hms : ∀ q, replayRecords utf8 (rs.take q) = some (ms.take q)) (n : Nat) :
    absCut c utf8 f rs n = some (if n < fileHeaderSize then { num := f, header := false }
      else cutFile c f rs n (ms.take (wholeIn c rs n))) := by
  unfold absCut
  split
  · rfl
  · rw [hms]; rfl

theorem fold_from_headerless (f : Nat) (y : List Mutation) (t' : Bool) :
    ([Ev.walHeader f] ++ y.map (Ev.walAppend f) ++ (if t' then [Ev.walTorn f] else [])).foldl fileEv
      { num := f, header := false } = { num := f, header := true, recs := y, torn := t' } := by
  rw [List.append_assoc, List.foldl_append, List.foldl_append]
  simp only [List.foldl_cons, List.foldl_nil, fileEv]
  rw [foldl_appends _ rfl]
  cases t' <;> cases y <;> simp [fileEv]

theorem fold_from_header (f : Nat) (x z : List Mutation) (t t' : Bool)
    (h : z = [] → t' = false → t = false) :
    (z.map (Ev.walAppend f) ++ (if t' then [Ev.walTorn f] else [])).foldl fileEv
      { num := f, header := true, recs := x, torn := t } =
      { num := f, header := true, recs := x ++ z, torn := t' } := by
  rw [List.foldl_append, foldl_appends _ rfl]
  cases t' with
  | true => simp [fileEv]
  | false =>
    by_cases hz : z = []
    · have := h hz rfl
      subst hz; subst this
      simp
    · simp [hz]

/-- the abstract events a write amounts to lead from the abstract state before to the abstract state after -/
theorem write_fold (c : Compression) (utf8 : Bytes → Bool) (f : Nat) (rs : List GoBytes)
    (hdec : ∀ r ∈ rs, DecodesMut utf8 r) (n n' : Nat) (hnn : n ≤ n') (a a' : WalFile)
    (ha : absCut c utf8 f rs n = some a) (ha' : absCut c utf8 f rs n' = some a') :
    (deltaEvs f a a').foldl fileEv a = a' := by
  obtain ⟨ms, _, hlen, hms⟩ := rr_of_decodesMut utf8 rs hdec
  rw [absCut_eq c utf8 f rs ms hms] at ha ha'
  obtain rfl := Option.some.inj ha
  obtain rfl := Option.some.inj ha'
  by_cases h' : n' < fileHeaderSize
  · rw [if_pos h', if_pos (Nat.lt_of_le_of_lt hnn h')]
    simp [deltaEvs]
  · rw [if_neg h']
    by_cases h : n < fileHeaderSize
    · rw [if_pos h]
      exact fold_from_headerless f _ _
    · rw [if_neg h]
      have hk : wholeIn c rs n ≤ wholeIn c rs n' := wholeIn_mono c rs n n' hnn
      have hx : (ms.take (wholeIn c rs n)).length = wholeIn c rs n :=
        List.length_take_of_le (hlen ▸ wholeIn_le_length c rs n)
      have hy : (ms.take (wholeIn c rs n')).length = wholeIn c rs n' :=
        List.length_take_of_le (hlen ▸ wholeIn_le_length c rs n')
      -- the longer cut has the mutations `x` of the shorter one and `z` more
      have hxz := List.take_append_drop (wholeIn c rs n) (ms.take (wholeIn c rs n'))
      rw [List.take_take, Nat.min_eq_left hk] at hxz
      generalize (ms.take (wholeIn c rs n')).drop (wholeIn c rs n) = z at hxz
      rw [← hxz] at hy ⊢
      generalize ms.take (wholeIn c rs n) = x at hx hy ⊢
      have e : deltaEvs f (cutFile c f rs n x) (cutFile c f rs n' (x ++ z)) =
          z.map (Ev.walAppend f) ++ (if (cutFile c f rs n' (x ++ z)).torn then [Ev.walTorn f] else []) := by
        simp [deltaEvs, cutFile]
      rw [e]
      refine fold_from_header f x z _ _ fun hz ht' => ?_
      -- no record more: the same whole records, and no more bytes behind them than in the longer cut
      subst hz
      rw [List.append_nil] at hy
      simp only [cutFile, decide_eq_false_iff_not] at ht' ⊢
      rw [← hy, hx] at ht'
      omega

theorem absFile_empty (cOf : Nat → Compression) (utf8 : Bytes → Bool) (f : Nat) :
    absFile cOf utf8 (f, []) = some { num := f, header := false } := by
  simp [absFile, parseFileHeader, fileHeaderSize, isEofKind]

theorem absWal_complete_nums (cOf : Nat → Compression) (utf8 : Bytes → Bool) (F : Nat → Bytes) (f : Nat)
    (W : List WalFile) (hW : absWal cOf utf8 (completeDir F f) = some W) : ∀ y ∈ W, y.num < f := by
  intro y hy
  have : y.num ∈ W.map (·.num) := List.mem_map_of_mem hy
  rw [absWal_nums cOf utf8 _ _ hW] at this
  obtain ⟨x, hx, hxy⟩ := List.mem_map.mp this
  exact hxy ▸ lt_of_mem_completeDir hx

theorem mapEvs_append (cOf : Nat → Compression) (utf8 : Bytes → Bool) (d : DirN) (xs ys : List FsEvent) :
    mapEvs cOf utf8 d (xs ++ ys) =
      mapEvs cOf utf8 d xs ++ mapEvs cOf utf8 (xs.foldl applyEvent d) ys := by
  induction xs generalizing d with
  | nil => rfl
  | cons x xs ih => simp only [List.cons_append, mapEvs, List.foldl_cons, ih, List.append_assoc]

section
variable {cOf : Nat → Compression} (utf8 : Bytes → Bool) {c : Compression} {ct : Nat}
  (hc : cOf ct = c) (hl : LawfulC c) (hct : ct ≤ maxCompression) {full : List (List GoBytes)}
  (hf : FitsAll c full) (hdec : ∀ rs ∈ full, ∀ r ∈ rs, DecodesMut utf8 r)
include hc hl hct hf hdec

/-- one admissible byte-level event: the abstraction of the directory afterwards is the abstract disk after the
abstract events the event maps to -/
theorem abs_step (d : DirN) (e : FsEvent) (ha : AdmEv (fileOf c ct full) full.length d e)
    (D : Disk) (hDw : D.walDir = true) (hW : absWal cOf utf8 d = some D.wal) :
    absWal cOf utf8 (applyEvent d e) = some (applyEvs D (mapEv cOf utf8 d e)).wal ∧
    (applyEvs D (mapEv cOf utf8 d e)).walDir = true := by
  cases e with
  | create f =>
    have hap : applyEvs D (mapEv cOf utf8 d (.create f)) =
        { D with wal := insertW { num := f, header := false } D.wal } := by
      simp [mapEv, applyEvs, applyEv, hDw]
    rw [hap]
    refine ⟨?_, hDw⟩
    obtain ⟨rfl, _⟩ := ha
    rw [apply_create, Keyed.insertW_last _ _ (absWal_complete_nums cOf utf8 _ f _ hW)]
    exact (absWal_snoc cOf utf8 _ _ _).mpr ⟨_, _, hW, absFile_empty cOf utf8 f, rfl⟩
  | write f bs =>
    obtain ⟨b, hfm, rfl, hp⟩ := ha
    have hrs := forall_getD full hf f
    have hdm := forall_getD full hdec f
    have hpb : b <+: fileOf c ct full f := List.IsPrefix.trans (List.prefix_append _ _) hp
    have hcut := absFile_cut utf8 hc hl hct _ hrs f b hpb
    have hcut' := absFile_cut utf8 hc hl hct _ hrs f (b ++ bs) hp
    obtain ⟨Wpre, a, hWpre, ha, hDwal⟩ := (absWal_snoc cOf utf8 _ _ _).mp hW
    obtain ⟨ms, _, _, hms⟩ := rr_of_decodesMut utf8 _ hdm
    obtain ⟨a', ha'⟩ : ∃ a', absFile cOf utf8 (f, b ++ bs) = some a' :=
      ⟨_, hcut'.trans (absCut_eq c utf8 f _ ms hms _)⟩
    have hfold := write_fold c utf8 f (full.getD f []) hdm b.length (b ++ bs).length (by simp) a a'
      (by rw [← hcut]; exact ha) (by rw [← hcut']; exact ha')
    have hmap := mapEv_write cOf utf8 bs (fileIn_img (fileOf c ct full) f b) ha ha'
    have hpre : ∀ y ∈ Wpre, y.num ≠ f := fun y hy => Nat.ne_of_lt (absWal_complete_nums cOf utf8 _ f _ hWpre y hy)
    have hres := applyEvs_file f Wpre _ (deltaEvs_file f a a') D a hDwal.symm hpre (absFile_num cOf utf8 _ a ha)
    rw [hfold] at hres
    rw [hmap, apply_write]
    exact ⟨by rw [hres.1]; exact (absWal_snoc cOf utf8 _ _ _).mpr ⟨_, _, hWpre, ha', rfl⟩, by rw [hres.2]; exact hDw⟩
  | fsync f => exact ⟨hW, hDw⟩
  | close f => exact ⟨hW, hDw⟩

theorem abs_run (evs : List FsEvent) :
    ∀ (d : DirN) (D : Disk), Adm (fileOf c ct full) full.length d evs → D.walDir = true →
      absWal cOf utf8 d = some D.wal →
      absWal cOf utf8 (evs.foldl applyEvent d) = some (applyEvs D (mapEvs cOf utf8 d evs)).wal := by
  induction evs with
  | nil => intro d D _ _ hW; exact hW
  | cons e es ih =>
    intro d D ha hDw hW
    rw [adm_cons] at ha
    obtain ⟨h1, h2⟩ := abs_step utf8 hc hl hct hf hdec d e ha.1 D hDw hW
    have := ih (applyEvent d e) (applyEvs D (mapEv cOf utf8 d e)) ha.2 h2 h1
    simp only [List.foldl_cons, mapEvs, applyEvs, List.foldl_append]
    exact this

end

/-- After ANY number `n` of byte-level events of a run (create / write chunk / fsync / close, the final `Close`
included), the abstraction of the directory is the abstract disk after the abstract events these `n` events map to. -/
theorem appender_events_refine (o : WalOpts) (c : Compression) (cOf : Nat → Compression) (utf8 : Bytes → Bool)
    (hra : ReaderAgrees cOf o c) (hl : LawfulC c) (prog : List WalOp) (hpf : ProgFits c prog)
    (hdec : ∀ r ∈ walRecords o c prog, DecodesMut utf8 r) (n : Nat) :
    absWal cOf utf8 (dirAfterN ((walEventsClosed o c prog).take n)) =
      some (applyEvs disk0 (mapEvs cOf utf8 [] ((walEventsClosed o c prog).take n))).wal := by
  obtain ⟨full, hfl, -, hadm, -, hfd⟩ := closed_run o c prog
  have hf := (hfd hpf).1
  exact abs_run utf8 hra.1 hl hra.2 hf (fun rs hrs r hr => hdec r (hfl ▸ List.mem_flatten.mpr ⟨rs, hrs, hr⟩)) _
    [] disk0 (adm_take _ _ [] _ n hadm) rfl rfl

/-- a crash image holding records the callback accepts: its abstraction exists, recovery of it succeeds and replays
their mutations -/
theorem image_abstract (cOf : Nat → Compression) (utf8 : Bytes → Bool) (c : Compression) (ct : Nat)
    (hc : cOf ct = c) (hl : LawfulC c) (hct : ct ≤ maxCompression) (full : List (List GoBytes))
    (hf : FitsAll c full) (d : DirN) (hd : Img (fileOf c ct full) full.length d) (ms : List Mutation)
    (hms : replayRecords utf8 (imgRecords c full d) = some ms) :
    ∃ W, absWal cOf utf8 d = some W ∧ walReadable W = true ∧ walMuts W = ms := by
  have h := abs_img cOf utf8 c ct hc hl hct full hf d hd
  rw [hms] at h
  obtain ⟨W, hW, h⟩ := Option.bind_eq_some_iff.mp h
  unfold absRecovery at h
  split at h
  · exact ⟨W, hW, ‹_›, Option.some.inj h⟩
  · cases h

/-- Every crash image of a run, seen through the abstraction: the abstract WAL exists, recovery of it succeeds
(only the last file may lack its header or end in a torn piece), and it replays a PREFIX of the issued mutations
that holds at least everything appended up to the last synchronous append that had returned. -/
theorem crash_image_abstract (o : WalOpts) (c : Compression) (cOf : Nat → Compression) (utf8 : Bytes → Bool)
    (hra : ReaderAgrees cOf o c) (hl : LawfulC c) (prog : List WalOp) (hpf : ProgFits c prog)
    (hdec : ∀ r ∈ walRecords o c prog, DecodesMut utf8 r) (issued : List Mutation)
    (hiss : replayRecords utf8 (walRecords o c prog) = some issued) (n : Nat) :
    ∃ W p, absWal cOf utf8 (dirAfterN ((walEventsClosed o c prog).take n)) = some W ∧
      walReadable W = true ∧ walMuts W = issued.take p ∧
      durableWithin o c prog n ≤ p ∧ p ≤ issued.length := by
  obtain ⟨full, hfl, hm, hadm, -, hfd⟩ := closed_run o c prog
  obtain ⟨hf, hdur⟩ := hfd hpf
  have himg := img_take _ _ _ n hadm
  have hpre := imgRecords_prefix c o.ct full _ himg
  rw [hfl] at hpre
  obtain ⟨ms, hi, hilen, htk⟩ := rr_of_decodesMut utf8 _ hdec
  obtain rfl := Option.some.inj (hi.symm.trans hiss)
  have hms := htk (imgRecords c full (dirAfterN ((walEventsClosed o c prog).take n))).length
  rw [← List.prefix_iff_eq_take.mp hpre] at hms
  obtain ⟨W, hW, h1, h2⟩ := image_abstract cOf utf8 c o.ct hra.1 hl hra.2 full hf _ himg _ hms
  exact ⟨_, _, hW, h1, h2, hdur cOf hra hl n, Nat.le_trans hpre.length_le (Nat.le_of_eq hilen.symm)⟩

/-- the log after `Close`: the abstraction exists, is readable and replays ALL issued mutations -/
theorem closed_log_abstract (o : WalOpts) (c : Compression) (cOf : Nat → Compression) (utf8 : Bytes → Bool)
    (hra : ReaderAgrees cOf o c) (hl : LawfulC c) (prog : List WalOp) (hpf : ProgFits c prog)
    (issued : List Mutation) (hiss : replayRecords utf8 (walRecords o c prog) = some issued) :
    ∃ W, absWal cOf utf8 (dirAfterN (walEventsClosed o c prog)) = some W ∧
      walReadable W = true ∧ walMuts W = issued := by
  obtain ⟨full, hfl, -, -, hdir, hfd⟩ := closed_run o c prog
  have hf := (hfd hpf).1
  rw [hdir]
  exact image_abstract cOf utf8 c o.ct hra.1 hl hra.2 full hf _ (img_complete _ _) issued
    (by rw [imgRecords_complete c o.ct full _ (Nat.le_refl _), List.take_length, hfl]; exact hiss)

theorem progRecords_logProg (sync : Bool) (ms : List Mutation) :
    progRecords (logProg sync ms) = ms.map fun m => some (encMutation m) := by
  induction ms with
  | nil => rfl
  | cons m ms ih =>
    cases sync
    · simp only [logProg, List.map_cons, Bool.false_eq_true, if_false, progRecords] at ih ⊢
      rw [ih]
    · simp only [logProg, List.map_cons, if_true, progRecords] at ih ⊢
      rw [ih]

theorem logProg_length (sync : Bool) (ms : List Mutation) : (logProg sync ms).length = ms.length := by
  simp [logProg]

/-- What is needed of a list of mutations the database logs: each fits the length fields of the protobuf message and
of the record frame and is one that `PutBytes`/`DeleteBytes` would log, and they are too few for the
one-million-files guard to fire. -/
structure LogOk (c : Compression) (ms : List Mutation) : Prop where
  fits : ∀ m ∈ ms, SST.Proofs.WalMut.MutFits m
  loggable : ∀ m ∈ ms, SST.Proofs.WalMut.Loggable m
  frame : ∀ m ∈ ms, FitsRec c (some (encMutation m))
  short : ms.length < maxWalFiles - 1

theorem logProg_facts (o : WalOpts) (c : Compression) (utf8 : Bytes → Bool) (sync : Bool) (ms : List Mutation)
    (h : LogOk c ms) :
    ProgFits c (logProg sync ms) ∧
    walRecords o c (logProg sync ms) = (ms.map fun m => some (encMutation m)) ∧
    (∀ r ∈ walRecords o c (logProg sync ms), DecodesMut utf8 r) ∧
    replayRecords utf8 (walRecords o c (logProg sync ms)) = some ms ∧
    NoGuard o c (logProg sync ms) := by
  obtain ⟨hng, hrec⟩ := noGuard_of_short o c (logProg sync ms) (by rw [logProg_length]; exact Nat.lt_of_lt_of_le h.short (Nat.sub_le _ _))
  rw [progRecords_logProg] at hrec
  refine ⟨?_, hrec, ?_, ?_, hng⟩
  · intro op hop
    simp only [logProg, List.mem_map] at hop
    obtain ⟨m, hm, rfl⟩ := hop
    cases sync <;> exact h.frame m hm
  · intro r hr
    rw [hrec, List.mem_map] at hr
    obtain ⟨m, hm, rfl⟩ := hr
    exact ⟨m, SST.Proofs.WalMut.replay_encMutation utf8 m (h.fits m hm) (h.loggable m hm)⟩
  · rw [hrec]
    exact SST.Proofs.WalMut.replayRecords_enc utf8 ms (fun m hm => ⟨h.fits m hm, h.loggable m hm⟩)

/-- SYNCHRONOUS log: when the last `AppendSync` has returned (no `Close`; the buffer is then empty,
`sync_run_flushed`), the abstract
WAL on disk is readable and holds EVERY issued mutation — logged before acknowledged, for every call (the
statement is for every list `ms`, hence for every prefix of a session). -/
theorem sync_log_durable (o : WalOpts) (c : Compression) (cOf : Nat → Compression) (utf8 : Bytes → Bool)
    (hra : ReaderAgrees cOf o c) (hl : LawfulC c) (ms : List Mutation) (h : LogOk c ms) :
    ∃ W, absWal cOf utf8 (dirAfterN (walEvents o c (logProg true ms))) = some W ∧
      walReadable W = true ∧ walMuts W = ms := by
  obtain ⟨f1, _, _, f4, f5⟩ := logProg_facts o c utf8 true ms h
  obtain ⟨cl, cu, g1, g2, g⟩ := Wal.Moves.run_init o c (logProg true ms)
  have g3 := (g f1).1
  -- the last operation, if any, was a synchronous append: nothing is buffered, the directory is the whole log
  have hb : (Wal.run o c (logProg true ms)).1.fw.w.buf = [] := by
    unfold NoGuard at f5
    rw [run_eq] at f5 ⊢
    refine sync_run_flushed (Wal.Moves.init o c).sim (init_state o).2.2 _ (fun op hop => ?_) f5
    simp only [logProg, if_true, List.mem_map] at hop
    obtain ⟨m, _, rfl⟩ := hop
    exact ⟨_, rfl⟩
  rw [dirAfterN, g1.sim.dir_flushed hb]
  exact image_abstract cOf utf8 c o.ct hra.1 hl hra.2 _ g3 _ (img_complete _ _) ms
    (by rw [imgRecords_complete c o.ct _ _ (Nat.le_refl _), List.take_length, g2]; exact f4)

/-- ASYNCHRONOUS log (and every other log): at EVERY kill point the abstract WAL is readable (`walReadable`: complete
files followed by one file that may lack its header or be torn) and holds a PREFIX of the issued
mutations; after `Close` it holds all of them. -/
theorem async_log_prefix (o : WalOpts) (c : Compression) (cOf : Nat → Compression) (utf8 : Bytes → Bool)
    (hra : ReaderAgrees cOf o c) (hl : LawfulC c) (sync : Bool) (ms : List Mutation) (h : LogOk c ms) (n : Nat) :
    (∃ W p, absWal cOf utf8 (dirAfterN ((walEventsClosed o c (logProg sync ms)).take n)) = some W ∧
      walReadable W = true ∧ walMuts W = ms.take p ∧ p ≤ ms.length) ∧
    (∃ W, absWal cOf utf8 (dirAfterN (walEventsClosed o c (logProg sync ms))) = some W ∧
      walReadable W = true ∧ walMuts W = ms) := by
  obtain ⟨f1, f2, f3, f4, f5⟩ := logProg_facts o c utf8 sync ms h
  obtain ⟨W, p, h1, h2, h3, _, h5⟩ := crash_image_abstract o c cOf utf8 hra hl (logProg sync ms) f1 f3 ms f4 n
  exact ⟨⟨W, p, h1, h2, h3, h5⟩, closed_log_abstract o c cOf utf8 hra hl (logProg sync ms) f1 ms f4⟩

/-- what is on disk plus what sits in the appender's write buffer is the whole log: files `0 .. num-1` complete,
and the bytes of the current file followed by the buffered bytes are its complete logical content; this is the
simulation alone, for any program, reader and compression -/
theorem disk_plus_buffer_any (o : WalOpts) (c : Compression) (prog : List WalOp) :
    ∃ (full : List (List GoBytes)) (cur : List GoBytes) (D : Bytes),
      (full ++ [cur]).flatten = walRecords o c prog ∧
      dirAfterN (walEvents o c prog) =
        completeDir (fileOf c o.ct (full ++ [cur])) full.length ++ [(full.length, D)] ∧
      D ++ (Wal.run o c prog).1.fw.w.buf = fileBytes c o.ct cur := by
  obtain ⟨cl, cu, g1, g2, _⟩ := Wal.Moves.run_init o c prog
  obtain ⟨D, hD, hDb⟩ := g1.sim.dir
  exact ⟨cl, cu, D, g2, by rw [dirAfterN, hD, (Wal.Ext.refl c o.ct cl cu).dir], hDb⟩

/-- the same under the hypotheses that the other theorems about a run carry (it uses none of them) -/
theorem disk_plus_buffer (o : WalOpts) (c : Compression) (cOf : Nat → Compression)
    (hra : ReaderAgrees cOf o c) (hl : LawfulC c) (prog : List WalOp) (hpf : ProgFits c prog) :
    ∃ (full : List (List GoBytes)) (cur : List GoBytes) (D : Bytes),
      (full ++ [cur]).flatten = walRecords o c prog ∧
      dirAfterN (walEvents o c prog) =
        completeDir (fileOf c o.ct (full ++ [cur])) full.length ++ [(full.length, D)] ∧
      D ++ (Wal.run o c prog).1.fw.w.buf = fileBytes c o.ct cur := by
  have _ := hra; have _ := hl; have _ := hpf  -- not needed
  exact disk_plus_buffer_any o c prog

end SST.Proofs.WalAbs
