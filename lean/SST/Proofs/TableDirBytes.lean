/-
Proofs for SST/Model/TableDirBytes.lean: the directory after every prefix of a table writer's calls, one lemma per phase:
the image during `Open` (`prefix_open`) and from the metadata write on (`prefix_final`); in between — the records and
`Close` up to the metadata write — only that the directory exists and meta.pb.bin is empty (`prefix_mid`), and the whole image
just before the metadata write (`prefix_preMeta`).
-/
import SST.Model.TableDirBytes
import SST.Proofs.SSTableWriter
namespace SST.Proofs.TblDir
open SST SST.TblDir Generated SST.Proofs SST.Proofs.Sst

@[simp] theorem set_dir (img : DirImage) (f : File) (o : Option Bytes) : (img.set f o).dir = img.dir := by
  cases f <;> rfl

@[simp] theorem get_set_same (img : DirImage) (f : File) (o : Option Bytes) : (img.set f o).get f = o := by
  cases f <;> rfl

theorem get_set_other (img : DirImage) (f g : File) (o : Option Bytes) (h : g ≠ f) : (img.set f o).get g = img.get g := by
  cases f <;> cases g <;> first | rfl | exact absurd rfl h

@[simp] theorem set_set (img : DirImage) (f : File) (a b : Option Bytes) : (img.set f a).set f b = img.set f b := by
  cases f <;> rfl

theorem set_get_self (img : DirImage) (f : File) : img.set f (img.get f) = img := by
  cases f <;> rfl

theorem applyCalls_append (img : DirImage) (a b : List FsCall) :
    applyCalls img (a ++ b) = applyCalls (applyCalls img a) b := by
  unfold applyCalls; rw [List.foldl_append]

@[simp] theorem applyCalls_nil (img : DirImage) : applyCalls img [] = img := rfl

@[simp] theorem applyCalls_cons (img : DirImage) (c : FsCall) (cs : List FsCall) :
    applyCalls img (c :: cs) = applyCalls (applyCall img c) cs := rfl

theorem apply_write (img : DirImage) (f : File) (old bs : Bytes) (hd : img.dir = true) (hg : img.get f = some old) :
    applyCall img (.write f bs) = img.set f (some (old ++ bs)) := by
  simp [applyCall, hd, hg]

theorem emit_apply (f : File) (stream : Bytes) (avail : Nat) :
    ∀ (ns : List Nat) (w : Nat) (img : DirImage), img.dir = true → img.get f = some (stream.take w) →
      applyCalls img (emit f stream avail ns w).1 = img.set f (some (stream.take (emit f stream avail ns w).2)) := by
  intro ns
  induction ns with
  | nil => intro w img _ hg; simp [emit, ← hg, set_get_self]
  | cons n ns ih =>
    intro w img hd hg
    simp only [emit]
    by_cases hm : min n (avail - w) = 0
    · rw [if_pos hm, hm, Nat.add_zero]
      exact ih w img hd hg
    · rw [if_neg hm, applyCalls_cons, apply_write img f _ _ hd hg, ← List.take_add]
      rw [ih (w + min n (avail - w)) _ (by simp [hd]) (by simp), set_set]

theorem emit_mem (f : File) (stream : Bytes) (avail : Nat) :
    ∀ (ns : List Nat) (w : Nat), ∀ c ∈ (emit f stream avail ns w).1, ∃ bs, c = .write f bs := by
  intro ns
  induction ns with
  | nil => intro w c hc; simp [emit] at hc
  | cons n ns ih =>
    intro w c hc
    simp only [emit] at hc
    split at hc
    · exact ih _ c hc
    · rcases List.mem_cons.mp hc with rfl | hc
      · exact ⟨_, rfl⟩
      · exact ih _ c hc

theorem body_apply (cfg : SstCfg) (T : Table) :
    ∀ (kvs : List (Bytes × GoBytes)) (w : SstW) (chs : List (List Nat × List Nat)) (dw iw : Nat) (img : DirImage),
      img.dir = true → img.data = some (T.data.take dw) → img.index = some (T.index.take iw) →
      applyCalls img (bodyCalls cfg T w kvs chs dw iw).1 =
        { img with data := some (T.data.take (bodyCalls cfg T w kvs chs dw iw).2.1),
                   index := some (T.index.take (bodyCalls cfg T w kvs chs dw iw).2.2) } := by
  intro kvs
  induction kvs with
  | nil =>
    intro w chs dw iw img _ h1 h2
    simp only [bodyCalls, applyCalls_nil]
    rw [← h1, ← h2]
  | cons p rest ih =>
    intro w chs dw iw img hd h1 h2
    obtain ⟨k, v⟩ := p
    simp only [bodyCalls]
    rw [applyCalls_append, applyCalls_append]
    rw [emit_apply .data T.data _ _ dw img hd h1]
    rw [emit_apply .index T.index _ _ iw _ (by simp [hd]) (by simpa [DirImage.set, DirImage.get] using h2)]
    rw [ih _ _ _ _ _ (by simp [hd]) (by simp [DirImage.set]) (by simp [DirImage.set])]
    simp [DirImage.set]

theorem body_mem (cfg : SstCfg) (T : Table) :
    ∀ (kvs : List (Bytes × GoBytes)) (w : SstW) (chs : List (List Nat × List Nat)) (dw iw : Nat),
      ∀ c ∈ (bodyCalls cfg T w kvs chs dw iw).1, (∃ bs, c = .write .data bs) ∨ (∃ bs, c = .write .index bs) := by
  intro kvs
  induction kvs with
  | nil => intro w chs dw iw c hc; simp [bodyCalls] at hc
  | cons p rest ih =>
    intro w chs dw iw c hc
    obtain ⟨k, v⟩ := p
    simp only [bodyCalls, List.mem_append] at hc
    rcases hc with (hc | hc) | hc
    · exact .inl (emit_mem _ _ _ _ _ c hc)
    · exact .inr (emit_mem _ _ _ _ _ c hc)
    · exact ih _ _ _ _ c hc

theorem flush_apply (f : File) (s : Bytes) (w : Nat) (img : DirImage) (hd : img.dir = true)
    (hg : img.get f = some (s.take w)) : applyCalls img (flushCall f s w) = img.set f (some s) := by
  unfold flushCall
  by_cases he : (s.drop w).isEmpty = true
  · rw [if_pos he, applyCalls_nil, ← List.take_of_length_le (List.drop_eq_nil_iff.mp (List.isEmpty_iff.mp he)), ← hg,
      set_get_self]
  · rw [if_neg he, applyCalls_cons, applyCalls_nil, apply_write img f _ _ hd hg, List.take_append_drop]

theorem flush_mem (f : File) (s : Bytes) (w : Nat) : ∀ c ∈ flushCall f s w, ∃ bs, c = .write f bs := by
  intro c hc
  unfold flushCall at hc
  split at hc
  · cases hc
  · simp at hc; exact ⟨_, hc⟩

theorem bloom_writes (chunks : List Bytes) :
    ∀ (img : DirImage) (old : Bytes), img.dir = true → img.bloom = some old →
      applyCalls img (chunks.map (.write .bloom)) = { img with bloom := some (old ++ chunks.flatten) } := by
  induction chunks with
  | nil => intro img old _ hb; simp [← hb]
  | cons c cs ih =>
    intro img old hd hb
    rw [List.map_cons, applyCalls_cons, apply_write img .bloom old c hd hb]
    rw [ih _ (old ++ c) (by simp [hd]) (by simp [DirImage.set])]
    simp [DirImage.set, List.append_assoc]

/-- a call that keeps the directory and leaves meta.pb.bin as it is (`safe_step`): a `close`, or a `write` / `create` of
another file.  Every call between the creation of meta.pb.bin and the metadata write is one (`mid_safe`). -/
def Safe : FsCall → Prop
  | .write f _ => f ≠ .metaf
  | .create f _ => f ≠ .metaf
  | .close _ => True
  | _ => False

theorem safe_step (m : Option Bytes) (img : DirImage) (c : FsCall) (hs : Safe c)
    (h : img.dir = true ∧ img.metaf = m) : (applyCall img c).dir = true ∧ (applyCall img c).metaf = m := by
  have hset : ∀ f o, f ≠ .metaf → (img.set f o).dir = true ∧ (img.set f o).metaf = m := fun f o hf =>
    ⟨(set_dir img f o).trans h.1, (get_set_other img f .metaf o hf.symm).trans h.2⟩
  cases c with
  | close f => exact h
  | create f t =>
    simp only [applyCall, h.1, Bool.not_true, Bool.false_eq_true, if_false]
    cases img.get f <;> cases t <;> first | exact h | exact hset f _ hs
  | write f bs =>
    simp only [applyCall, h.1, Bool.not_true, Bool.false_eq_true, if_false]
    cases img.get f <;> first | exact h | exact hset f _ hs
  | _ => exact False.elim hs

/-- whatever `WriteNext` accepted: data.rio and index.rio of the written table begin with the headers `Open` wrote -/
theorem writeTable_take_header (cfg : SstCfg) (kvs : List KV) :
    (writeTable cfg kvs).data.take fileHeaderSize = fileHeader currentVersion cfg.dct ∧
    (writeTable cfg kvs).index.take fileHeaderSize = fileHeader currentVersion cfg.ict := by
  rw [writeTable, close_run_eq]
  exact ⟨List.take_left' (fileHeader_length _ _), List.take_left' (fileHeader_length _ _)⟩

/-- the directory when `Open` of the stream writer has returned -/
def openImg (cfg : SstCfg) : DirImage :=
  { dir := true, index := some (fileHeader currentVersion cfg.ict), data := some (fileHeader currentVersion cfg.dct),
    metaf := some [] }

theorem apply_open (cfg : SstCfg) : applyCalls {} (.mkdir :: openCalls cfg) = openImg cfg := by
  simp [openCalls, applyCall, DirImage.get, DirImage.set, openImg]

/-- the calls between `Open` and the metadata write -/
def midCalls (cfg : SstCfg) (ch : Chunking) (kvs : List KV) : List FsCall :=
  let T := writeTable cfg kvs
  let b := bodyCalls cfg T (SstW.open cfg) kvs ch.recs fileHeaderSize fileHeaderSize
  b.1 ++ closeCalls T ch.bloom b.2.1 b.2.2

theorem flushCalls_eq (cfg : SstCfg) (ch : Chunking) (kvs : List KV) :
    flushCalls cfg ch kvs = (.mkdir :: openCalls cfg) ++ midCalls cfg ch kvs ++ metaCalls (writeTable cfg kvs) := by
  simp [flushCalls, writerCalls, writerInit, midCalls, List.append_assoc]

theorem mid_safe (cfg : SstCfg) (ch : Chunking) (kvs : List KV) : ∀ c ∈ midCalls cfg ch kvs, Safe c := by
  intro c hc
  simp only [midCalls, closeCalls, List.mem_append, List.mem_cons, List.mem_map, List.not_mem_nil, or_false] at hc
  rcases hc with hc | ((((((hc | hc) | hc) | hc) | hc) | hc) | hc)
  · rcases body_mem _ _ _ _ _ _ _ c hc with ⟨bs, rfl⟩ | ⟨bs, rfl⟩ <;> simp [Safe]
  · obtain ⟨bs, rfl⟩ := flush_mem _ _ _ c hc; simp [Safe]
  · subst hc; simp [Safe]
  · obtain ⟨bs, rfl⟩ := flush_mem _ _ _ c hc; simp [Safe]
  · subst hc; simp [Safe]
  · subst hc; simp [Safe]
  · obtain ⟨bs, _, rfl⟩ := hc; simp [Safe]
  · subst hc; simp [Safe]

/-- everything written, metadata still empty -/
def preMetaImg (cfg : SstCfg) (ch : Chunking) (kvs : List KV) : DirImage :=
  { dir := true, index := some (writeTable cfg kvs).index, data := some (writeTable cfg kvs).data,
    metaf := some [], bloom := some ch.bloom.flatten }

/-- the directory a complete writer run leaves -/
def finalImg (cfg : SstCfg) (ch : Chunking) (kvs : List KV) : DirImage :=
  { preMetaImg cfg ch kvs with metaf := some (writeTable cfg kvs).metaf }

theorem apply_mid (cfg : SstCfg) (ch : Chunking) (kvs : List KV) :
    applyCalls (openImg cfg) (midCalls cfg ch kvs) = preMetaImg cfg ch kvs := by
  simp only [midCalls, closeCalls]
  rw [applyCalls_append]
  rw [body_apply cfg _ kvs _ _ _ _ (openImg cfg) rfl (by simp [openImg, (writeTable_take_header cfg kvs).1])
    (by simp [openImg, (writeTable_take_header cfg kvs).2])]
  simp only [applyCalls_append]
  rw [flush_apply .index _ _ _ rfl (by simp [DirImage.get])]
  simp only [applyCalls_cons, applyCalls_nil, applyCall]
  rw [flush_apply .data _ _ _ (by simp [openImg]) (by simp [DirImage.get, DirImage.set])]
  rw [bloom_writes ch.bloom _ [] (by simp [DirImage.set, DirImage.get, openImg])
    (by simp [DirImage.set, DirImage.get, openImg])]
  simp [DirImage.set, DirImage.get, openImg, preMetaImg]

theorem apply_meta (cfg : SstCfg) (ch : Chunking) (kvs : List KV) (k : Nat) (hk : 1 ≤ k) :
    applyCalls (preMetaImg cfg ch kvs) ((metaCalls (writeTable cfg kvs)).take k) = finalImg cfg ch kvs := by
  match k, hk with
  | 1, _ => simp [metaCalls, applyCall, preMetaImg, finalImg, DirImage.get, DirImage.set]
  | k + 2, _ => simp [metaCalls, applyCall, preMetaImg, finalImg, DirImage.get, DirImage.set]

/-- 6 = `mkdir` and the five calls of `Open` (`openCalls`), 2 = the metadata write and the `close` of meta.pb.bin
(`metaCalls`); the 5 and 6 of `evIdx` and of the window lemmas are positions among the first six -/
theorem flushCalls_length (cfg : SstCfg) (ch : Chunking) (kvs : List KV) :
    (flushCalls cfg ch kvs).length = 6 + (midCalls cfg ch kvs).length + 2 := by
  rw [flushCalls_eq, List.length_append, List.length_append]; rfl

theorem prefix_open (cfg : SstCfg) (ch : Chunking) (kvs : List KV) (n : Nat) (h : n ≤ 6) :
    applyCalls {} ((flushCalls cfg ch kvs).take n) = applyCalls {} ((FsCall.mkdir :: openCalls cfg).take n) := by
  rw [flushCalls_eq, List.append_assoc, List.take_append_of_le_length h]

theorem prefix_after_open (cfg : SstCfg) (ch : Chunking) (kvs : List KV) (k : Nat) :
    applyCalls {} ((flushCalls cfg ch kvs).take (6 + k)) =
      applyCalls (openImg cfg) ((midCalls cfg ch kvs ++ metaCalls (writeTable cfg kvs)).take k) := by
  rw [flushCalls_eq, List.append_assoc, show 6 + k = (FsCall.mkdir :: openCalls cfg).length + k from rfl,
    List.take_length_add_append, applyCalls_append, apply_open]

theorem prefix_mid (cfg : SstCfg) (ch : Chunking) (kvs : List KV) (n : Nat) (h6 : 6 ≤ n)
    (hn : n + 1 < (flushCalls cfg ch kvs).length) :
    (applyCalls {} ((flushCalls cfg ch kvs).take n)).dir = true ∧
      (applyCalls {} ((flushCalls cfg ch kvs).take n)).metaf = some [] := by
  obtain ⟨k, rfl⟩ := Nat.exists_eq_add_of_le h6
  rw [flushCalls_length] at hn
  rw [prefix_after_open, List.take_append_of_le_length (by omega)]
  exact List.foldlRecOn _ applyCall ⟨rfl, rfl⟩
    fun img h c hc => safe_step (some []) img c (mid_safe cfg ch kvs c (List.mem_of_mem_take hc)) h

theorem prefix_meta (cfg : SstCfg) (ch : Chunking) (kvs : List KV) (j : Nat) :
    applyCalls {} ((flushCalls cfg ch kvs).take (6 + (midCalls cfg ch kvs).length + j)) =
      applyCalls (preMetaImg cfg ch kvs) ((metaCalls (writeTable cfg kvs)).take j) := by
  rw [Nat.add_assoc, prefix_after_open, List.take_length_add_append, applyCalls_append, apply_mid]

/-- everything but the metadata write and the last `close` -/
theorem prefix_preMeta (cfg : SstCfg) (ch : Chunking) (kvs : List KV) :
    applyCalls {} ((flushCalls cfg ch kvs).take ((flushCalls cfg ch kvs).length - 2)) = preMetaImg cfg ch kvs := by
  rw [flushCalls_length, Nat.add_sub_cancel, ← Nat.add_zero (6 + _), prefix_meta]
  rfl

theorem prefix_final (cfg : SstCfg) (ch : Chunking) (kvs : List KV) (n : Nat)
    (hn : (flushCalls cfg ch kvs).length ≤ n + 1) :
    applyCalls {} ((flushCalls cfg ch kvs).take n) = finalImg cfg ch kvs := by
  rw [flushCalls_length] at hn
  obtain ⟨j, rfl⟩ := Nat.exists_eq_add_of_le (show 6 + (midCalls cfg ch kvs).length + 1 ≤ n by omega)
  rw [Nat.add_assoc _ 1 j, prefix_meta]
  exact apply_meta cfg ch kvs _ (Nat.le_add_right 1 j)

end SST.Proofs.TblDir
