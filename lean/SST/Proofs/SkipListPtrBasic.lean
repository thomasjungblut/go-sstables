/-
Pointer-level skip list (SST/Model/SkipListPtr.lean): pointer chains from a pointer (`Seg`) and from a
reference (`Path`: the head and the nodes alike, as a statement about the pointers of one level only), the
splice of a new node into a chain (`Linked`, `path_splice`), and what `SetNext` does to the pointers
(`setNext_spec`) and leaves alone (`shape`).
-/
import SST.Model.SkipListPtr
namespace SST.SkipListPtr
open SST

variable {K V : Type}

/-- following the level-`level` pointers from `p` visits exactly the addresses `L` and ends at `q` -/
def Seg (arena : List (PNode K V)) (level : Nat) : Option Nat → List Nat → Option Nat → Prop
  | p, [], q => p = q
  | p, i :: is, q =>
    p = some i ∧ ∃ n, arena[i]? = some n ∧ ∃ r, n.next[level]? = some r ∧ Seg arena level r is q

theorem seg_append {arena : List (PNode K V)} {l : Nat} : ∀ (A B : List Nat) (p q : Option Nat),
    Seg arena l p (A ++ B) q ↔ ∃ r, Seg arena l p A r ∧ Seg arena l r B q := by
  intro A
  induction A with
  | nil => intro B p q; simp [Seg]
  | cons a A ih =>
    intro B p q
    simp only [List.cons_append, Seg, ih]
    constructor
    · rintro ⟨hp, n, hn, r, hr, r', h1, h2⟩; exact ⟨r', ⟨hp, n, hn, r, hr, h1⟩, h2⟩
    · rintro ⟨r', ⟨hp, n, hn, r, hr, h1⟩, h2⟩; exact ⟨hp, n, hn, r, hr, r', h1, h2⟩

theorem seg_head {arena : List (PNode K V)} {l : Nat} {p : Option Nat} {L : List Nat}
    (h : Seg arena l p L none) : p = L.head? := by
  cases L with
  | nil => exact h
  | cons i is => exact h.1

/-- the reference held by `x` / a `prevTable` slot for "last address of a chain prefix, else the head" -/
def lastRef : Option Nat → Ref
  | none => .head
  | some i => .node i

/-- From the reference `x`, the pointers `f` of one level (`f = (nextOf pl · l)`) visit exactly the addresses
`L` and end at `q`: a `Seg` that starts at a reference, so that the head and the nodes are treated alike and
a chain depends on the structure only through the pointers of its level. -/
def Path (f : Ref → Option (Option Nat)) : Ref → List Nat → Option Nat → Prop
  | x, [], q => f x = some q
  | x, i :: is, q => f x = some (some i) ∧ Path f (.node i) is q

theorem path_iff {pl : PList K V} {l : Nat} {L : List Nat} {q : Option Nat} : ∀ {x : Ref},
    Path (nextOf pl · l) x L q ↔ ∃ p, nextOf pl x l = some p ∧ Seg pl.arena l p L q := by
  induction L with
  | nil => exact ⟨fun h => ⟨q, h, rfl⟩, fun ⟨p, h, hpq⟩ => (show p = q from hpq) ▸ h⟩
  | cons i is ih =>
    intro x
    constructor
    · rintro ⟨h1, h2⟩
      obtain ⟨r, hr, hs⟩ := ih.1 h2
      obtain ⟨n, hn, hnr⟩ := Option.bind_eq_some_iff.1 hr
      exact ⟨some i, h1, rfl, n, hn, r, hnr, hs⟩
    · rintro ⟨p, hp, rfl, n, hn, r, hnr, hs⟩
      exact ⟨hp, ih.2 ⟨r, Option.bind_eq_some_iff.2 ⟨n, hn, hnr⟩, hs⟩⟩

theorem path_head_iff {pl : PList K V} {l : Nat} {L : List Nat} {q : Option Nat} :
    Path (nextOf pl · l) .head L q ↔ ∃ p, pl.head[l]? = some p ∧ Seg pl.arena l p L q :=
  path_iff

/-- the reference reached from `x` along the addresses `A` -/
def endRef (x : Ref) (A : List Nat) : Ref := (A.getLast?.map .node).getD x

theorem endRef_cons (x : Ref) (a : Nat) (A : List Nat) : endRef x (a :: A) = endRef (.node a) A := by
  rw [endRef, endRef, List.getLast?_cons]
  cases A.getLast? <;> rfl

theorem endRef_head (A : List Nat) : endRef .head A = lastRef A.getLast? := by
  rw [endRef]
  cases A.getLast? <;> rfl

theorem endRef_ne {x y : Ref} {A : List Nat} (hx : x ≠ y) (hA : ∀ j ∈ A, .node j ≠ y) :
    endRef x A ≠ y := by
  rw [endRef]
  cases h : A.getLast? with
  | none => exact hx
  | some a => exact hA a (List.mem_of_getLast? h)

/-- the pointer out of the end of a prefix `A` of a chain is the first address of the rest -/
theorem path_next_end {f : Ref → Option (Option Nat)} {x : Ref} {A B : List Nat}
    (h : Path f x (A ++ B) none) : f (endRef x A) = some B.head? := by
  induction A generalizing x with
  | nil =>
    cases B with
    | nil => exact h
    | cons i is => exact h.1
  | cons a A ih => rw [endRef_cons]; exact ih h.2

/-- a chain depends on the pointers only at its start, which may be renamed, and at its addresses -/
theorem path_frame {f f' : Ref → Option (Option Nat)} {x z : Ref} {L : List Nat} {q : Option Nat}
    (h0 : f' z = f x) (hf : ∀ j ∈ L, f' (.node j) = f (.node j)) (hp : Path f x L q) :
    Path f' z L q := by
  induction L generalizing x z with
  | nil => exact h0.trans hp
  | cons i is ih =>
    exact ⟨h0.trans hp.1,
      ih (hf i List.mem_cons_self) (fun j hj => hf j (List.mem_cons_of_mem _ hj)) hp.2⟩

/-- `x.SetNext(l, prev.Next(l)); prev.SetNext(l, x)` for the node `x` at `xi`, as a relation between the
pointers `f` of level `l` before and `f'` after -/
structure Linked (f f' : Ref → Option (Option Nat)) (prev : Ref) (xi : Nat) : Prop where
  atPrev : f' prev = some (some xi)
  atNew : f' (.node xi) = f prev
  other : ∀ y, y ≠ prev → y ≠ .node xi → f' y = f y

/-- linking a fresh node behind the end of the prefix `A` of a chain splices it in between `A` and `B` -/
theorem path_splice {f f' : Ref → Option (Option Nat)} {xi : Nat} {x : Ref} {A B : List Nat}
    (hp : Path f x (A ++ B) none) (hx : ∀ j ∈ xi :: (A ++ B), x ≠ .node j) (hnd : (A ++ B).Nodup)
    (hfresh : xi ∉ A ++ B) (hl : Linked f f' (endRef x A) xi) : Path f' x (A ++ xi :: B) none := by
  induction A generalizing x with
  | nil =>
    refine ⟨hl.atPrev, path_frame hl.atNew (fun j hj => hl.other _ ?_ ?_) hp⟩
    · exact (hx j (List.mem_cons_of_mem _ hj)).symm
    · intro hc; exact hfresh (Ref.node.inj hc ▸ hj)
  | cons a A ih =>
    rw [endRef_cons] at hl
    have hnd' := List.nodup_cons.1 hnd
    refine ⟨(hl.other x ?_ (hx xi List.mem_cons_self)).trans hp.1,
      ih hp.2 ?_ hnd'.2 (fun hc => hfresh (List.mem_cons_of_mem _ hc)) hl⟩
    · refine (endRef_ne (hx a (List.mem_cons_of_mem _ List.mem_cons_self)).symm fun j hj => ?_).symm
      exact (hx j (List.mem_cons_of_mem _ (List.mem_cons_of_mem _ (List.mem_append_left _ hj)))).symm
    · intro j hj hc
      rcases List.mem_cons.1 hj with rfl | hj
      · exact hfresh (Ref.node.inj hc ▸ List.mem_cons_self)
      · exact hnd'.1 (Ref.node.inj hc ▸ hj)

/-- `pl'` differs from `pl` only in level-`l` pointers -/
structure Upd (pl pl' : PList K V) (l : Nat) : Prop where
  mh : pl'.maxHeight = pl.maxHeight
  size : pl'.size = pl.size
  headLen : pl'.head.length = pl.head.length
  arenaLen : pl'.arena.length = pl.arena.length
  head : ∀ l', l' ≠ l → pl'.head[l']? = pl.head[l']?
  node : ∀ (i : Nat) (n : PNode K V), pl.arena[i]? = some n → ∃ n' : PNode K V, pl'.arena[i]? = some n' ∧ n'.key = n.key ∧
    n'.val = n.val ∧ n'.next.length = n.next.length ∧ ∀ l', l' ≠ l → n'.next[l']? = n.next[l']?

theorem Upd.refl (pl : PList K V) (l : Nat) : Upd pl pl l :=
  ⟨rfl, rfl, rfl, rfl, fun _ _ => rfl, fun _ n hn => ⟨n, hn, rfl, rfl, rfl, fun _ _ => rfl⟩⟩

theorem setNext_head {pl : PList K V} {l : Nat} {p : Option Nat} (h : l < pl.head.length) :
    setNext pl .head l p = some { pl with head := pl.head.set l p } := by
  simp [setNext, h]

theorem setNext_node {pl : PList K V} {i l : Nat} {p : Option Nat} {n : PNode K V}
    (hn : pl.arena[i]? = some n) (h : l < n.next.length) :
    setNext pl (.node i) l p
      = some { pl with arena := pl.arena.set i { n with next := n.next.set l p } } := by
  simp [setNext, hn, h]

/-- what no `SetNext` changes: the sizes and, of each node, everything but the pointers -/
def shape (pl : PList K V) : Nat × Nat × Nat × List (SNode K V) :=
  (pl.maxHeight, pl.size, pl.head.length, pl.arena.map toS)

theorem shape_sizes {pl pl' : PList K V} (h : shape pl' = shape pl) :
    pl'.maxHeight = pl.maxHeight ∧ pl'.size = pl.size ∧ pl'.head.length = pl.head.length :=
  ⟨congrArg (·.1) h, congrArg (·.2.1) h, congrArg (·.2.2.1) h⟩

theorem shape_node {pl pl' : PList K V} (h : shape pl' = shape pl) {i : Nat} {s : SNode K V} :
    (∃ n : PNode K V, pl.arena[i]? = some n ∧ s = toS n) →
      ∃ n : PNode K V, pl'.arena[i]? = some n ∧ s = toS n := by
  rintro ⟨n, hn, rfl⟩
  have : (pl'.arena.map toS)[i]? = some (toS n) := by
    rw [show pl'.arena.map toS = pl.arena.map toS from congrArg (·.2.2.2) h, List.getElem?_map, hn]; rfl
  rw [List.getElem?_map] at this
  obtain ⟨n', hn', hs⟩ := Option.map_eq_some_iff.1 this
  exact ⟨n', hn', hs.symm⟩

/-- `SetNext` on a reference that has a level-`l` pointer succeeds and changes that one pointer: the law of
`nextOf` after `setNext`, for the head and the arena nodes alike. -/
theorem setNext_spec {pl : PList K V} {x : Ref} {l : Nat} {r : Option Nat}
    (h : nextOf pl x l = some r) (p : Option Nat) :
    ∃ pl', setNext pl x l p = some pl' ∧ shape pl' = shape pl ∧ ∀ y,
      nextOf pl' y l = (if y = x then some p else nextOf pl y l) ∧
      ∀ l', l' ≠ l → nextOf pl' y l' = nextOf pl y l' := by
  cases x with
  | head =>
    have hl : l < pl.head.length := (List.getElem?_eq_some_iff.1 h).1
    refine ⟨_, setNext_head hl, by rw [shape, shape, List.length_set], fun y => ?_⟩
    cases y with
    | head =>
      exact ⟨(List.getElem?_set_self hl).trans (if_pos rfl).symm,
        fun _ hl' => List.getElem?_set_ne (Ne.symm hl')⟩
    | node j => exact ⟨(if_neg Ref.noConfusion).symm, fun _ _ => rfl⟩
  | node i =>
    obtain ⟨n, hn, hnr⟩ := Option.bind_eq_some_iff.1 h
    have hl : l < n.next.length := (List.getElem?_eq_some_iff.1 hnr).1
    obtain ⟨hi, rfl⟩ := List.getElem?_eq_some_iff.1 hn
    refine ⟨_, setNext_node hn hl, ?_, fun y => ?_⟩
    · have : toS { pl.arena[i] with next := pl.arena[i].next.set l p }
          = (pl.arena.map toS)[i]'(by simpa using hi) := by simp [toS]
      simp only [shape, List.map_set, this, List.set_getElem_self]
    · cases y with
      | head => exact ⟨(if_neg Ref.noConfusion).symm, fun _ _ => rfl⟩
      | node j =>
        show ((pl.arena.set i _)[j]?).bind _ = _ ∧ ∀ l', l' ≠ l → ((pl.arena.set i _)[j]?).bind _ = _
        by_cases hji : j = i
        · subst hji
          rw [List.getElem?_set_self hi]
          exact ⟨(List.getElem?_set_self hl).trans (if_pos rfl).symm,
            fun _ hl' => (List.getElem?_set_ne (Ne.symm hl')).trans (by rw [nextOf, hn]; rfl)⟩
        · rw [List.getElem?_set_ne (Ne.symm hji)]
          exact ⟨(if_neg fun hc => hji (Ref.node.inj hc)).symm, fun _ _ => rfl⟩

end SST.SkipListPtr
