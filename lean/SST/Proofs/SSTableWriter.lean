/-
Proofs for the sstable stream writer (C15): the invariant tying the writer state to the accepted pairs,
for all call programs and all fault masks.  First, where writer and readers meet: `Open` accepts the header the
writer puts in front of a file (`openSeq_file`, `openMmap_file`; the flag file of a compaction directory is opened
the same way).
-/
import SST.Spec.SSTable
import SST.Proofs.RecordIO
namespace SST.Proofs.Sst
open SST Generated SST.Proofs

theorem parse_fileHeader (ct : Nat) (rest : Bytes) (hct : ct ≤ maxCompression) :
    parseFileHeader (fileHeader currentVersion ct ++ rest) = .ok (currentVersion, ct) :=
  file_header_accepted currentVersion ct rest ⟨by decide, Nat.le_refl _⟩ hct

/-- `Open` of a file whose header parses, stated for an arbitrary `file` (for `fileHeader … ++ rest`: `openSeq_file`) -/
theorem openSeq_of_parse (comps : Nat → Compression) (file : Bytes) (ct : Nat)
    (h : parseFileHeader file = .ok (currentVersion, ct)) :
    openSeq comps file = .ok (comps ct, file.drop fileHeaderSize) := by
  unfold openSeq
  rw [h]
  simp

theorem openMmap_of_parse (comps : Nat → Compression) (file : Bytes) (ct : Nat)
    (h : parseFileHeader file = .ok (currentVersion, ct)) :
    openMmap comps file = .ok (comps ct) := by
  -- a file shorter than a header does not parse
  have hlen : ¬ file.length < fileHeaderSize := fun hl => by
    unfold parseFileHeader at h
    rw [if_pos hl] at h
    split at h <;> cases h
  unfold openMmap
  rw [if_neg hlen, h]
  simp

theorem openSeq_file (comps : Nat → Compression) (ct : Nat) (rest : Bytes) (hct : ct ≤ maxCompression) :
    openSeq comps (fileHeader currentVersion ct ++ rest) = .ok (comps ct, rest) := by
  rw [openSeq_of_parse comps _ ct (parse_fileHeader ct rest hct), drop_fileHeader]

theorem openMmap_file (comps : Nat → Compression) (ct : Nat) (rest : Bytes) (hct : ct ≤ maxCompression) :
    openMmap comps (fileHeader currentVersion ct ++ rest) = .ok (comps ct) :=
  openMmap_of_parse comps _ ct (parse_fileHeader ct rest hct)

theorem openMmap_header (comps : Nat → Compression) (ct : Nat) (hct : ct ≤ maxCompression) :
    openMmap comps (fileHeader currentVersion ct) = .ok (comps ct) := by
  have h := openMmap_file comps ct [] hct
  rw [List.append_nil] at h
  exact h

theorem openMmap_nil (comps : Nat → Compression) : openMmap comps [] = .error .eof := by
  simp [openMmap, fileHeaderSize]

theorem entriesFrom_append (dc : Compression) (a : List KV) (k : Bytes) (v : GoBytes) :
    ∀ off, entriesFrom dc off (a ++ [(k, v)]) =
      entriesFrom dc off a ++ [(k, ⟨off + (encAll dc (a.map (·.2))).length, valueSum v⟩)] := by
  induction a with
  | nil => intro off; simp [entriesFrom]
  | cons p a ih =>
    intro off
    obtain ⟨k', v'⟩ := p
    simp only [List.cons_append, entriesFrom, ih, List.map_cons, encAll_cons, List.length_append]
    simp [Nat.add_assoc]

/-- entry `i` holds key `i`, the checksum of value `i` and the offset of record `i` of the data file in the terms of
SST/Spec/RecordIO.lean (`offsetOf`, see `entriesOf_mapIdx`) -/
theorem entriesFrom_mapIdx (dc : Compression) : ∀ (l : List KV) (off : Nat),
    entriesFrom dc off l =
      l.mapIdx fun i p => (p.1, (⟨off + (encAll dc ((l.map (·.2)).take i)).length, valueSum p.2⟩ : IndexVal)) := by
  intro l
  induction l with
  | nil => intro _; rfl
  | cons p l ih =>
    intro off
    obtain ⟨k, v⟩ := p
    rw [entriesFrom, ih, List.mapIdx_cons]
    simp only [List.map_cons, List.take_zero, encAll_nil, List.length_nil, Nat.add_zero, List.take_succ_cons,
      encAll_cons, List.length_append, Nat.add_assoc]

theorem entriesOf_mapIdx (dc : Compression) (kvs : List KV) :
    entriesOf dc kvs = kvs.mapIdx fun i p => (p.1, (⟨offsetOf dc (kvs.map (·.2)) i, valueSum p.2⟩ : IndexVal)) :=
  entriesFrom_mapIdx dc kvs fileHeaderSize

theorem entriesFrom_length (dc : Compression) (a : List KV) : ∀ off, (entriesFrom dc off a).length = a.length :=
  fun off => by rw [entriesFrom_mapIdx, List.length_mapIdx]

theorem entriesFrom_getElem (dc : Compression) (l : List KV) (off i : Nat) (hi : i < l.length) :
    ((entriesFrom dc off l)[i]'(by rw [entriesFrom_length]; exact hi)).2 =
      ⟨off + (encAll dc ((l.take i).map (·.2))).length, valueSum l[i].2⟩ := by
  simp only [entriesFrom_mapIdx, List.getElem_mapIdx, List.map_take]

/-- the accumulated metadata after the accepted pairs `acc` -/
def mdOf (acc : List KV) : Meta :=
  { version := sstVersion, numRecords := acc.length, minKey := acc.head?.map (·.1),
    nullValues := (acc.filter (·.2.isNone)).length }

/-- writer invariant: both recordio writers hold exactly the accepted pairs, the last key is the last
ACCEPTED key, the metadata accumulator counts the accepted pairs -/
structure SInv (cfg : SstCfg) (acc : List KV) (w : SstW) : Prop where
  data : WInv cfg.dc cfg.dct (acc.map (·.2)) w.data
  index : WInv cfg.ic cfg.ict ((entriesOf cfg.dc acc).map indexRecOf) w.index
  lastKey : w.lastKey = acc.getLast?.map (·.1)
  md : w.md = mdOf acc

theorem orderCheck_eq (cfg : SstCfg) (acc : List KV) (w : SstW) (h : SInv cfg acc w) (key : Bytes) :
    w.orderCheck cfg key =
      match acc.getLast? with
      | some l =>
        (match cfg.cmp l.1 key with
         | .eq => some .dup
         | .gt => some .desc
         | .lt => none)
      | none => none := by
  unfold SstW.orderCheck
  rw [h.lastKey]
  cases acc.getLast? <;> rfl

theorem orderCheck_some {cfg : SstCfg} {w : SstW} {key : Bytes} {r : WRes} (h : w.orderCheck cfg key = some r) :
    r = .dup ∨ r = .desc := by
  unfold SstW.orderCheck at h
  cases hl : w.lastKey with
  | none => simp only [hl] at h; cases h
  | some lk =>
    simp only [hl] at h
    cases hc : cfg.cmp lk key with
    | lt => simp only [hc] at h; cases h
    | eq => simp only [hc] at h; cases h; exact Or.inl rfl
    | gt => simp only [hc] at h; cases h; exact Or.inr rfl

theorem specRes_eq_ok_iff (cmp : Bytes → Bytes → Ordering) (acc : List KV) (c : Call) :
    specRes cmp acc c = .ok ↔ c.fault = .none ∧ mayFollow cmp acc c.key = true := by
  unfold specRes mayFollow
  cases acc.getLast? with
  | none => simp
  | some l => cases hc : cmp l.1 c.key <;> simp [hc]

theorem specResults_ok_noFault (cmp : Bytes → Bytes → Ordering) (cs : List Call) : ∀ acc : List KV,
    (∀ r ∈ specResults cmp acc cs, r = .ok) → ∀ c ∈ cs, c.fault = .none := by
  induction cs with
  | nil => exact fun _ _ _ hc => nomatch hc
  | cons c cs ih =>
    intro acc h
    obtain ⟨h1, h2⟩ := List.forall_mem_cons.mp h
    exact List.forall_mem_cons.mpr ⟨((specRes_eq_ok_iff cmp acc c).mp h1).1, ih _ h2⟩

theorem find_ne_ok_none_iff (rs : List WRes) : rs.find? (· ≠ .ok) = none ↔ ∀ r ∈ rs, r = .ok := by
  simp [List.find?_eq_none]

/-- an accepted call hands its key to the bloom filter -/
theorem writeNext_ok_bloom (cfg : SstCfg) (w : SstW) (c : Call) (h : (w.writeNext cfg c.key c.value c.fault).2 = .ok) :
    (w.writeNext cfg c.key c.value c.fault).1.bloomKeys = w.bloomKeys ++ [c.key] := by
  unfold SstW.writeNext at h ⊢
  cases ho : w.orderCheck cfg c.key with
  | none => unfold SstW.writeBody; cases c.fault <;> rfl
  | some r =>
    rw [ho] at h
    rcases orderCheck_some ho with rfl | rfl <;> cases h

theorem run_bloomKeys (cfg : SstCfg) : ∀ (cs : List Call) (w : SstW), (∀ r ∈ (w.run cfg cs).2, r = .ok) →
    (w.run cfg cs).1.bloomKeys = w.bloomKeys ++ cs.map (·.key)
  | [], w, _ => by simp [SstW.run]
  | c :: cs, w, h => by
    simp only [SstW.run, List.mem_cons, forall_eq_or_imp] at h ⊢
    rw [run_bloomKeys cfg cs _ h.2, writeNext_ok_bloom cfg w c h.1]
    simp

theorem seek_back (c : Compression) (ct : Nat) (rs : List GoBytes) (r : GoBytes) (w : WState)
    (h : WInv c ct rs w) :
    ∃ w', ((w.write c r).1).seek w.cur = .ok w' ∧ WInv c ct rs w' := by
  have h1 := WInv_write c ct rs w r h
  obtain ⟨w', hs, hi⟩ := WInv_seek c ct (rs ++ [r]) (w.write c r).1 rs.length h1
  have hoff : offsetOf c (rs ++ [r]) rs.length = w.cur := by
    simp [offsetOf, h.cur]
  rw [hoff] at hs
  refine ⟨w', hs, ?_⟩
  simpa using hi

theorem writeBody_spec (cfg : SstCfg) (acc : List KV) (w : SstW) (key : Bytes) (value : GoBytes) (fault : Fault)
    (h : SInv cfg acc w) :
    SInv cfg (if fault = Fault.none then acc ++ [(key, value)] else acc) (w.writeBody cfg key value fault).1 ∧
    (w.writeBody cfg key value fault).2 = (if fault = Fault.none then WRes.ok else WRes.io) := by
  cases fault with
  | data => exact ⟨⟨h.data, h.index, h.lastKey, h.md⟩, rfl⟩
  | index =>
    obtain ⟨w', hs, hi⟩ := seek_back cfg.dc cfg.dct _ value w.data h.data
    refine ⟨?_, rfl⟩
    simp only [SstW.writeBody, hs, reduceCtorEq, if_false]
    exact ⟨hi, h.index, h.lastKey, h.md⟩
  | none =>
    refine ⟨?_, rfl⟩
    simp only [SstW.writeBody, if_true]
    refine ⟨?_, ?_, ?_, ?_⟩
    · have := WInv_write cfg.dc cfg.dct _ w.data value h.data
      simpa using this
    · have hoff : (w.data.write cfg.dc value).2 = fileHeaderSize + (encAll cfg.dc (acc.map (·.2))).length :=
        h.data.cur
      have hw := WInv_write cfg.ic cfg.ict _ w.index
        (some (encIndexEntry key (w.data.write cfg.dc value).2 (valueSum value))) h.index
      have he : (entriesOf cfg.dc (acc ++ [(key, value)])).map indexRecOf =
          (entriesOf cfg.dc acc).map indexRecOf ++
            [some (encIndexEntry key (w.data.write cfg.dc value).2 (valueSum value))] := by
        rw [hoff]
        simp [entriesOf, entriesFrom_append, indexRecOf]
      rw [he]
      exact hw
    · simp
    · show ({ w.md with
                minKey := if w.lastKey.isNone then some key else w.md.minKey
                numRecords := w.md.numRecords + 1
                nullValues := if value.isNone then w.md.nullValues + 1 else w.md.nullValues } : Meta) = mdOf (acc ++ [(key, value)])
      rw [h.md, h.lastKey]
      unfold mdOf
      simp only [List.filter_append, List.length_append, List.head?_append]
      cases acc with
      | nil => cases value <;> simp
      | cons p rest =>
        have : ((p :: rest).getLast?.map (·.1)).isNone = false := by
          cases hgl : (p :: rest).getLast? with
          | none => exact absurd (List.getLast?_eq_none_iff.mp hgl) (by simp)
          | some x => rfl
        cases value <;> simp [this]

theorem writeNext_spec (cfg : SstCfg) (acc : List KV) (w : SstW) (c : Call) (h : SInv cfg acc w) :
    SInv cfg (acceptStep cfg.cmp acc c) (w.writeNext cfg c.key c.value c.fault).1 ∧
    (w.writeNext cfg c.key c.value c.fault).2 = specRes cfg.cmp acc c := by
  obtain ⟨key, value, fault⟩ := c
  have hb := writeBody_spec cfg acc w key value fault h
  simp only
  unfold SstW.writeNext
  rw [orderCheck_eq cfg acc w h key]
  unfold specRes acceptStep mayFollow
  cases hgl : acc.getLast? with
  | none => simpa using hb
  | some l =>
    cases hc : cfg.cmp l.1 key with
    | eq => simp only [hc]; simp; exact h
    | gt => simp only [hc]; simp; exact h
    | lt => simpa [hc] using hb

theorem run_spec (cfg : SstCfg) : ∀ (cs : List Call) (acc : List KV) (w : SstW), SInv cfg acc w →
    SInv cfg (acceptedFrom cfg.cmp acc cs) (w.run cfg cs).1 ∧
    (w.run cfg cs).2 = specResults cfg.cmp acc cs := by
  intro cs
  induction cs with
  | nil => intro acc w h; exact ⟨h, rfl⟩
  | cons c cs ih =>
    intro acc w h
    obtain ⟨h1, h2⟩ := writeNext_spec cfg acc w c h
    obtain ⟨h3, h4⟩ := ih _ _ h1
    simp only [SstW.run, acceptedFrom, specResults]
    exact ⟨h3, by rw [h2, h4]⟩

theorem close_spec (cfg : SstCfg) (acc : List KV) (w : SstW) (h : SInv cfg acc w) :
    w.close = tableOf cfg acc ∧ w.finalMeta = metaOf cfg acc := by
  obtain ⟨hd1, hd2⟩ := WInv_close _ _ _ _ h.data
  obtain ⟨hi1, hi2⟩ := WInv_close _ _ _ _ h.index
  have hm : w.finalMeta = metaOf cfg acc := by
    unfold SstW.finalMeta metaOf dataFileOf indexFileOf
    rw [h.md, h.lastKey, hd2, hi2, hd1, hi1]
    rfl
  refine ⟨?_, hm⟩
  unfold SstW.close tableOf
  rw [hm, hd1, hi1]
  rfl

theorem run_open_spec (cfg : SstCfg) (cs : List Call) :
    let w := ((SstW.open cfg).run cfg cs).1
    SInv cfg (accepted cfg.cmp cs) w ∧ ((SstW.open cfg).run cfg cs).2 = specResults cfg.cmp [] cs :=
  run_spec cfg cs [] _ ⟨WInv_init _ _, WInv_init _ _, rfl, rfl⟩

/-- whatever the program and its faults: `Close` writes the table of the accepted pairs, with their metadata -/
theorem close_run_eq (cfg : SstCfg) (cs : List Call) :
    ((SstW.open cfg).run cfg cs).1.close = tableOf cfg (accepted cfg.cmp cs) :=
  (close_spec cfg _ _ (run_open_spec cfg cs).1).1

theorem acceptStep_strictAsc (cmp : Bytes → Bytes → Ordering)
    (htr : ∀ a b c, cmp a b = .lt → cmp b c = .lt → cmp a c = .lt)
    (acc : List KV) (c : Call) (hs : StrictAsc cmp acc) : StrictAsc cmp (acceptStep cmp acc c) := by
  unfold acceptStep
  split
  · rename_i hc
    have hm := hc.2
    unfold mayFollow at hm
    refine List.pairwise_append.2 ⟨hs, List.pairwise_singleton _ _, fun y hy b hb => ?_⟩
    rw [List.mem_singleton.1 hb]
    cases hgl : acc.getLast? with
    | none => rw [List.getLast?_eq_none_iff.mp hgl] at hy; cases hy
    | some l =>
      -- the new key is above the last one, which is above all others
      rw [hgl] at hm
      have hlt : cmp l.1 c.key = .lt := beq_iff_eq.1 hm
      obtain ⟨ys, rfl⟩ := List.getLast?_eq_some_iff.1 hgl
      rcases List.mem_append.1 hy with h | h
      · exact htr _ _ _ ((List.pairwise_append.1 hs).2.2 y h l List.mem_cons_self) hlt
      · rw [List.mem_singleton.1 h]; exact hlt
  · exact hs

theorem acceptedFrom_strictAsc (cmp : Bytes → Bytes → Ordering)
    (htr : ∀ a b c, cmp a b = .lt → cmp b c = .lt → cmp a c = .lt) :
    ∀ (cs : List Call) (acc : List KV), StrictAsc cmp acc → StrictAsc cmp (acceptedFrom cmp acc cs) := by
  intro cs
  induction cs with
  | nil => intro acc h; exact h
  | cons c cs ih => intro acc h; exact ih _ (acceptStep_strictAsc cmp htr acc c h)

theorem accepted_strictAsc (cmp : Bytes → Bytes → Ordering)
    (htr : ∀ a b c, cmp a b = .lt → cmp b c = .lt → cmp a c = .lt) (cs : List Call) :
    StrictAsc cmp (accepted cmp cs) :=
  acceptedFrom_strictAsc cmp htr cs [] List.Pairwise.nil

theorem acceptStep_ascending (cmp : Bytes → Bytes → Ordering) (acc : List KV) (p : KV) (rest : List KV)
    (hs : StrictAsc cmp (acc ++ p :: rest)) :
    mayFollow cmp acc p.1 = true ∧ acceptStep cmp acc { key := p.1, value := p.2, fault := .none } = acc ++ [p] := by
  have hm : mayFollow cmp acc p.1 = true := by
    unfold mayFollow
    cases hgl : acc.getLast? with
    | none => rfl
    | some l =>
      exact beq_iff_eq.2 ((List.pairwise_append.mp hs).2.2 l (List.mem_of_getLast? hgl) p List.mem_cons_self)
  exact ⟨hm, if_pos ⟨rfl, hm⟩⟩

/-- a strictly ascending list, handed over call by call without faults, is accepted entirely, every call answered `ok` -/
theorem acceptedFrom_ascending (cmp : Bytes → Bytes → Ordering) :
    ∀ (kvs acc : List KV), StrictAsc cmp (acc ++ kvs) →
      acceptedFrom cmp acc (kvs.map fun p => { key := p.1, value := p.2, fault := .none }) = acc ++ kvs ∧
      ∀ r ∈ specResults cmp acc (kvs.map fun p => { key := p.1, value := p.2, fault := .none }), r = .ok := by
  intro kvs
  induction kvs with
  | nil => intro acc _; exact ⟨(List.append_nil acc).symm, fun _ hr => nomatch hr⟩
  | cons p kvs ih =>
    intro acc hs
    obtain ⟨hm, hstep⟩ := acceptStep_ascending cmp acc p kvs hs
    obtain ⟨h1, h2⟩ := ih (acc ++ [p]) (by rw [List.append_assoc]; exact hs)
    rw [List.map_cons, acceptedFrom, specResults, hstep, h1, List.append_assoc]
    exact ⟨rfl, List.forall_mem_cons.mpr ⟨(specRes_eq_ok_iff cmp acc _).mpr ⟨rfl, hm⟩, h2⟩⟩

theorem accepted_ascending (cmp : Bytes → Bytes → Ordering) (kvs : List KV) (hs : StrictAsc cmp kvs) :
    accepted cmp (kvs.map fun p => { key := p.1, value := p.2, fault := .none }) = kvs := by
  have := (acceptedFrom_ascending cmp kvs [] (by simpa using hs)).1
  simpa [accepted] using this

theorem writeTable_eq (cfg : SstCfg) (kvs : List KV) (hs : StrictAsc cfg.cmp kvs) :
    writeTable cfg kvs = tableOf cfg kvs := by
  rw [writeTable, close_run_eq, accepted_ascending cfg.cmp kvs hs]

theorem writer_accepts_iff_ascending (cfg : SstCfg) (cs : List Call) (key : Bytes) (value : GoBytes) :
    let w := ((SstW.open cfg).run cfg cs).1
    let acc := accepted cfg.cmp cs
    ((w.writeNext cfg key value .none).2 = .ok ↔
      (acc = [] ∨ ∃ l, acc.getLast? = some l ∧ cfg.cmp l.1 key = .lt)) ∧
    ((w.writeNext cfg key value .none).2 ≠ .ok →
      (w.writeNext cfg key value .none).1 = w ∧
      ((w.writeNext cfg key value .none).2 = .dup ∨ (w.writeNext cfg key value .none).2 = .desc)) := by
  intro w acc
  obtain ⟨hinv, _⟩ := run_open_spec cfg cs
  have hres := (writeNext_spec cfg acc w ⟨key, value, .none⟩ hinv).2
  simp only at hres
  constructor
  · rw [hres]
    unfold specRes
    cases hgl : acc.getLast? with
    | none => simp [List.getLast?_eq_none_iff.mp hgl]
    | some l =>
      have hne : acc ≠ [] := by intro h; rw [h] at hgl; cases hgl
      cases hc : cfg.cmp l.1 key <;> simp [hne, hc]
  · -- past the ordering check a fault-free call answers `ok`
    intro hne
    unfold SstW.writeNext at hne ⊢
    cases ho : w.orderCheck cfg key with
    | none => rw [ho] at hne; exact absurd rfl hne
    | some r => exact ⟨rfl, orderCheck_some ho⟩

/-- `SInv` says nothing of `bloomKeys`, so two writers with the same accepted pairs may differ there and in nothing
that answers, `Close` or the metadata show (a failed call has added its key to the filter: `fault_rolled_back`) -/
theorem SInv_indistinguishable (cfg : SstCfg) (acc : List KV) (w w' : SstW) (h : SInv cfg acc w) (h' : SInv cfg acc w')
    (cs : List Call) :
    (w'.run cfg cs).2 = (w.run cfg cs).2 ∧ (w'.run cfg cs).1.close = (w.run cfg cs).1.close ∧
    (w'.run cfg cs).1.finalMeta = (w.run cfg cs).1.finalMeta := by
  obtain ⟨i1, r1⟩ := run_spec cfg cs acc w h
  obtain ⟨i2, r2⟩ := run_spec cfg cs acc w' h'
  obtain ⟨c1, m1⟩ := close_spec cfg _ _ i1
  obtain ⟨c2, m2⟩ := close_spec cfg _ _ i2
  exact ⟨by rw [r1, r2], by rw [c1, c2], by rw [m1, m2]⟩

theorem fault_rolled_back (cfg : SstCfg) (cs : List Call) (key : Bytes) (value : GoBytes) (f : Fault)
    (hf : f ≠ .none) (cs' : List Call) :
    let w := ((SstW.open cfg).run cfg cs).1
    let w' := (w.writeNext cfg key value f).1
    (w.writeNext cfg key value f).2 ≠ .ok ∧
    w'.close = w.close ∧ w'.finalMeta = w.finalMeta ∧
    (w'.run cfg cs').2 = (w.run cfg cs').2 ∧
    (w'.run cfg cs').1.close = (w.run cfg cs').1.close ∧
    (w'.run cfg cs').1.finalMeta = (w.run cfg cs').1.finalMeta := by
  intro w w'
  obtain ⟨hinv, _⟩ := run_open_spec cfg cs
  obtain ⟨hinv', hres⟩ := writeNext_spec cfg (accepted cfg.cmp cs) w ⟨key, value, f⟩ hinv
  have hstep : acceptStep cfg.cmp (accepted cfg.cmp cs) ⟨key, value, f⟩ = accepted cfg.cmp cs :=
    if_neg fun h => hf h.1
  rw [hstep] at hinv'
  refine ⟨?_, ?_, ?_, SInv_indistinguishable cfg _ w w' hinv hinv' cs'⟩
  · rw [hres]
    exact fun h => hf ((specRes_eq_ok_iff _ _ _).1 h).1
  · exact (SInv_indistinguishable cfg _ w w' hinv hinv' []).2.1
  · exact (SInv_indistinguishable cfg _ w w' hinv hinv' []).2.2

end SST.Proofs.Sst
