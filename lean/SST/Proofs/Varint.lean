/-
The integer codings of Model/Bytes.lean.  Go's uvarint: the encoder's output read back (`uvarintDec_enc`), and the
decoder on arbitrary bytes in terms of the shape (`IsVar`) and value (`vval`) of the varint at their front; a shape
that is not zero-padded is the encoder's output (`canon_unique`), and one altered byte keeps the shape if it keeps
the continuation bit (`isVar_set`); a shape cut short makes the decoder run out, and with a zero byte behind it is a
shape again (`isVar_take_err`, `isVar_take_zero`); bounds on the encoded length.  Last, the 4-byte little-endian word
read back.
-/
import SST.Model.Bytes
namespace SST

theorem uvarintEnc_lt (n : Nat) (h : n < 128) : uvarintEnc n = [UInt8.ofNat n] := by
  rw [uvarintEnc]; simp [h]

theorem uvarintEnc_zero : uvarintEnc 0 = [0] := by
  rw [uvarintEnc_lt 0 (by omega)]; rfl

theorem uvarintEnc_ge (n : Nat) (h : ¬ n < 128) :
    uvarintEnc n = UInt8.ofNat (n % 128 + 128) :: uvarintEnc (n / 128) := by
  rw [uvarintEnc]; simp [h]

theorem uvarintEnc_ne_nil (n : Nat) : uvarintEnc n ≠ [] := by
  by_cases h : n < 128
  · rw [uvarintEnc_lt n h]; simp
  · rw [uvarintEnc_ge n h]; simp

theorem uvarintEnc_len_pos (n : Nat) : 0 < (uvarintEnc n).length :=
  List.length_pos_iff.mpr (uvarintEnc_ne_nil n)

theorem toNat_ofNat_lt (k : Nat) (h : k < 256) : (UInt8.ofNat k).toNat = k :=
  UInt8.toNat_ofNat_of_lt' h

/-- one more 7-bit group `q` on top of the low group `r` of an accumulated varint -/
theorem varint_acc (x r q s : Nat) : x + r * 2 ^ s + q * 2 ^ (s + 7) = x + (r + 128 * q) * 2 ^ s := by
  rw [Nat.pow_add]
  generalize 2 ^ s = p
  grind

theorem uvarintDecAux_overflow (bs : Bytes) (i x s : Nat) (h : 10 ≤ i) :
    uvarintDecAux bs i x s = .error .overflow := by
  cases bs <;> rw [uvarintDecAux, if_pos h]

theorem uvarintDecAux_last (b : UInt8) (bs : Bytes) (i x s : Nat) (hi : i < 10) (hb : b.toNat < 128) :
    uvarintDecAux (b :: bs) i x s =
      if i = 9 ∧ b.toNat > 1 then .error .overflow else .ok (x + b.toNat % 128 * 2 ^ s, i + 1) := by
  rw [uvarintDecAux, if_neg (Nat.not_le.mpr hi), if_pos hb, Nat.mod_eq_of_lt hb]

theorem uvarintDecAux_cont (b : UInt8) (bs : Bytes) (i x s : Nat) (hi : i < 10) (hb : 128 ≤ b.toNat) :
    uvarintDecAux (b :: bs) i x s = uvarintDecAux bs (i + 1) (x + b.toNat % 128 * 2 ^ s) (s + 7) := by
  have : b.toNat % 128 = b.toNat - 128 := by
    have := b.toNat_lt
    omega
  rw [uvarintDecAux, if_neg (Nat.not_le.mpr hi), if_neg (Nat.not_lt.mpr hb), this]

theorem uvarintDecAux_enc (n : Nat) : ∀ (rest : Bytes) (i x s : Nat), i ≤ 9 → n < 2 ^ (64 - 7 * i) →
    uvarintDecAux (uvarintEnc n ++ rest) i x s = .ok (x + n * 2 ^ s, i + (uvarintEnc n).length) := by
  induction n using Nat.strongRecOn with
  | _ n ih =>
    intro rest i x s hi hn
    -- a tenth byte holds the one bit that is left
    have h9 : i = 9 → n < 2 := fun h => by rw [h] at hn; exact hn
    by_cases h : n < 128
    · have hb : (UInt8.ofNat n).toNat = n := toNat_ofNat_lt n (by omega)
      rw [uvarintEnc_lt n h, List.singleton_append,
        uvarintDecAux_last _ _ _ _ _ (by omega) (by rw [hb]; exact h), hb, Nat.mod_eq_of_lt h,
        if_neg (fun h' => by have := h9 h'.1; omega)]
      rfl
    · have hb : (UInt8.ofNat (n % 128 + 128)).toNat = n % 128 + 128 := toNat_ofNat_lt _ (by omega)
      have hi8 : i ≤ 8 := by
        have := h9
        omega
      have hdiv : n / 128 < 2 ^ (64 - 7 * (i + 1)) := by
        rw [show 64 - 7 * i = (64 - 7 * (i + 1)) + 7 by omega, Nat.pow_add, Nat.mul_comm] at hn
        exact Nat.div_lt_of_lt_mul hn
      rw [uvarintEnc_ge n h, List.cons_append,
        uvarintDecAux_cont _ _ _ _ _ (by omega) (by rw [hb]; omega), hb,
        ih (n / 128) (Nat.div_lt_self (by omega) (by omega)) rest (i + 1) _ (s + 7) (by omega) hdiv,
        Nat.add_mod_right, Nat.mod_mod, varint_acc, Nat.mod_add_div, List.length_cons, Nat.add_assoc i 1,
        Nat.add_comm 1]

/-- `binary.ReadUvarint ∘ binary.PutUvarint = id` for every 64-bit value, whatever follows -/
theorem uvarintDec_enc (n : Nat) (rest : Bytes) (hn : n < 2 ^ 64) :
    uvarintDec (uvarintEnc n ++ rest) = .ok (n, (uvarintEnc n).length) := by
  have := uvarintDecAux_enc n rest 0 0 0 (by omega) (by simpa using hn)
  simpa [uvarintDec] using this

theorem uvarintDecAux_err : ∀ (w : Bytes) (i x sh : Nat) (e : Err), uvarintDecAux w i x sh = .error e →
    e = .eof ∨ e = .unexpectedEof ∨ e = .overflow := by
  intro w
  induction w with
  | nil =>
    intro i x sh e h
    simp only [uvarintDecAux] at h
    split at h
    · cases h; simp
    · split at h <;> cases h <;> simp
  | cons b bs ih =>
    intro i x sh e h
    simp only [uvarintDecAux] at h
    split at h
    · cases h; simp
    · split at h
      · split at h
        · cases h; simp
        · cases h
      · exact ih _ _ _ _ h

theorem uvarintDec_zero (l : Bytes) : uvarintDec (0 :: l) = .ok (0, 1) := by
  simp [uvarintDec, uvarintDecAux]

end SST

namespace SST.Proofs.Legacy

theorem uvarintDec_nil : uvarintDec [] = .error .eof := by
  simp [uvarintDec, uvarintDecAux]

end SST.Proofs.Legacy

namespace SST.Proofs
open SST

/-- value of a varint's bytes (7 low bits each, little endian) -/
def vval : Bytes → Nat
  | [] => 0
  | b :: bs => b.toNat % 128 + 128 * vval bs

/-- continuation bit set on every byte but the last -/
def IsVar : Bytes → Prop
  | [] => False
  | b :: bs => (bs = [] ∧ b.toNat < 128) ∨ (b.toNat ≥ 128 ∧ IsVar bs)

theorem isVar_ne_nil (X : Bytes) (h : IsVar X) : X ≠ [] := by
  cases X with
  | nil => cases h
  | cons b bs => simp

theorem isVar_enc (n : Nat) : IsVar (uvarintEnc n) ∧ vval (uvarintEnc n) = n := by
  induction n using Nat.strongRecOn with
  | _ n ih =>
    by_cases h : n < 128
    · have hb := toNat_ofNat_lt n (by omega)
      rw [uvarintEnc_lt n h]
      exact ⟨Or.inl ⟨rfl, by rw [hb]; exact h⟩,
        by simp only [vval, hb, Nat.mod_eq_of_lt h, Nat.mul_zero, Nat.add_zero]⟩
    · have hb := toNat_ofNat_lt (n % 128 + 128) (by omega)
      obtain ⟨i1, i2⟩ := ih (n / 128) (Nat.div_lt_self (by omega) (by omega))
      rw [uvarintEnc_ge n h]
      exact ⟨Or.inr ⟨by rw [hb]; omega, i1⟩,
        by rw [vval, hb, i2, Nat.add_mod_right, Nat.mod_mod, Nat.mod_add_div]⟩

theorem uvarintEnc_inj {a b : Nat} (h : uvarintEnc a = uvarintEnc b) : a = b := by
  have := congrArg vval h
  rwa [(isVar_enc a).2, (isVar_enc b).2] at this

/-- varint shapes are a prefix code -/
theorem IsVar.append_inj : ∀ {A B x y : Bytes}, IsVar A → IsVar B → A ++ x = B ++ y → A = B ∧ x = y := by
  intro A
  induction A with
  | nil => intro B x y h; cases h
  | cons a as ih =>
    intro B x y hA hB h
    cases B with
    | nil => cases hB
    | cons b bs =>
      obtain ⟨rfl, h'⟩ := List.cons.inj h
      rcases hA with ⟨rfl, ha⟩ | ⟨ha, hA'⟩ <;> rcases hB with ⟨rfl, hb⟩ | ⟨hb, hB'⟩
      · exact ⟨rfl, h'⟩
      · exact absurd hb (Nat.not_le.mpr ha)
      · exact absurd ha (Nat.not_le.mpr hb)
      · obtain ⟨rfl, rfl⟩ := ih hA' hB' h'
        exact ⟨rfl, rfl⟩

theorem uvarintDecAux_ok_shape : ∀ (bs : Bytes) (i x s v n : Nat), uvarintDecAux bs i x s = .ok (v, n) →
    ∃ X rem, bs = X ++ rem ∧ IsVar X ∧ n = i + X.length ∧ v = x + vval X * 2 ^ s ∧
      ∀ t, uvarintDecAux (X ++ t) i x s = .ok (v, n) := by
  intro bs
  induction bs with
  | nil =>
    intro i x s v n h
    rw [uvarintDecAux] at h
    split at h
    · cases h
    · split at h <;> cases h
  | cons b bs ih =>
    intro i x s v n h
    by_cases h10 : 10 ≤ i
    · rw [uvarintDecAux_overflow _ i x s h10] at h; cases h
    by_cases hb : b.toNat < 128
    · rw [uvarintDecAux_last b bs i x s (by omega) hb] at h
      by_cases h9 : i = 9 ∧ b.toNat > 1
      · rw [if_pos h9] at h; cases h
      · rw [if_neg h9] at h
        cases h
        refine ⟨[b], bs, rfl, Or.inl ⟨rfl, hb⟩, rfl, ?_, fun t => ?_⟩
        · simp only [vval, Nat.mul_zero, Nat.add_zero]
        · rw [List.singleton_append, uvarintDecAux_last b t i x s (by omega) hb, if_neg h9]
    · rw [uvarintDecAux_cont b bs i x s (by omega) (by omega)] at h
      obtain ⟨X, rem, e1, e2, e3, e4, e5⟩ := ih _ _ _ _ _ h
      refine ⟨b :: X, rem, by rw [e1]; rfl, Or.inr ⟨by omega, e2⟩,
        by rw [e3, List.length_cons, Nat.add_assoc i 1, Nat.add_comm 1], ?_, fun t => ?_⟩
      · rw [e4, varint_acc]; rfl
      · rw [List.cons_append, uvarintDecAux_cont b _ i x s (by omega) (by omega)]
        exact e5 t

theorem uvarintDecAux_isVar (E : Bytes) : IsVar E → ∀ (rest : Bytes) (i x s : Nat),
    (∃ e, uvarintDecAux (E ++ rest) i x s = .error e) ∨
      uvarintDecAux (E ++ rest) i x s = .ok (x + vval E * 2 ^ s, i + E.length) := by
  intro hE rest i x s
  cases h : uvarintDecAux (E ++ rest) i x s with
  | error e => exact Or.inl ⟨e, rfl⟩
  | ok r =>
    obtain ⟨v, n⟩ := r
    obtain ⟨X, rem, e1, hX, rfl, rfl, -⟩ := uvarintDecAux_ok_shape _ i x s v n h
    obtain ⟨rfl, -⟩ := hE.append_inj hX e1
    exact Or.inr rfl

theorem uvarintDecAux_ok_ext (bs : Bytes) (i x s v n : Nat) (h : uvarintDecAux bs i x s = .ok (v, n)) :
    i + 1 ≤ n ∧ n ≤ i + bs.length ∧ ∀ t, uvarintDecAux (bs ++ t) i x s = .ok (v, n) := by
  obtain ⟨X, rem, rfl, hX, rfl, _, ht⟩ := uvarintDecAux_ok_shape bs i x s v n h
  have := List.length_pos_iff.mpr (isVar_ne_nil X hX)
  refine ⟨by omega, by rw [List.length_append]; omega, fun t => ?_⟩
  rw [List.append_assoc]
  exact ht _

theorem uvarintDecAux_prefix : ∀ (bs t : Bytes) (i x s : Nat),
    uvarintDecAux bs i x s = uvarintDecAux (bs ++ t) i x s ∨
    uvarintDecAux bs i x s = .error .eof ∨ uvarintDecAux bs i x s = .error .unexpectedEof := by
  intro bs
  induction bs with
  | nil =>
    intro t i x s
    by_cases h10 : 10 ≤ i
    · rw [uvarintDecAux_overflow _ i x s h10, uvarintDecAux_overflow _ i x s h10]; exact Or.inl rfl
    · right
      rw [uvarintDecAux, if_neg h10]
      by_cases h0 : i = 0
      · rw [if_pos h0]; exact Or.inl rfl
      · rw [if_neg h0]; exact Or.inr rfl
  | cons b bs ih =>
    intro t i x s
    rw [List.cons_append]
    by_cases h10 : 10 ≤ i
    · rw [uvarintDecAux_overflow _ i x s h10, uvarintDecAux_overflow _ i x s h10]; exact Or.inl rfl
    by_cases hb : b.toNat < 128
    · rw [uvarintDecAux_last b bs i x s (by omega) hb, uvarintDecAux_last b (bs ++ t) i x s (by omega) hb]
      exact Or.inl rfl
    · rw [uvarintDecAux_cont b bs i x s (by omega) (by omega),
        uvarintDecAux_cont b (bs ++ t) i x s (by omega) (by omega)]
      exact ih t _ _ _

theorem isVar_set (E : Bytes) : IsVar E → ∀ (j : Nat) (e x : UInt8), E[j]? = some e →
    (x.toNat ≥ 128 ↔ e.toNat ≥ 128) → IsVar (E.set j x) := by
  induction E with
  | nil => intro h; cases h
  | cons b bs ih =>
    intro h j e x he hc
    cases j with
    | zero =>
      obtain rfl : b = e := by simpa using he
      exact h.imp (fun h => ⟨h.1, by omega⟩) (fun h => ⟨by omega, h.2⟩)
    | succ j =>
      rw [List.getElem?_cons_succ] at he
      rcases h with ⟨rfl, _⟩ | ⟨h1, h2⟩
      · cases he
      · exact Or.inr ⟨h1, ih h2 j e x he hc⟩

theorem getD_last_cons (b : UInt8) (bs : Bytes) (h : bs ≠ []) :
    (b :: bs).getD ((b :: bs).length - 1) 0 = bs.getD (bs.length - 1) 0 := by
  cases bs with
  | nil => exact absurd rfl h
  | cons b' t => simp

theorem vval_pos (X : Bytes) : IsVar X → X.getD (X.length - 1) 0 ≠ 0 → 1 ≤ vval X := by
  induction X with
  | nil => intro h; cases h
  | cons b bs ih =>
    intro h hl
    rcases h with ⟨h1, h2⟩ | ⟨h1, h2⟩
    · subst h1
      simp only [List.length_singleton, Nat.sub_self, List.getD_cons_zero] at hl
      have : b.toNat ≠ 0 := fun h0 => hl (UInt8.toNat_inj.mp (by simpa using h0))
      simp only [vval]; omega
    · rw [getD_last_cons b bs (isVar_ne_nil bs h2)] at hl
      have := ih h2 hl
      simp only [vval]; omega

/-- shape + "not zero-padded" pins the bytes down: they are `uvarintEnc` of their value -/
theorem canon_unique (X : Bytes) : IsVar X → (X.length > 1 → X.getD (X.length - 1) 0 ≠ 0) →
    X = uvarintEnc (vval X) := by
  induction X with
  | nil => intro h; cases h
  | cons b bs ih =>
    intro h hl
    rcases h with ⟨rfl, h2⟩ | ⟨h1, h2⟩
    · rw [vval, vval, Nat.mul_zero, Nat.add_zero, Nat.mod_eq_of_lt h2, uvarintEnc_lt _ h2, UInt8.ofNat_toNat]
    · have hne := isVar_ne_nil bs h2
      have hlast := hl (by have := List.length_pos_iff.mpr hne; rw [List.length_cons]; omega)
      rw [getD_last_cons b bs hne] at hlast
      have hpos := vval_pos bs h2 hlast
      have hb : b.toNat % 128 + 128 = b.toNat := by
        have := b.toNat_lt
        omega
      rw [vval, uvarintEnc_ge _ (by omega), Nat.add_mul_mod_self_left, Nat.mod_mod,
        Nat.add_mul_div_left _ _ (by decide), Nat.div_eq_of_lt (Nat.mod_lt _ (by decide)), Nat.zero_add,
        ← ih h2 (fun _ => hlast), hb, UInt8.ofNat_toNat]

namespace CompDir.Pad

theorem isVar_take_zero : ∀ (E : Bytes), IsVar E → ∀ t, t < E.length →
    IsVar (E.take t ++ [0]) ∧ vval (E.take t ++ [0]) = vval (E.take t) := by
  intro E
  induction E with
  | nil => intro h; cases h
  | cons b bs ih =>
    intro h t ht
    cases t with
    | zero =>
      refine ⟨Or.inl ⟨rfl, by decide⟩, ?_⟩
      simp [vval]
    | succ t =>
      simp only [List.length_cons] at ht
      rcases h with ⟨hnil, _⟩ | ⟨hb, hbs⟩
      · subst hnil; simp at ht
      · obtain ⟨i1, i2⟩ := ih hbs t (by omega)
        simp only [List.take_succ_cons, List.cons_append, vval, i2]
        exact ⟨Or.inr ⟨hb, i1⟩, trivial⟩

/-- a cut varint reads like the whole (impossible: the whole ends behind the cut) or runs out -/
theorem isVar_take_err (E : Bytes) (hE : IsVar E) (t : Nat) (ht : t < E.length) (i x s : Nat) :
    ∃ e, uvarintDecAux (E.take t) i x s = .error e := by
  rcases uvarintDecAux_prefix (E.take t) (E.drop t) i x s with h | h | h
  · rw [List.take_append_drop] at h
    cases hd : uvarintDecAux (E.take t) i x s with
    | error e => exact ⟨e, rfl⟩
    | ok p =>
      exfalso
      have a := (uvarintDecAux_ok_ext _ i x s p.1 p.2 hd).2.1
      rw [List.length_take] at a
      rcases uvarintDecAux_isVar E hE [] i x s with ⟨e, he⟩ | he <;> rw [List.append_nil, ← h, hd] at he
      · cases he
      · cases he; simp only at a; omega
  · exact ⟨_, h⟩
  · exact ⟨_, h⟩

theorem vval_take_enc_lt (n : Nat) : ∀ t, 1 ≤ t → t < (uvarintEnc n).length →
    vval ((uvarintEnc n).take t) < n := by
  induction n using Nat.strongRecOn with
  | _ n ih =>
    intro t h1 ht
    by_cases h : n < 128
    · rw [uvarintEnc_lt n h] at ht
      exact absurd h1 (Nat.not_le.mpr ht)
    · rw [uvarintEnc_ge n h] at ht ⊢
      have hb := toNat_ofNat_lt (n % 128 + 128) (by omega)
      obtain ⟨t', rfl⟩ := Nat.exists_eq_add_of_le' h1
      rw [List.take_succ_cons, vval, hb, Nat.add_mod_right, Nat.mod_mod]
      have e2 : n % 128 + 128 * (n / 128) = n := Nat.mod_add_div n 128
      have hq : 1 ≤ n / 128 := (Nat.le_div_iff_mul_le (by decide)).mpr (Nat.le_of_not_lt h)
      by_cases h0 : t' = 0
      · subst h0
        rw [List.take_zero, vval]
        omega
      · have := ih (n / 128) (Nat.div_lt_self (by omega) (by decide)) t' (Nat.pos_of_ne_zero h0)
          (Nat.lt_of_succ_lt_succ ht)
        omega

end CompDir.Pad

theorem uvarintEnc_len_le (k : Nat) : ∀ n, n < 2 ^ (7 * (k + 1)) → (uvarintEnc n).length ≤ k + 1 := by
  induction k with
  | zero =>
    intro n hn
    rw [uvarintEnc_lt n (by simpa using hn)]; simp
  | succ k ih =>
    intro n hn
    by_cases h : n < 128
    · rw [uvarintEnc_lt n h]; simp
    · rw [uvarintEnc_ge n h]
      have : n / 128 < 2 ^ (7 * (k + 1)) := by
        apply Nat.div_lt_of_lt_mul
        have : 2 ^ (7 * (k + 1 + 1)) = 128 * 2 ^ (7 * (k + 1)) := by
          rw [show 7 * (k + 1 + 1) = 7 + 7 * (k + 1) by omega, Nat.pow_add]
        omega
      have := ih _ this
      simp; omega

theorem uvarintEnc_len64 (n : Nat) (h : n < 2 ^ 64) : (uvarintEnc n).length ≤ 10 :=
  uvarintEnc_len_le 9 n (by have : (2:Nat) ^ 64 ≤ 2 ^ (7 * (9 + 1)) := by decide
                            omega)

theorem uvarintEnc_len32 (n : Nat) (h : n < 2 ^ 32) : (uvarintEnc n).length ≤ 5 :=
  uvarintEnc_len_le 4 n (by have : (2:Nat) ^ 32 ≤ 2 ^ (7 * (4 + 1)) := by decide
                            omega)

theorem le32_length (n : Nat) : (le32 n).length = 4 := rfl

/-- `binary.LittleEndian.Uint32` after `PutUint32`: the value modulo 2^32 -/
theorem le32Dec_le32_mod (n : Nat) : le32Dec (le32 n) = some (n % 4294967296) := by
  simp only [le32, le32Dec]
  rw [toNat_ofNat_lt _ (Nat.mod_lt _ (by decide)), toNat_ofNat_lt _ (Nat.mod_lt _ (by decide)),
    toNat_ofNat_lt _ (Nat.mod_lt _ (by decide)), toNat_ofNat_lt _ (Nat.mod_lt _ (by decide)),
    show 4294967296 = 256 * (256 * (256 * 256)) from rfl, Nat.mod_mul, Nat.mod_mul, Nat.mod_mul,
    Nat.div_div_eq_div_mul, Nat.div_div_eq_div_mul]
  -- linear in the four base-256 digits; `omega` is slow on the nested `/` and `%` themselves
  generalize n % 256 = a
  generalize n / 256 % 256 = b
  generalize n / (256 * 256) % 256 = c
  generalize n / (256 * 256 * 256) % 256 = d
  congr 1
  omega

theorem le32Dec_le32 (n : Nat) (h : n < 2 ^ 32) : le32Dec (le32 n) = some n := by
  rw [le32Dec_le32_mod, Nat.mod_eq_of_lt h]

end SST.Proofs
