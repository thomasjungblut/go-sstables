/-
Proofs for the handle bookkeeping (C19): every step of the handle model leaves exactly the steady multiset
(current WAL file, one data mapping per live table, the goroutines), `Close` leaves nothing, a table reader's
`Close` releases every scanner.  All by counting occurrences: for every handle `h`,
`count h (closeAll l hs) = count h l - count h hs` (truncated), `count h (hs ++ l) = count h hs + count h l`.
The peak while a step's phases run is bounded segment by segment (`Bounded`, composed by `Bounded.append`).
-/
import SST.Spec.Handles
import SST.Proofs.DBInv
namespace SST.Proofs.Handles
open SST SST.DBM SST.HM

theorem count_closeAll (h : Handle) (l hs : List Handle) :
    (closeAll l hs).count h = l.count h - hs.count h := by
  induction hs generalizing l with
  | nil => simp [closeAll]
  | cons a hs ih =>
    simp only [closeAll, ih, List.count_erase, List.count_cons]
    rw [Nat.sub_sub, Nat.add_comm]

theorem length_closeAll_le (l hs : List Handle) : (closeAll l hs).length ≤ l.length := by
  induction hs generalizing l with
  | nil => simp [closeAll]
  | cons a hs ih => exact Nat.le_trans (ih _) List.length_erase_le

theorem closeAll_append_self (hs l : List Handle) : closeAll (hs ++ l) hs = l := by
  induction hs with
  | nil => rfl
  | cons a hs ih => simp only [closeAll, List.cons_append, List.erase_cons_head, ih]

theorem runPhases_nil (l : List Handle) : runPhases l [] = l := rfl

theorem runPhases_cons (l : List Handle) (p : Phase) (ps : List Phase) :
    runPhases l (p :: ps) = runPhases (applyPhase l p) ps := rfl

theorem runPhases_append (l : List Handle) (a b : List Phase) :
    runPhases l (a ++ b) = runPhases (runPhases l a) b := by
  simp [runPhases, List.foldl_append]

theorem count_opn (h : Handle) (l hs : List Handle) :
    (applyPhase l (.opn hs)).count h = l.count h + hs.count h :=
  List.count_append.trans (Nat.add_comm _ _)

theorem count_cls (h : Handle) (l hs : List Handle) :
    (applyPhase l (.cls hs)).count h = l.count h - hs.count h :=
  count_closeAll h l hs

theorem count_opn1 (h : Handle) (l hs : List Handle) :
    (runPhases l [.opn hs]).count h = l.count h + hs.count h := count_opn h l hs

theorem run_readerOpen (l : List Handle) (g : Nat) :
    runPhases l (readerOpen g) = .tableMmap g :: l := by
  simp [readerOpen, runPhases, applyPhase, closeAll]

theorem run_writer (l : List Handle) (g : Option Nat) :
    runPhases l (writerOpen g ++ writerClose g) = l := by
  simp [writerOpen, writerClose, runPhases, applyPhase, closeAll]

theorem count_writerOpen (h : Handle) (l : List Handle) (g : Option Nat) :
    (runPhases l (writerOpen g)).count h
      = l.count h + [.writerFd g .index, .writerFd g .data, .writerFd g .metadata].count h :=
  count_opn h l _

theorem count_writerClose (h : Handle) (l : List Handle) (g : Option Nat) :
    (runPhases l (writerClose g)).count h
      = l.count h - [.writerFd g .index, .writerFd g .data, .writerFd g .metadata].count h := by
  simp only [writerClose, runPhases_cons, runPhases_nil, count_opn, count_cls, Nat.add_sub_cancel, Nat.sub_sub]
  rw [← List.count_append]; rfl

/-- table numbers the pending flush adds -/
def flushNew (d : State) : List Nat := if d.flushPending && !d.r.isEmpty then [d.gen + 1] else []

theorem run_flushPhases (l : List Handle) (d : State) :
    runPhases l (flushPhases d) = (flushNew d).map Handle.tableMmap ++ l := by
  unfold flushPhases flushNew
  split
  · rw [runPhases_append, run_writer, run_readerOpen]; rfl
  · rfl

theorem tabGens_flushStep (d : State) : tabGens (flushStep d) = tabGens d ++ flushNew d := by
  unfold flushStep flushNew tabGens
  cases hp : d.flushPending <;> cases hr : d.r.isEmpty <;> simp

theorem tabGens_rotate (d : State) : tabGens (rotate d) = tabGens d ++ flushNew d := by
  rw [← tabGens_flushStep]; rfl

/-- phase lists that each leave `o g` on top of what was open, run one after the other -/
theorem count_flatMap (f : Nat → List Phase) (o : Nat → List Handle) (hf : ∀ l g, runPhases l (f g) = o g ++ l)
    (h : Handle) (l : List Handle) (gs : List Nat) :
    (runPhases l (gs.flatMap f)).count h = l.count h + (gs.flatMap o).count h := by
  induction gs generalizing l with
  | nil => rfl
  | cons g gs ih =>
    rw [List.flatMap_cons, runPhases_append, hf, ih, List.flatMap_cons, List.count_append, List.count_append,
      Nat.add_comm (List.count h (o g)), Nat.add_assoc]

theorem count_flatMap_readerOpen (h : Handle) (l : List Handle) (gs : List Nat) :
    (runPhases l (gs.flatMap readerOpen)).count h = l.count h + (gs.map Handle.tableMmap).count h :=
  List.map_eq_flatMap ▸ count_flatMap readerOpen (fun g => [.tableMmap g]) run_readerOpen h l gs

/-- the handles one compaction input holds while the merge runs -/
def inputHandles (sel : List Nat) : List Handle := sel.flatMap fun g => [.scanner g 0, .tableMmap g]

theorem count_inputs (h : Handle) (l : List Handle) (sel : List Nat) :
    (runPhases l (sel.flatMap (fun g => readerOpen g ++ [.opn [.scanner g 0]]))).count h
      = l.count h + (inputHandles sel).count h :=
  count_flatMap _ _ (fun l g => by rw [runPhases_append, run_readerOpen]; rfl) h l sel

/-- `compactPhases` on a non-empty selection, segment by segment -/
theorem compactPhases_cons (first : Nat) (rest : List Nat) :
    compactPhases (first :: rest) =
      writerOpen none ++ (first :: rest).flatMap (fun g => readerOpen g ++ [.opn [.scanner g 0]]) ++
        writerClose none ++
        [.opn [.writerFd none .flag], .cls [.writerFd none .flag],
         .cls (inputHandles (first :: rest)), .cls ((first :: rest).map Handle.tableMmap)] ++
        readerOpen first := rfl

/-- net effect of one compaction cycle on the selected tables `first :: rest`: the live mappings of the inputs
go away, the mapping of the result (at the first input's directory) appears; everything else was transient -/
theorem count_compactPhases (h : Handle) (l : List Handle) (first : Nat) (rest : List Nat) :
    (runPhases l (compactPhases (first :: rest))).count h
      = l.count h - ((first :: rest).map Handle.tableMmap).count h + [Handle.tableMmap first].count h := by
  rw [compactPhases_cons, runPhases_append, run_readerOpen, List.count_cons, List.count_cons, List.count_nil]
  simp only [runPhases_append, runPhases_cons, runPhases_nil, count_cls, count_opn, count_writerClose,
    count_inputs, count_writerOpen, Nat.add_sub_cancel]
  -- the writer's files and the input readers were opened and are closed again
  rw [Nat.add_right_comm, Nat.add_sub_cancel, Nat.add_sub_cancel, Nat.zero_add]

theorem usable_flushStep (d : State) : usable (flushStep d) = usable d := DB.flushStep_usable d

theorem usable_rotate (d : State) : usable (rotate d) = usable d := DB.rotate_usable d

theorem usable_false_iff (d : State) : usable d = false ↔ (d.closed || !d.isOpen) = true := by
  unfold usable
  cases d.isOpen <;> cases d.closed <;> decide

/-- two layer states that agree on everything but the write store and the options -/
structure Same (d0 d : State) : Prop where
  r : d0.r = d.r
  pend : d0.flushPending = d.flushPending
  tables : d0.tables = d.tables
  gen : d0.gen = d.gen
  isOpen : d0.isOpen = d.isOpen
  closed : d0.closed = d.closed

theorem Same.refl (d : State) : Same d d := ⟨rfl, rfl, rfl, rfl, rfl, rfl⟩

theorem Same.usable {d0 d : State} (h : Same d0 d) : usable d0 = usable d := by
  unfold HM.usable; rw [h.isOpen, h.closed]

theorem Same.tabGens {d0 d : State} (h : Same d0 d) : tabGens d0 = tabGens d := by
  unfold HM.tabGens; rw [h.tables]

theorem Same.flushNew {d0 d : State} (h : Same d0 d) : flushNew d0 = flushNew d := by
  unfold Handles.flushNew; rw [h.pend, h.r, h.gen]

theorem Same.flushPhases {d0 d : State} (h : Same d0 d) : flushPhases d0 = flushPhases d := by
  unfold HM.flushPhases; rw [h.pend, h.r, h.gen]

structure Inv (s : HState) : Prop where
  /-- the open handles are exactly the steady multiset -/
  cnt : ∀ h, s.handles.count h = (steady s).count h
  /-- outside a session the flusher has nothing pending -/
  idle : usable s.db = false → s.db.flushPending = false

theorem inv_init : Inv {} := ⟨fun _ => rfl, fun _ => rfl⟩

theorem count_goroutines (h : Handle) (t : Bool) :
    (goroutines t).count h
      = [Handle.goroutine .flusher].count h + (if t then [Handle.goroutine .ticker] else []).count h := by
  rw [goroutines, ← List.singleton_append, List.count_append]

/-- the shape of the steady multiset (WAL file, data mappings, goroutines), counted part by part; keeping
`[a].count h` whole spares the later arithmetic a case distinction per handle -/
theorem count_steady (a : Handle) (l l' : List Handle) (h : Handle) :
    (a :: l ++ l').count h = [a].count h + (l.count h + l'.count h) := by
  rw [← List.singleton_append, List.append_assoc, List.count_append, List.count_append]

/-- rotation of a usable database (from a client call that first changed the write store, or directly) -/
theorem inv_rotate (s : HState) (hi : Inv s) (hu : usable s.db = true) (d0 : State) (hs : Same d0 s.db) :
    Inv { rotateCore s (rotate d0) with handles := runPhases s.handles (rotatePhases s) } := by
  have hu' : usable (rotate d0) = true := by rw [usable_rotate, hs.usable, hu]
  refine ⟨fun h => ?_, fun hn => absurd (hu'.symm.trans hn) (by decide)⟩
  have hc := hi.cnt h
  simp only [steady, hu, if_true, count_steady] at hc
  simp only [steady, rotateCore, hu', if_true, count_steady]
  simp only [rotatePhases, runPhases_append, run_flushPhases, walRotate, runPhases_cons, runPhases_nil,
    tabGens_rotate, hs.tabGens, hs.flushNew, List.map_append, List.count_append, count_cls, count_opn, hc,
    Nat.add_sub_cancel_left]
  omega

/-- the tail of `Close` after the rotation: last flush, goroutines joined, WAL writer and all table readers closed -/
theorem count_shutdown (s : HState) (hi : Inv s) (hu : usable s.db = true) (h : Handle) :
    (runPhases s.handles (flushPhases s.db ++ [.cls [.goroutine .flusher]] ++
      (if s.ticker then [.cls [.goroutine .ticker]] else []) ++
      [.cls [.walFile s.walNo], .cls ((tabGens (flushStep s.db)).map Handle.tableMmap)])).count h = 0 := by
  have hc := hi.cnt h
  simp only [steady, hu, if_true, count_steady, count_goroutines] at hc
  have ht : ∀ l, runPhases l (if s.ticker then [.cls [.goroutine .ticker]] else [])
      = applyPhase l (.cls (if s.ticker then [.goroutine .ticker] else [])) := by cases s.ticker <;> exact fun _ => rfl
  simp only [runPhases_append, run_flushPhases, tabGens_flushStep, List.map_append, ht, runPhases_cons, runPhases_nil,
    count_cls, List.count_append, Nat.sub_sub, hc]
  -- as much is closed as is open
  exact Nat.sub_eq_zero_of_le (by omega)

theorem inv_open (s : HState) (hi : Inv s) (hn : (s.db.closed || !s.db.isOpen) = true) (o : Opts) (t : Bool) :
    Inv { s with db := reopen s.db o, walNo := 0, ticker := t, leftover := [],
                 handles := runPhases s.handles (openPhases s t) } := by
  have hu : usable s.db = false := (usable_false_iff _).2 hn
  refine ⟨fun h => ?_, fun hf => absurd hf (by simp [usable, reopen])⟩
  have hc := hi.cnt h
  simp only [steady, hu, Bool.false_eq_true, if_false, List.count_nil] at hc
  have hu' : usable (reopen s.db o) = true := rfl
  have hg : tabGens (reopen s.db o) = tabGens s.db := rfl
  simp only [steady, hu', if_true, hg, count_steady]
  simp only [openPhases, runPhases_append, count_flatMap_readerOpen, runPhases_cons, runPhases_nil, count_cls,
    count_opn, Nat.add_sub_cancel, hc]
  omega

theorem inv_same (s : HState) (hi : Inv s) (d' : State) (hs : Same d' s.db) (lo : List Nat) :
    Inv { s with db := d', leftover := lo, handles := runPhases s.handles [] } := by
  constructor
  · intro h
    have hc := hi.cnt h
    simp only [steady, hs.usable, hs.tabGens, runPhases_nil] at hc ⊢
    exact hc
  · intro hf
    rw [hs.pend]; exact hi.idle (by rw [← hs.usable]; exact hf)

theorem inv_flush (s : HState) (hi : Inv s) (lo : List Nat) :
    Inv { s with db := flushStep s.db, leftover := lo, handles := runPhases s.handles (flushPhases s.db) } := by
  refine ⟨fun h => ?_, fun _ => DB.flushStep_pending _⟩
  have hc := hi.cnt h
  cases hu : usable s.db
  · -- outside a session the flusher is idle
    have hn : flushNew s.db = [] := by simp [flushNew, hi.idle hu]
    simp only [steady, hu, usable_flushStep, run_flushPhases, hn, Bool.false_eq_true, if_false] at hc ⊢
    exact hc
  · simp only [steady, hu, usable_flushStep, if_true, count_steady] at hc ⊢
    simp only [run_flushPhases, tabGens_flushStep, List.map_append, List.count_append]
    omega

/-- a compaction cycle that puts one table with the number `g` in the place of the tables `g :: sel` -/
theorem inv_compact_gens (s : HState) (hi : Inv s) (hu : usable s.db = true) (d' : State) (hu' : usable d' = true)
    (pre sel post : List Nat) (g : Nat) (h0 : tabGens s.db = pre ++ g :: sel ++ post)
    (h1 : tabGens d' = pre ++ [g] ++ post) :
    Inv { s with db := d', handles := runPhases s.handles (compactPhases (g :: sel)) } := by
  refine ⟨fun h => ?_, fun hn => absurd (hu'.symm.trans hn) (by decide)⟩
  have hc := hi.cnt h
  simp only [steady, hu, hu', if_true, count_steady] at hc ⊢
  simp only [h0, h1, List.map_append, List.count_append, List.map_cons, List.map_nil, count_compactPhases] at hc ⊢
  omega

theorem inv_compact (s : HState) (hi : Inv s) (hu : usable s.db = true) (sizes : List Nat) :
    Inv { s with db := (compactStep s.db sizes).1,
                 handles := runPhases s.handles (compactPhases (compactStep s.db sizes).2) } := by
  rcases DB.compactStep_spec2 s.db sizes with (hc | ⟨pre, t0, sel', post, htab, hc⟩) <;> rw [hc]
  · exact inv_same s hi s.db (Same.refl _) s.leftover
  · have h0 : tabGens s.db = pre.map (·.gen) ++ t0.gen :: sel'.map (·.gen) ++ post.map (·.gen) := by
      rw [tabGens, htab, List.map_append, List.map_append]; rfl
    refine inv_compact_gens s hi hu _ ?_ _ _ _ _ h0 ?_
    · exact hu
    · rw [tabGens, List.map_append, List.map_append]; rfl

theorem close_usable (d : State) (hu : usable d = true) :
    (close d).1 = { flushStep (rotate d) with closed := true } :=
  congrArg Prod.fst (if_neg (by rw [DB.not_usable, show (d.isOpen && !d.closed) = true from hu]; decide))

theorem inv_close (s : HState) (hi : Inv s) (hu : usable s.db = true) (lo : List Nat) :
    Inv { (rotateCore s (rotate s.db)) with
          db := (DBM.close s.db).1, leftover := lo,
          handles := runPhases s.handles (closePhases s) } := by
  have h1 := inv_rotate s hi hu s.db (Same.refl _)
  have hu1 : usable (rotate s.db) = true := by rw [usable_rotate, hu]
  have hcl := close_usable s.db hu
  have hun : usable (close s.db).1 = false := by rw [hcl]; exact Bool.and_false _
  constructor
  · intro h
    have hs := count_shutdown _ h1 hu1 h
    simp only [steady, hun, Bool.false_eq_true, if_false, List.count_nil]
    simp only [closePhases, runPhases_append] at hs ⊢
    exact hs
  · intro _; rw [hcl]; exact DB.flushStep_pending _

/-- a put is refused and changes nothing, or binds the key in the write store of a usable database and then
rotates if the store is full -/
theorem putBytes_cases (d : State) (k v : GoBytes) (rot : Bool) :
    (∃ r, r ≠ .ok ∧ putBytes d k v rot = (d, r)) ∨
    (usable d = true ∧ ∃ d0, Same d0 d ∧ putBytes d k v rot = (if rot then rotate d0 else d0, .ok)) :=
  (DB.putBytes_cases d k v rot).imp_right fun ⟨hu, kb, vb, he⟩ =>
    ⟨hu, { d with w := d.w.set kb (some vb) }, ⟨rfl, rfl, rfl, rfl, rfl, rfl⟩, he⟩

theorem deleteBytes_same (d : State) (k : GoBytes) : Same (deleteBytes d k).1 d := by
  unfold deleteBytes
  split
  · exact Same.refl _
  · exact ⟨rfl, rfl, rfl, rfl, rfl, rfl⟩

theorem hstep_nil_phases (s : HState) : ({ s with handles := runPhases s.handles [] } : HState) = s := rfl

/-- a put, whatever it answered: `p` is the pair `putBytes` returns -/
theorem inv_put (s : HState) (hi : Inv s) (rot : Bool) (p : State × Res)
    (hp : (∃ r, r ≠ .ok ∧ p = (s.db, r)) ∨
      (usable s.db = true ∧ ∃ d0, Same d0 s.db ∧ p = (if rot then rotate d0 else d0, .ok))) :
    Inv { (if (rot && p.2 == .ok) = true then rotateCore s p.1 else { s with db := p.1 }) with
          handles := runPhases s.handles (if (rot && p.2 == .ok) = true then rotatePhases s else []) } := by
  rcases hp with (⟨r, hr, rfl⟩ | ⟨hu, d0, hs, rfl⟩)
  · simp only [beq_false_of_ne hr, Bool.and_false, Bool.false_eq_true, if_false]
    exact inv_same s hi _ (Same.refl _) s.leftover
  · cases rot
    · exact inv_same s hi _ hs s.leftover
    · exact inv_rotate s hi hu d0 hs

/-- a step that does something only under a condition, and otherwise neither changes the state nor runs a phase -/
theorem inv_ite (c : Prop) [Decidable c] (s : HState) (hi : Inv s) (s' : HState) (ps : List Phase)
    (h : c → Inv { s' with handles := runPhases s.handles ps }) :
    Inv { (if c then s' else s) with handles := runPhases s.handles (if c then ps else []) } := by
  by_cases hc : c
  · simp only [if_pos hc]; exact h hc
  · simp only [if_neg hc]; exact hi

theorem inv_step (s : HState) (hi : Inv s) (st : HStep) : Inv (hstep s st) := by
  cases st with
  | openTicker o => exact inv_ite _ s hi _ _ fun hn => inv_open s hi hn o true
  | op d =>
    cases d with
    | reopen o =>
      refine inv_ite _ s hi _ _ fun hn => ?_
      rw [show (step s.db (.reopen o)).1 = reopen s.db o from congrArg Prod.fst (if_pos hn)]
      exact inv_open s hi hn o false
    | putB k v rot => exact inv_put s hi rot _ (putBytes_cases s.db k v rot)
    | putS k v rot =>
      exact inv_put s hi rot _ ((DB.putStr_eq s.db k v rot).symm ▸ putBytes_cases s.db (some k) (some v) rot)
    | delB k => exact inv_same s hi _ (deleteBytes_same s.db k) s.leftover
    | delS k => exact inv_same s hi _ (deleteBytes_same s.db (some k)) s.leftover
    | get k => exact inv_same s hi _ (Same.refl _) s.leftover
    | rotate =>
      refine inv_ite _ s hi _ _ fun hu => ?_
      rw [show (step s.db .rotate).1 = rotate s.db from congrArg Prod.fst (if_pos hu)]
      exact inv_rotate s hi hu s.db (Same.refl _)
    | flush => exact inv_flush s hi _
    | compact sizes =>
      show Inv { s with db := (step s.db (.compact sizes)).1,
                        handles := runPhases s.handles (if usable s.db then _ else []) }
      rw [show (step s.db (.compact sizes)).1 = if usable s.db then (compactStep s.db sizes).1 else s.db from
        apply_ite Prod.fst _ _ _]
      cases hu : usable s.db
      · exact inv_same s hi _ (Same.refl _) s.leftover
      · exact inv_compact s hi hu sizes
    | close => exact inv_ite _ s hi _ _ fun hu => inv_close s hi hu _

theorem inv_run (steps : List HStep) (s : HState) (hi : Inv s) : Inv (hrun s steps) := by
  induction steps generalizing s with
  | nil => exact hi
  | cons st rest ih => exact ih _ (inv_step s hi st)

theorem reach_inv (steps : List HStep) : Inv (hrun {} steps) := inv_run steps {} inv_init

theorem handles_perm_steady (steps : List HStep) :
    (hrun {} steps).handles.Perm (steady (hrun {} steps)) :=
  List.perm_iff_count.2 (reach_inv steps).cnt

theorem steady_length_le (s : HState) : (steady s).length ≤ s.db.tables.length + 3 := by
  unfold steady goroutines tabGens
  split
  · cases s.ticker <;> simp <;> omega
  · simp

theorem steady_files_le (s : HState) :
    ((steady s).filter (fun h => !isGoroutine h)).length ≤ s.db.tables.length + 1 := by
  unfold steady tabGens
  split
  · have hG : (goroutines s.ticker).filter (fun h => !isGoroutine h) = [] := by
      cases s.ticker <;> rfl
    rw [List.cons_append, List.filter_cons_of_pos rfl, List.filter_append, hG, List.append_nil, List.length_cons]
    refine Nat.succ_le_succ (Nat.le_trans (List.length_filter_le _ _) ?_)
    rw [List.length_map, List.length_map]
    exact Nat.le_refl _
  · exact Nat.zero_le _

theorem steady_mem (s : HState) (h : Handle) (hm : h ∈ steady s) :
    h = .walFile s.walNo ∨ (∃ t ∈ s.db.tables, h = .tableMmap t.gen) ∨ h = .goroutine .flusher ∨
      (s.ticker = true ∧ h = .goroutine .ticker) := by
  unfold steady goroutines tabGens at hm
  split at hm
  · simp only [List.cons_append, List.mem_cons, List.mem_append, List.mem_map] at hm
    rcases hm with (h1 | ⟨g, ⟨t, ht, rfl⟩, rfl⟩ | h3 | h4)
    · exact Or.inl h1
    · exact Or.inr (Or.inl ⟨t, ht, rfl⟩)
    · exact Or.inr (Or.inr (Or.inl h3))
    · cases hk : s.ticker
      · simp [hk] at h4
      · simp [hk] at h4; exact Or.inr (Or.inr (Or.inr ⟨rfl, h4⟩))
  · simp at hm

theorem not_usable_handles_nil (steps : List HStep) (hn : usable (hrun {} steps).db = false) :
    (hrun {} steps).handles = [] := by
  have hp := handles_perm_steady steps
  simp only [steady, hn, Bool.false_eq_true, if_false] at hp
  exact List.Perm.eq_nil hp

theorem hrun_append (s : HState) (a b : List HStep) : hrun s (a ++ b) = hrun (hrun s a) b := by
  induction a generalizing s with
  | nil => rfl
  | cons x xs ih => exact ih _

theorem close_not_usable (s : HState) : usable (hstep s (.op .close)).db = false := by
  show usable (if usable s.db then _ else s : HState).db = false
  cases hu : usable s.db
  · exact hu
  · show usable (close s.db).1 = false
    rw [close_usable _ hu]; exact Bool.and_false _

/-- `Close` followed by `Open` (compactions off or on): a fresh WAL file 0, one mapping per table, the goroutines -/
theorem reopen_steady (s : HState) (hn : usable s.db = false) (o : Opts) (t : Bool) :
    steady (hstep s (if t then .openTicker o else .op (.reopen o)))
      = .walFile 0 :: (tabGens s.db).map Handle.tableMmap ++ goroutines t := by
  have hc : (s.db.closed || !s.db.isOpen) = true := (usable_false_iff _).1 hn
  cases t <;> simp [hstep, nextCore, step, hc, steady, usable, reopen, tabGens]

theorem handles_length_le (steps : List HStep) :
    (hrun {} steps).handles.length ≤ (hrun {} steps).db.tables.length + 3 := by
  rw [(handles_perm_steady steps).length_eq]; exact steady_length_le _

theorem peak_le_opens (l : List Handle) (ps : List Phase) : peak l ps ≤ l.length + opens ps := by
  induction ps generalizing l with
  | nil => exact Nat.le_refl _
  | cons p ps ih =>
    cases p with
    | opn hs =>
      have := ih (hs ++ l)
      rw [List.length_append, Nat.add_comm hs.length, Nat.add_assoc] at this
      exact Nat.max_le.2 ⟨Nat.le_add_right _ _, this⟩
    | cls hs =>
      exact Nat.max_le.2 ⟨Nat.le_add_right _ _,
        Nat.le_trans (ih (closeAll l hs)) (Nat.add_le_add_right (length_closeAll_le l hs) _)⟩

theorem opens_append (a b : List Phase) : opens (a ++ b) = opens a + opens b := by
  induction a with
  | nil => simp [opens]
  | cons p ps ih =>
    cases p with
    | opn hs => exact (congrArg (hs.length + ·) ih).trans (Nat.add_assoc _ _ _).symm
    | cls hs => exact ih

theorem opens_inputs (sel : List Nat) :
    opens (sel.flatMap (fun g => readerOpen g ++ [.opn [.scanner g 0]])) = 5 * sel.length := by
  induction sel with
  | nil => rfl
  | cons g gs ih =>
    rw [List.flatMap_cons, opens_append, ih, opens_append]
    simp only [readerOpen, opens, List.length_cons, List.length_nil]
    omega

/-! ## a stand-alone table reader -/

structure RInv (s : RState) : Prop where
  fresh : s.created = false → s.handles = []
  sub : ∀ h, s.handles.count h ≤ (closable s).count h

theorem rinv_step (s : RState) (hi : RInv s) (st : RStep) : RInv (rstep s st) ∧ (rstep s st).gen = s.gen := by
  -- with the flag `created` known every step computes
  obtain ⟨g, c, n, l⟩ := s
  cases c
  · cases st with
    | newReader =>
      -- nothing was open before
      refine ⟨⟨fun h => Bool.noConfusion h, fun h => ?_⟩, rfl⟩
      show (runPhases l (readerOpen g)).count h ≤ (closable ⟨g, true, n, l⟩).count h
      rw [run_readerOpen, show l = [] from hi.fresh rfl, closable, List.count_append]
      exact Nat.le_add_left _ _
    | _ => exact ⟨hi, rfl⟩
  · have hfresh : ∀ l', (⟨g, true, n, l'⟩ : RState).created = false → (⟨g, true, n, l'⟩ : RState).handles = [] :=
      fun _ h => Bool.noConfusion h
    cases st with
    | scan =>
      refine ⟨⟨hfresh _, fun h => ?_⟩, rfl⟩
      have := hi.sub h
      show ([Handle.scanner g n] ++ l).count h ≤ (closable ⟨g, true, n + 1, l⟩).count h
      simp only [closable, List.range_succ, List.map_append, List.count_append, List.map_cons, List.map_nil]
        at this ⊢
      omega
    | closeReader =>
      refine ⟨⟨hfresh _, fun h => ?_⟩, rfl⟩
      -- closing only lowers the counts
      show (closeAll (closeAll l ((List.range n).map (Handle.scanner g))) [.tableMmap g]).count h ≤ _
      rw [count_closeAll, count_closeAll]
      exact Nat.le_trans (Nat.le_trans (Nat.sub_le _ _) (Nat.sub_le _ _)) (hi.sub h)
    | _ => exact ⟨hi, rfl⟩

theorem rinv_run (steps : List RStep) (s : RState) (hi : RInv s) :
    RInv (rrun s steps) ∧ (rrun s steps).gen = s.gen := by
  induction steps generalizing s with
  | nil => exact ⟨hi, rfl⟩
  | cons st rest ih =>
    obtain ⟨h1, g1⟩ := rinv_step s hi st
    obtain ⟨h2, g2⟩ := ih _ h1
    exact ⟨h2, g2.trans g1⟩

theorem rrun_append (s : RState) (a b : List RStep) : rrun s (a ++ b) = rrun (rrun s a) b := by
  induction a generalizing s with
  | nil => rfl
  | cons x xs ih => exact ih _

theorem close_reader_nil (s : RState) (hi : RInv s) : (rstep s .closeReader).handles = [] := by
  obtain ⟨g, c, n, l⟩ := s
  cases c
  · exact hi.fresh rfl
  · apply List.eq_nil_iff_forall_not_mem.2
    intro h hm
    have hpos : 0 < (closeAll (closeAll l ((List.range n).map (Handle.scanner g))) [.tableMmap g]).count h :=
      List.count_pos_iff.2 hm
    have := hi.sub h
    rw [count_closeAll, count_closeAll] at hpos
    simp only [closable, List.count_append] at this
    omega

/-! ## a sharper peak for the compaction cycle: 2k + 4 above the handles before it -/

theorem peak_ge_length (l : List Handle) (ps : List Phase) : l.length ≤ peak l ps := by
  cases ps with
  | nil => exact Nat.le_refl _
  | cons p ps => exact Nat.le_max_left _ _

theorem peak_append (l : List Handle) (a b : List Phase) :
    peak l (a ++ b) = max (peak l a) (peak (runPhases l a) b) := by
  induction a generalizing l with
  | nil => exact (Nat.max_eq_right (peak_ge_length l b)).symm
  | cons p ps ih => simp only [List.cons_append, peak, ih, runPhases_cons, Nat.max_assoc]

/-- from whatever is open, `ps` never holds more than `hi` further handles and leaves at most `net` further ones -/
def Bounded (ps : List Phase) (hi net : Nat) : Prop :=
  ∀ l, peak l ps ≤ l.length + hi ∧ (runPhases l ps).length ≤ l.length + net

theorem Bounded.mono {a : List Phase} {hi net H N : Nat} (ha : Bounded a hi net) (h1 : hi ≤ H) (h2 : net ≤ N) :
    Bounded a H N := fun l =>
  ⟨Nat.le_trans (ha l).1 (Nat.add_le_add_left h1 _), Nat.le_trans (ha l).2 (Nat.add_le_add_left h2 _)⟩

/-- `b` starts from what `a` leaves -/
theorem Bounded.append {a b : List Phase} {hi na hj nb : Nat} (ha : Bounded a hi na) (hb : Bounded b hj nb) :
    Bounded (a ++ b) (max hi (na + hj)) (na + nb) := by
  intro l
  obtain ⟨p1, n1⟩ := ha l
  obtain ⟨p2, n2⟩ := hb (runPhases l a)
  rw [peak_append, runPhases_append]
  exact ⟨Nat.max_le.2 ⟨Nat.le_trans p1 (Nat.add_le_add_left (Nat.le_max_left ..) _),
      Nat.le_trans p2 (Nat.le_trans (Nat.add_le_add_right n1 hj)
        (Nat.add_assoc .. ▸ Nat.add_le_add_left (Nat.le_max_right ..) _))⟩,
    Nat.le_trans n2 (Nat.add_assoc .. ▸ Nat.add_le_add_right n1 nb)⟩

theorem bounded_opn (hs : List Handle) : Bounded [.opn hs] hs.length hs.length := by
  intro l
  simp only [peak, runPhases_cons, runPhases_nil, applyPhase, List.length_append]
  exact ⟨Nat.max_le.2 ⟨Nat.le_add_right _ _, Nat.le_of_eq (Nat.add_comm _ _)⟩, Nat.le_of_eq (Nat.add_comm _ _)⟩

theorem bounded_cls (hs : List Handle) : Bounded [.cls hs] 0 0 := fun l =>
  ⟨Nat.max_le.2 ⟨Nat.le_refl _, length_closeAll_le l hs⟩, length_closeAll_le l hs⟩

/-- a transient is gone afterwards -/
theorem bounded_bracket (hs : List Handle) : Bounded [.opn hs, .cls hs] hs.length 0 := by
  intro l
  simp only [peak, runPhases_cons, runPhases_nil, applyPhase, closeAll_append_self, List.length_append]
  exact ⟨Nat.max_le.2 ⟨Nat.le_add_right _ _, Nat.max_le.2 ⟨Nat.le_of_eq (Nat.add_comm _ _), Nat.le_add_right _ _⟩⟩, Nat.le_refl _⟩

theorem bounded_opn1 (h : Handle) : Bounded [.opn [h]] 1 1 := bounded_opn [h]

theorem bounded_bracket1 (h : Handle) : Bounded [.opn [h], .cls [h]] 1 0 := bounded_bracket [h]

theorem bounded_readerOpen (g : Nat) : Bounded (readerOpen g) 1 1 :=
  (((bounded_bracket1 (.loadFd g .metadata)).append (bounded_bracket1 (.loadFd g .index))).append
    (bounded_bracket1 (.loadFd g .bloom))).append (bounded_opn1 (.tableMmap g))

theorem bounded_inputs (sel : List Nat) :
    Bounded (sel.flatMap fun g => readerOpen g ++ [.opn [.scanner g 0]]) (2 * sel.length) (2 * sel.length) := by
  induction sel with
  | nil => exact fun l => ⟨Nat.le_refl _, Nat.le_refl _⟩
  | cons g gs ih =>
    rw [List.flatMap_cons, List.length_cons]
    exact (((bounded_readerOpen g).append (bounded_opn1 (.scanner g 0))).append ih).mono
      (Nat.max_le.2 ⟨Nat.le_mul_of_pos_right 2 (Nat.succ_pos _), Nat.le_of_eq (Nat.add_comm _ _)⟩)
      (Nat.le_of_eq (Nat.add_comm _ _))

theorem bounded_writerClose (g : Option Nat) : Bounded (writerClose g) 1 0 :=
  ((bounded_cls [.writerFd g .index, .writerFd g .data]).append (bounded_bracket1 (.writerFd g .bloom))).append
    (bounded_cls [.writerFd g .metadata])

/-- while a compaction cycle over `k ≥ 1` tables runs, at most `2k + 4` handles more than before it are open:
the writer's three files and two handles per input, plus one transient at a time -/
theorem peak_compactPhases (l : List Handle) (first : Nat) (rest : List Nat) :
    peak l (compactPhases (first :: rest)) ≤ l.length + 2 * (rest.length + 1) + 4 := by
  have hin : Bounded _ (2 * (rest.length + 1)) (2 * (rest.length + 1)) := bounded_inputs (first :: rest)
  -- after the merge one transient at a time; the result's mapping stays
  have hout : Bounded (writerClose none ++ ([.opn [.writerFd none .flag], .cls [.writerFd none .flag],
      .cls (inputHandles (first :: rest)), .cls ((first :: rest).map Handle.tableMmap)] ++ readerOpen first)) 1 1 :=
    (bounded_writerClose none).append ((((bounded_bracket1 (.writerFd none .flag)).append (bounded_cls _)).append
      (bounded_cls _)).append (bounded_readerOpen first))
  generalize 2 * (rest.length + 1) = K at hin ⊢
  have := ((((show Bounded (writerOpen none) 3 3 from bounded_opn _).append hin).append hout) l).1
  rw [compactPhases_cons, List.append_assoc, List.append_assoc]
  omega

end SST.Proofs.Handles
