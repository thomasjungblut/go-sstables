/-
C12, altered record headers.  A header byte altered without moving a field boundary (`FramePreserving`) leaves four
varints of the old shapes (`IsVar`); an accepted window starts with a canonical header (`readHeader_ok_wellFormed`),
which is then field by field the altered one (varint shapes are a prefix code): the checksummed bytes changed under
the old checksum field, or the field changed over the old bytes (`header_alter_detected_partial`).  ANY alteration
of ANY header byte either makes both readers fail, or the altered stream begins with a second, differently framed
but correctly checksummed header (`Crc32Coincides`) — the explicit residual of a 32-bit checksum read from a moved
position (`header_alter_detected_or_coincides`).
-/
import SST.Spec.RecordIODamage
import SST.Proofs.RecordIO
import SST.Proofs.Crc
namespace SST.Proofs
open SST Generated

/-- four varint fields around a flag byte can be read off the bytes in one way only -/
theorem fields_unique {M U C K M' U' C' K' t t' : Bytes} {f f' : UInt8}
    (hM : IsVar M) (hU : IsVar U) (hC : IsVar C) (hK : IsVar K)
    (hM' : IsVar M') (hU' : IsVar U') (hC' : IsVar C') (hK' : IsVar K')
    (h : (M ++ ([f] ++ (U ++ C))) ++ (K ++ t) = (M' ++ ([f'] ++ (U' ++ C'))) ++ (K' ++ t')) :
    M ++ ([f] ++ (U ++ C)) = M' ++ ([f'] ++ (U' ++ C')) ∧ K = K' := by
  simp only [List.append_assoc, List.cons_append, List.nil_append] at h
  obtain ⟨rfl, h1⟩ := hM.append_inj hM' h
  obtain ⟨rfl, h2⟩ := List.cons.inj h1
  obtain ⟨rfl, h3⟩ := hU.append_inj hU' h2
  obtain ⟨rfl, h4⟩ := hC.append_inj hC' h3
  exact ⟨rfl, (hK.append_inj hK' h4).1⟩

theorem set_ne_self {l : Bytes} {j : Nat} {e x : UInt8} (he : l[j]? = some e) (hx : x ≠ e) : l.set j x ≠ l := by
  intro h
  have := List.getElem?_set_self (a := x) (List.getElem?_eq_some_iff.mp he).1
  rw [h, he] at this
  exact hx (Option.some.inj this).symm

theorem split_alter (A B : Bytes) (i : Nat) (e x : UInt8) (he : (A ++ B)[i]? = some e) :
    (i < A.length ∧ A[i]? = some e ∧ (A ++ B).set i x = A.set i x ++ B) ∨
    (A.length ≤ i ∧ B[i - A.length]? = some e ∧ (A ++ B).set i x = A ++ B.set (i - A.length) x) := by
  by_cases h : i < A.length
  · left
    rw [List.getElem?_append_left h] at he
    exact ⟨h, he, List.set_append_left _ _ h⟩
  · right
    have h' : A.length ≤ i := by omega
    rw [List.getElem?_append_right h'] at he
    exact ⟨h', he, List.set_append_right _ _ h'⟩

theorem crc_set_ne (a : Bytes) (i : Nat) (e x : UInt8) (he : a[i]? = some e) (hx : x ≠ e) :
    crc32c (a.set i x) ≠ crc32c a := by
  obtain ⟨hi, hget⟩ := List.getElem?_eq_some_iff.mp he
  exact crc32c_single_byte a i hi x (by rw [hget]; exact hx)

/-- a frame-preserving alteration inside the checksummed part leaves four fields of the same shapes -/
theorem body_alter (M U C : Bytes) (f : UInt8) (hM : IsVar M) (hU : IsVar U) (hC : IsVar C) (i : Nat)
    (e x : UInt8) (he : (M ++ ([f] ++ (U ++ C)))[i]? = some e)
    (hc : i = M.length ∨ (x.toNat ≥ 128 ↔ e.toNat ≥ 128)) :
    ∃ M' f' U' C', (M ++ ([f] ++ (U ++ C))).set i x = M' ++ ([f'] ++ (U' ++ C')) ∧
      IsVar M' ∧ IsVar U' ∧ IsVar C' := by
  rcases split_alter M _ i e x he with ⟨l2, g2, s2⟩ | ⟨l2, g2, s2⟩
  · exact ⟨M.set i x, f, U, C, s2, isVar_set M hM i e x g2 (hc.resolve_left (Nat.ne_of_lt l2)), hU, hC⟩
  rcases split_alter [f] _ (i - M.length) e x g2 with ⟨l3, g3, s3⟩ | ⟨l3, g3, s3⟩
  · have h0 : i - M.length = 0 := Nat.lt_one_iff.mp l3
    rw [h0] at s3
    exact ⟨M, x, U, C, by rw [s2, h0, s3]; rfl, hM, hU, hC⟩
  have hc' := hc.resolve_left (by intro h; rw [h, Nat.sub_self] at l3; cases l3)
  rcases split_alter U C _ e x g3 with ⟨l4, g4, s4⟩ | ⟨l4, g4, s4⟩
  · exact ⟨M, f, U.set _ x, C, by rw [s2, s3, s4], hM, isVar_set U hU _ e x g4 hc', hC⟩
  · exact ⟨M, f, U, C.set _ x, by rw [s2, s3, s4], hM, hU, isVar_set C hC _ e x g4 hc'⟩

/-- every frame-preserving alteration of a header byte makes the header parse fail: an accepted window starts with a
canonical header (`readHeader_ok_wellFormed`), whose four fields are those of the altered bytes (`fields_unique`); so
either the altered body has the old checksum, or the altered checksum field is the old one -/
theorem readHeader_altered (w : Win) (nf : Bool) (u cl : Nat) (t : Bytes) (i : Nat) (x : UInt8)
    (hfp : FramePreserving (encHeader nf u cl) i x)
    (hw : w.bytes = (encHeader nf u cl).set i x ++ t) : ∃ e, readHeader w = .error e := by
  cases hr : readHeader w with
  | error e => exact ⟨e, rfl⟩
  | ok h =>
    exfalso
    obtain ⟨nb, ⟨tail, hwf⟩, -, -⟩ := readHeader_ok_wellFormed w h hr
    obtain ⟨hi, hx, hc⟩ := hfp
    have he : (encHeader nf u cl)[i]? = some (encHeader nf u cl)[i] := List.getElem?_eq_getElem hi
    generalize (encHeader nf u cl)[i] = e at he hx hc
    have hmlen := magicEnc_length
    have hm3 : magicBytes.length = 3 := rfl
    rw [List.append_assoc, rawBody_eq] at hwf
    generalize h.ulen = u' at hwf
    generalize h.clen = cl' at hwf
    have vM := (isVar_enc magicNumber).1
    have vU := (isVar_enc u).1
    have vC := (isVar_enc cl).1
    have vK := (isVar_enc (crc32c (headerBody nf u cl)).toNat).1
    rw [headerBody_eq] at vK
    rw [encHeader, headerBody_eq] at hw he
    rcases split_alter _ _ i e x he with ⟨l1, g1, s1⟩ | ⟨l1, g1, s1⟩
    · -- the byte lies in the checksummed part: the same checksum field, so the same checksum
      obtain ⟨M', f', U', C', hs, vM', vU', vC'⟩ :=
        body_alter _ _ _ _ vM vU vC i e x g1 (hc.imp_left fun h => by rw [hmlen]; exact h)
      rw [s1, hs, List.append_assoc] at hw
      obtain ⟨eB, eK⟩ := fields_unique vM' vU' vC' vK vM (isVar_enc u').1 (isVar_enc cl').1 (isVar_enc _).1
        (hw.symm.trans hwf)
      rw [← eB, ← hs] at eK
      exact crc_set_ne _ i e x g1 hx (UInt32.toNat_inj.mp (uvarintEnc_inj eK).symm)
    · -- the byte lies in the checksum field: the same checksummed part, so the same field
      rw [List.length_append, List.length_append, List.length_singleton] at l1
      have vK' := isVar_set _ vK _ e x g1 (hc.resolve_left (by omega))
      rw [s1, List.append_assoc] at hw
      obtain ⟨eB, eK⟩ := fields_unique vM vU vC vK' vM (isVar_enc u').1 (isVar_enc cl').1 (isVar_enc _).1
        (hw.symm.trans hwf)
      rw [← eB] at eK
      exact set_ne_self g1 hx eK

/-- a record is its header, as the writer lays it out, and what follows it -/
theorem encRecord_header (c : Compression) (r : GoBytes) :
    ∃ (nf : Bool) (u cl : Nat) (S : Bytes), headerOf c r = encHeader nf u cl ∧ encRecord c r = headerOf c r ++ S ∧
      (FitsRec c r → u < 2 ^ 64 ∧ cl < 2 ^ 64) := by
  cases r with
  | none => exact ⟨true, 0, _, [], rfl, (List.append_nil _).symm, fun hf => ⟨by decide, hf⟩⟩
  | some r => exact ⟨false, r.length, _, stored c r, rfl, rfl, fun hf => hf⟩

/-- both readers decide on the header from the first `recordHeaderMax` bytes of the stream: they both fail on it, or one
of the two windows on those bytes is accepted -/
theorem readers_fail_or_accept (c : Compression) (pre s : Bytes) (hs : s ≠ []) :
    ((∃ e, readNextS c s = .error e) ∧ (∃ e, readAt c (pre ++ s) pre.length = .error e)) ∨
    ∃ w h, w.bytes = s.take recordHeaderMax ∧ readHeader w = .ok h := by
  cases hr1 : readHeader (fileWin s) with
  | ok h => exact .inr ⟨_, h, Buf.fileWin_bytes_eq s, hr1⟩
  | error e1 =>
    cases hr2 : readHeader (mmapWin s) with
    | ok h => exact .inr ⟨_, h, rfl, hr2⟩
    | error e2 => exact .inl ⟨readNextS_of_header_error c s ⟨e1, hr1⟩, e2, readAt_of_header_error c pre s hs hr2⟩

theorem header_alter_detected_partial (c : Compression) (r : GoBytes) (pre rest : Bytes)
    (hf : FitsRec c r) (i : Nat) (x : UInt8) (hfp : FramePreserving (headerOf c r) i x) :
    (∃ e, readNextS c ((encRecord c r).set i x ++ rest) = .error e) ∧
    (∃ e, readAt c (pre ++ (encRecord c r).set i x ++ rest) pre.length = .error e) := by
  obtain ⟨nf, u, cl, S, hH, hR, hb⟩ := encRecord_header c r
  obtain ⟨hu, hcl⟩ := hb hf
  rw [hH] at hfp hR
  have hlen : ((encHeader nf u cl).set i x).length ≤ recordHeaderMax := by
    rw [List.length_set]; exact encHeader_length_le nf u cl hu hcl
  have hne : (encHeader nf u cl).set i x ≠ [] :=
    List.ne_nil_of_length_pos (by rw [List.length_set]; exact Nat.zero_lt_of_lt hfp.1)
  rw [hR, List.set_append_left _ _ hfp.1, List.append_assoc pre, List.append_assoc]
  rcases readers_fail_or_accept c pre _ (List.append_ne_nil_of_left_ne_nil hne (S ++ rest)) with h | ⟨w, h, hw, hok⟩
  · exact h
  · obtain ⟨e, he⟩ := readHeader_altered w nf u cl _ i x hfp
      (by rw [hw, List.take_append, List.take_of_length_le hlen])
    rw [hok] at he; cases he

/-- The residual of header-damage detection.  Both byte streams begin with a well-formed, correctly
checksummed header, but over DIFFERENT checksummed bytes.  When `altered` differs from `original` in one
header byte this is only possible if that byte moved a field boundary (see
`header_alter_detected_or_coincides`) so that a different stretch of bytes is checksummed and the bytes
behind it happen to be the canonical varint of its CRC-32C: a genuine 32-bit coincidence.  No instance is
exhibited here; a 32-bit checksum cannot rule one out. -/
def Crc32Coincides (original altered : Bytes) : Prop :=
  ∃ nb u cl nb' u' cl', WellFormedHeader original nb u cl ∧ WellFormedHeader altered nb' u' cl' ∧
    rawBody nb' u' cl' ≠ rawBody nb u cl

theorem wellFormedHeader_append (s t : Bytes) (nb : UInt8) (u cl : Nat) (h : WellFormedHeader s nb u cl) :
    WellFormedHeader (s ++ t) nb u cl := by
  obtain ⟨tail, ht⟩ := h
  exact ⟨tail ++ t, by rw [ht, List.append_assoc]⟩

/-- two streams with the same well-formed header agree on all of its bytes -/
theorem wellFormed_same_prefix (s s' : Bytes) (nb : UInt8) (u cl : Nat) (nb' : UInt8) (u' cl' : Nat)
    (h : WellFormedHeader s nb u cl) (h' : WellFormedHeader s' nb' u' cl')
    (hb : rawBody nb' u' cl' = rawBody nb u cl) (i : Nat)
    (hi : i < (rawBody nb u cl).length + (uvarintEnc (crc32c (rawBody nb u cl)).toNat).length) :
    s'[i]? = s[i]? := by
  obtain ⟨t, ht⟩ := h
  obtain ⟨t', ht'⟩ := h'
  rw [hb] at ht'
  rw [← List.length_append] at hi
  generalize rawBody nb u cl ++ uvarintEnc (crc32c (rawBody nb u cl)).toNat = A at ht ht' hi
  rw [ht, ht', List.getElem?_append_left hi, List.getElem?_append_left hi]

/-- a successful header parse over a window on the first bytes of the altered record stream yields the
coincidence -/
theorem coincides_of_header_ok (c : Compression) (r : GoBytes) (rest : Bytes) (i : Nat) (x : UInt8)
    (hi : i < (headerOf c r).length) (hx : x ≠ (headerOf c r)[i])
    (w : Win) (hw : w.bytes = ((encRecord c r).set i x ++ rest).take recordHeaderMax)
    (h : RecHeader) (hok : readHeader w = .ok h) :
    Crc32Coincides (encRecord c r ++ rest) ((encRecord c r).set i x ++ rest) := by
  obtain ⟨nb', hwf', _, _⟩ := readHeader_ok_wellFormed w h hok
  have hwf'' := wellFormedHeader_append _ (((encRecord c r).set i x ++ rest).drop recordHeaderMax) _ _ _ hwf'
  rw [hw, List.take_append_drop] at hwf''
  obtain ⟨nf, u, cl, S, hH, hS, -⟩ := encRecord_header c r
  have hwf : WellFormedHeader (encRecord c r ++ rest) (if nf then 1 else 0) u cl :=
    ⟨S ++ rest, by rw [hS, hH, List.append_assoc]; rfl⟩
  refine ⟨_, u, cl, nb', h.ulen, h.clen, hwf, hwf'', ?_⟩
  intro hb
  have hsame := wellFormed_same_prefix _ _ _ _ _ _ _ _ hwf hwf'' hb i
    (by rw [← List.length_append]; rw [hH] at hi; exact hi)
  have hiR : i < (encRecord c r).length := by rw [hS, List.length_append]; omega
  rw [List.getElem?_append_left (by rw [List.length_set]; exact hiR),
    List.getElem?_append_left hiR, List.getElem?_set_self hiR, List.getElem?_eq_getElem hiR] at hsame
  have : (encRecord c r)[i] = (headerOf c r)[i] := by
    simp only [hS]; rw [List.getElem_append_left hi]
  rw [this] at hsame
  exact hx (Option.some.inj hsame)

/-- C12 header clause at full strength: altering ANY header byte to ANY other value makes both readers
fail on that record, or else the alteration is frame shifting and the altered stream carries a
different, correctly checksummed header (`Crc32Coincides`). -/
theorem header_alter_detected_or_coincides (c : Compression) (r : GoBytes) (pre rest : Bytes)
    (hf : FitsRec c r) (i : Nat) (x : UInt8) (hi : i < (headerOf c r).length)
    (hx : x ≠ (headerOf c r)[i]) :
    ((∃ e, readNextS c ((encRecord c r).set i x ++ rest) = .error e) ∧
     (∃ e, readAt c (pre ++ (encRecord c r).set i x ++ rest) pre.length = .error e)) ∨
    (¬ FramePreserving (headerOf c r) i x ∧
      Crc32Coincides (encRecord c r ++ rest) ((encRecord c r).set i x ++ rest)) := by
  by_cases hfp : FramePreserving (headerOf c r) i x
  · exact Or.inl (header_alter_detected_partial c r pre rest hf i x hfp)
  have hsne : (encRecord c r).set i x ++ rest ≠ [] :=
    List.append_ne_nil_of_left_ne_nil
      (List.ne_nil_of_length_pos (by rw [List.length_set]; exact encRecord_pos c r)) _
  rw [List.append_assoc]
  exact (readers_fail_or_accept c pre _ hsne).imp_right fun ⟨w, h, hw, hok⟩ =>
    ⟨hfp, coincides_of_header_ok c r rest i x hi hx w hw h hok⟩

end SST.Proofs
