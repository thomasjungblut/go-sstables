/-
The tables the evaluations of SST/Props/C03_V0.lean run on: the repository's own version-0 test tables
(/repo/sstables/test_files/v0_compat) as byte literals, the reference layout `V0.filesOf` reproducing them byte for
byte and the general theorem carried to them under any lawful snappy; small synthetic tables; a table with one damaged
value byte.  What is proved here of closed terms is decided by kernel evaluation.
-/
import SST.Proofs.SSTableV0
namespace SST.Proofs.V0
open SST Generated SST.Legacy SST.V0 SST.Proofs.Sst

/-- /repo/sstables/test_files/v0_compat/SimpleWriteHappyPathSSTableRecordIOV2/index.rio (99 bytes) -/
def repoV2Index : Bytes :=
  [0x02, 0x00, 0x00, 0x00, 0x00, 0x00, 0x00, 0x00, 0x91, 0x8d, 0x4c, 0x08, 0x00, 0x0a, 0x04, 0x00, 0x00, 0x00, 0x01, 0x10,
   0x08, 0x91, 0x8d, 0x4c, 0x08, 0x00, 0x0a, 0x04, 0x00, 0x00, 0x00, 0x02, 0x10, 0x15, 0x91, 0x8d, 0x4c, 0x08, 0x00, 0x0a,
   0x04, 0x00, 0x00, 0x00, 0x03, 0x10, 0x22, 0x91, 0x8d, 0x4c, 0x08, 0x00, 0x0a, 0x04, 0x00, 0x00, 0x00, 0x04, 0x10, 0x2f,
   0x91, 0x8d, 0x4c, 0x08, 0x00, 0x0a, 0x04, 0x00, 0x00, 0x00, 0x05, 0x10, 0x3c, 0x91, 0x8d, 0x4c, 0x08, 0x00, 0x0a, 0x04,
   0x00, 0x00, 0x00, 0x06, 0x10, 0x49, 0x91, 0x8d, 0x4c, 0x08, 0x00, 0x0a, 0x04, 0x00, 0x00, 0x00, 0x07, 0x10, 0x56]

/-- /repo/sstables/test_files/v0_compat/SimpleWriteHappyPathSSTableRecordIOV2/data.rio (99 bytes) -/
def repoV2Data : Bytes :=
  [0x02, 0x00, 0x00, 0x00, 0x02, 0x00, 0x00, 0x00, 0x91, 0x8d, 0x4c, 0x06, 0x08, 0x06, 0x14, 0x0a, 0x04, 0x00, 0x00, 0x00,
   0x02, 0x91, 0x8d, 0x4c, 0x06, 0x08, 0x06, 0x14, 0x0a, 0x04, 0x00, 0x00, 0x00, 0x03, 0x91, 0x8d, 0x4c, 0x06, 0x08, 0x06,
   0x14, 0x0a, 0x04, 0x00, 0x00, 0x00, 0x04, 0x91, 0x8d, 0x4c, 0x06, 0x08, 0x06, 0x14, 0x0a, 0x04, 0x00, 0x00, 0x00, 0x05,
   0x91, 0x8d, 0x4c, 0x06, 0x08, 0x06, 0x14, 0x0a, 0x04, 0x00, 0x00, 0x00, 0x06, 0x91, 0x8d, 0x4c, 0x06, 0x08, 0x06, 0x14,
   0x0a, 0x04, 0x00, 0x00, 0x00, 0x07, 0x91, 0x8d, 0x4c, 0x06, 0x08, 0x06, 0x14, 0x0a, 0x04, 0x00, 0x00, 0x00, 0x08]

/-- /repo/sstables/test_files/v0_compat/SimpleWriteHappyPathSSTableRecordIOV2/meta.pb.bin (14 bytes) -/
def repoV2Meta : Bytes :=
  [0x08, 0x07, 0x12, 0x04, 0x00, 0x00, 0x00, 0x01, 0x1a, 0x04, 0x00, 0x00, 0x00, 0x07]

/-- /repo/sstables/test_files/v0_compat/SimpleWriteHappyPathSSTable/index.rio (206 bytes) -/
def repoV1Index : Bytes :=
  [0x01, 0x00, 0x00, 0x00, 0x00, 0x00, 0x00, 0x00, 0x91, 0x06, 0x13, 0x00, 0x08, 0x00, 0x00, 0x00, 0x00, 0x00, 0x00, 0x00,
   0x00, 0x00, 0x00, 0x00, 0x00, 0x00, 0x00, 0x00, 0x0a, 0x04, 0x00, 0x00, 0x00, 0x01, 0x10, 0x08, 0x91, 0x06, 0x13, 0x00,
   0x08, 0x00, 0x00, 0x00, 0x00, 0x00, 0x00, 0x00, 0x00, 0x00, 0x00, 0x00, 0x00, 0x00, 0x00, 0x00, 0x0a, 0x04, 0x00, 0x00,
   0x00, 0x02, 0x10, 0x24, 0x91, 0x06, 0x13, 0x00, 0x08, 0x00, 0x00, 0x00, 0x00, 0x00, 0x00, 0x00, 0x00, 0x00, 0x00, 0x00,
   0x00, 0x00, 0x00, 0x00, 0x0a, 0x04, 0x00, 0x00, 0x00, 0x03, 0x10, 0x40, 0x91, 0x06, 0x13, 0x00, 0x08, 0x00, 0x00, 0x00,
   0x00, 0x00, 0x00, 0x00, 0x00, 0x00, 0x00, 0x00, 0x00, 0x00, 0x00, 0x00, 0x0a, 0x04, 0x00, 0x00, 0x00, 0x04, 0x10, 0x5c,
   0x91, 0x06, 0x13, 0x00, 0x08, 0x00, 0x00, 0x00, 0x00, 0x00, 0x00, 0x00, 0x00, 0x00, 0x00, 0x00, 0x00, 0x00, 0x00, 0x00,
   0x0a, 0x04, 0x00, 0x00, 0x00, 0x05, 0x10, 0x78, 0x91, 0x06, 0x13, 0x00, 0x09, 0x00, 0x00, 0x00, 0x00, 0x00, 0x00, 0x00,
   0x00, 0x00, 0x00, 0x00, 0x00, 0x00, 0x00, 0x00, 0x0a, 0x04, 0x00, 0x00, 0x00, 0x06, 0x10, 0x94, 0x01, 0x91, 0x06, 0x13,
   0x00, 0x09, 0x00, 0x00, 0x00, 0x00, 0x00, 0x00, 0x00, 0x00, 0x00, 0x00, 0x00, 0x00, 0x00, 0x00, 0x00, 0x0a, 0x04, 0x00,
   0x00, 0x00, 0x07, 0x10, 0xb0, 0x01]

/-- /repo/sstables/test_files/v0_compat/SimpleWriteHappyPathSSTable/data.rio (204 bytes) -/
def repoV1Data : Bytes :=
  [0x01, 0x00, 0x00, 0x00, 0x02, 0x00, 0x00, 0x00, 0x91, 0x06, 0x13, 0x00, 0x06, 0x00, 0x00, 0x00, 0x00, 0x00, 0x00, 0x00,
   0x08, 0x00, 0x00, 0x00, 0x00, 0x00, 0x00, 0x00, 0x06, 0x14, 0x0a, 0x04, 0x00, 0x00, 0x00, 0x02, 0x91, 0x06, 0x13, 0x00,
   0x06, 0x00, 0x00, 0x00, 0x00, 0x00, 0x00, 0x00, 0x08, 0x00, 0x00, 0x00, 0x00, 0x00, 0x00, 0x00, 0x06, 0x14, 0x0a, 0x04,
   0x00, 0x00, 0x00, 0x03, 0x91, 0x06, 0x13, 0x00, 0x06, 0x00, 0x00, 0x00, 0x00, 0x00, 0x00, 0x00, 0x08, 0x00, 0x00, 0x00,
   0x00, 0x00, 0x00, 0x00, 0x06, 0x14, 0x0a, 0x04, 0x00, 0x00, 0x00, 0x04, 0x91, 0x06, 0x13, 0x00, 0x06, 0x00, 0x00, 0x00,
   0x00, 0x00, 0x00, 0x00, 0x08, 0x00, 0x00, 0x00, 0x00, 0x00, 0x00, 0x00, 0x06, 0x14, 0x0a, 0x04, 0x00, 0x00, 0x00, 0x05,
   0x91, 0x06, 0x13, 0x00, 0x06, 0x00, 0x00, 0x00, 0x00, 0x00, 0x00, 0x00, 0x08, 0x00, 0x00, 0x00, 0x00, 0x00, 0x00, 0x00,
   0x06, 0x14, 0x0a, 0x04, 0x00, 0x00, 0x00, 0x06, 0x91, 0x06, 0x13, 0x00, 0x06, 0x00, 0x00, 0x00, 0x00, 0x00, 0x00, 0x00,
   0x08, 0x00, 0x00, 0x00, 0x00, 0x00, 0x00, 0x00, 0x06, 0x14, 0x0a, 0x04, 0x00, 0x00, 0x00, 0x07, 0x91, 0x06, 0x13, 0x00,
   0x06, 0x00, 0x00, 0x00, 0x00, 0x00, 0x00, 0x00, 0x08, 0x00, 0x00, 0x00, 0x00, 0x00, 0x00, 0x00, 0x06, 0x14, 0x0a, 0x04,
   0x00, 0x00, 0x00, 0x08]

/-- the seven pairs both tables hold: key `00 00 00 i` ↦ value `00 00 00 i+1`, i = 1..7 -/
def kvs7 : List KV :=
  [([0, 0, 0, 1], some [0, 0, 0, 2]), ([0, 0, 0, 2], some [0, 0, 0, 3]), ([0, 0, 0, 3], some [0, 0, 0, 4]),
   ([0, 0, 0, 4], some [0, 0, 0, 5]), ([0, 0, 0, 5], some [0, 0, 0, 6]), ([0, 0, 0, 6], some [0, 0, 0, 7]),
   ([0, 0, 0, 7], some [0, 0, 0, 8])]

/-- v0_compat/SimpleWriteHappyPathSSTable: recordio V1, index uncompressed, data snappy, NO metadata file -/
def repoV1 : Files := { index := repoV1Index, data := repoV1Data, metaf := none }

/-- v0_compat/SimpleWriteHappyPathSSTableRecordIOV2: recordio V2, index uncompressed, data snappy, metadata file
saying numRecords 7, minKey, maxKey and (by omission) version 0 -/
def repoV2 : Files := { index := repoV2Index, data := repoV2Data, metaf := some repoV2Meta }

def cfgV1 : Cfg := { iv := 1, ic := none, ict := 0, dv := 1, dc := some snappyLiteral, dct := 2 }
def cfgV2 : Cfg := { iv := 2, ic := none, ict := 0, dv := 2, dc := some snappyLiteral, dct := 2 }

/-- what meta.pb.bin of the recordio-V2 table says -/
def repoV2Md : Meta := { numRecords := 7, minKey := some [0, 0, 0, 1], maxKey := some [0, 0, 0, 7] }

theorem repo_v1_layout : filesOf cfgV1 kvs7 none = repoV1 := by decide +kernel

theorem repo_v2_layout : filesOf cfgV2 kvs7 (some repoV2Meta) = repoV2 := by decide +kernel

theorem repo_v2_meta : MetaV0 (some repoV2Meta) repoV2Md := ⟨by decide +kernel, rfl⟩

/-- a read on a version-0 table opened with the loader `k` (default options, no bloom filter); `none` = the table
does not open -/
def probeWithV0 {α : Type} (k : LoaderKind) (t : Files) (f : V0.Reader → Index → α) : Option α :=
  match openTableV0 evalComps k {} t none with
  | some (.ok (r, idx)) => some (f r idx)
  | _ => none

/-! The general theorems reach the real files: ANY lawful snappy that encodes the seven stored messages the way
the files show them (as one literal each). -/

/-- the compressor table of a reader whose snappy implementation is `sn` (code 2), everything else uncompressed -/
def compsWith (sn : Comp) : Nat → Compression := fun ct => if ct = 2 then some sn else none

/-- `sn` compresses the seven `DataEntry` messages of the test tables to the bytes found in the files -/
def AgreesOnRepo (sn : Comp) : Prop :=
  ∀ p ∈ kvs7, sn.enc (encDataEntry p.2) = snappyLiteral.enc (encDataEntry p.2)

theorem kvs7_strictAsc : StrictAsc bytesCmp kvs7 := by unfold StrictAsc; decide +kernel

theorem kvs7_norm : normKVs kvs7 = kvs7 := by decide +kernel

theorem repo_v1_fits : FitsV0 (withDc cfgV1 snappyLiteral) kvs7 := by
  unfold FitsV0; exact ⟨by decide +kernel, by decide +kernel⟩

theorem repo_v2_fits : FitsV0 (withDc cfgV2 snappyLiteral) kvs7 := by
  unfold FitsV0; exact ⟨by decide +kernel, by decide +kernel⟩

/-- `table_reads_v0` (slice loader) for the seven pairs `kvs7` laid out like `cfg` (with the literal-only snappy) in
the files `t`, under any lawful snappy that agrees on their messages -/
theorem reads_any_snappy {cfg : Cfg} {metaf : Option Bytes} {md : Meta} {t : Files}
    (hc : ∀ sn : Comp, sn.Lawful → CfgOk (compsWith sn) (withDc cfg sn))
    (hfit : FitsV0 (withDc cfg snappyLiteral) kvs7) (hlay : filesOf (withDc cfg snappyLiteral) kvs7 metaf = t)
    (hm : MetaV0 metaf md) (sn : Comp) (hl : sn.Lawful) (h : AgreesOnRepo sn) (o : ReadOpts)
    (bloom : Option (Bytes → Bool)) (hb : BloomOk bloom kvs7) :
    ∃ r idx, openTableV0 (compsWith sn) .slice o t bloom = some (.ok (r, idx)) ∧ r.md = md ∧
      ReadsAsMapV0 (compsWith sn) (fun _ => True) r idx kvs7 := by
  have hf := fitsV0_congr_dc cfg sn snappyLiteral kvs7 h hfit
  have := table_reads_v0 (compsWith sn) (withDc cfg sn) kvs7 metaf md (hc sn hl) hf kvs7_strictAsc hm .slice trivial o
    bloom hb
  rwa [filesOf_congr_dc cfg sn snappyLiteral kvs7 metaf h, hlay, kvs7_norm] at this

/-- a lawful compressor: one tag byte in front -/
def tagComp : Comp :=
  { enc := fun r => 7 :: r
    dec := fun s => match s with
      | 7 :: r => some r
      | _ => none }

theorem tagComp_lawful : tagComp.Lawful := fun _ => rfl

def toyComps : Nat → Compression := fun ct => if ct = 1 then some tagComp else none

/-- index.rio in recordio V3 with the toy compressor, data.rio in recordio V1 uncompressed -/
def toyCfgA : Cfg := { iv := 3, ic := some tagComp, ict := 1, dv := 1, dc := none, dct := 0 }

/-- index.rio in recordio V4 uncompressed, data.rio in recordio V3 with the toy compressor -/
def toyCfgB : Cfg := { iv := 4, ic := none, ict := 0, dv := 3, dc := some tagComp, dct := 1 }

/-- index.rio in recordio V2, data.rio in recordio V1 WITH a compressor (the `v1Result` case) -/
def toyCfgC : Cfg := { iv := 2, ic := none, ict := 0, dv := 1, dc := some tagComp, dct := 1 }

/-- the empty key with a nil value, an empty value, a value made of the record marker bytes -/
def toyKvs : List KV := [([], none), ([0x91], some []), ([0x91, 0x8d], some [0x91, 0x8d, 0x4c])]

theorem toyKvs_strictAsc : StrictAsc bytesCmp toyKvs := by unfold StrictAsc; decide +kernel

theorem toy_cfgOk : CfgOk toyComps toyCfgA ∧ CfgOk toyComps toyCfgB ∧ CfgOk toyComps toyCfgC :=
  ⟨⟨rfl, rfl, trivial, tagComp_lawful, by decide, by decide, by decide, by decide⟩,
   ⟨rfl, rfl, tagComp_lawful, trivial, by decide, by decide, by decide, by decide⟩,
   ⟨rfl, rfl, tagComp_lawful, trivial, by decide, by decide, by decide, by decide⟩⟩

theorem toy_fits : FitsV0 toyCfgA toyKvs ∧ FitsV0 toyCfgB toyKvs ∧ FitsV0 toyCfgC toyKvs := by
  unfold FitsV0
  exact ⟨⟨by decide +kernel, by decide +kernel⟩, ⟨by decide +kernel, by decide +kernel⟩,
    ⟨by decide +kernel, by decide +kernel⟩⟩

/-- evaluation of the model on the synthetic tables (what the general theorem predicts): the empty value comes
back nil, the empty key comes back nil in scans, a metadata file that claims nonsense is reported as it is -/
theorem toy_reads :
    normKVs toyKvs = [([], none), ([0x91], none), ([0x91, 0x8d], some [0x91, 0x8d, 0x4c])] ∧
    probeGetV0 toyComps {} (filesOf toyCfgA toyKvs none) [0x91] = some (.ok none) ∧
    probeGetV0 toyComps { skipHashOnRead := false } (filesOf toyCfgB toyKvs none) [0x91, 0x8d] =
      some (.ok (some [0x91, 0x8d, 0x4c])) ∧
    probeGetV0 toyComps {} (filesOf toyCfgC toyKvs none) [] = some (.ok none) ∧
    probeGetV0 toyComps {} (filesOf toyCfgC toyKvs none) [0x92] = some (.error .notFound) ∧
    probeScanV0 toyComps (filesOf toyCfgA toyKvs none) =
      some (.ok ([(none, none), (some [0x91], none), (some [0x91, 0x8d], some [0x91, 0x8d, 0x4c])], .done)) ∧
    probeScanV0 toyComps (filesOf toyCfgC toyKvs none) =
      some (.ok ([(none, none), (some [0x91], none), (some [0x91, 0x8d], some [0x91, 0x8d, 0x4c])], .done)) ∧
    probeMetaV0 toyComps (filesOf toyCfgB toyKvs (some (encMeta { numRecords := 1000, nullValues := 999 }))) =
      some (.ok { numRecords := 1000, nullValues := 999 }) := by decide +kernel

def dmgCfg : Cfg := { iv := 2, ic := none, ict := 0, dv := 2, dc := none, dct := 0 }

def dmgKvs : List KV := [([1], some [10, 11]), ([2], some [20, 21])]

/-- the version-0 table of `dmgKvs` with the first value byte changed from 10 to 99 -/
def dmgFiles : Files :=
  { filesOf dmgCfg dmgKvs none with data := (filesOf dmgCfg dmgKvs none).data.set 15 99 }

/-- the same pairs in a CURRENT table, the same value byte changed (it sits at offset 19 there) -/
def dmgCur : Table := { writeTable plainCfg dmgKvs with data := (writeTable plainCfg dmgKvs).data.set 19 99 }

/-- the error `NewSSTableReader` fails with on a current table (`none` = it succeeds) -/
def curOpenErr (o : ReadOpts) (t : Table) : Option Err :=
  match openTable plainComps .slice o t none with
  | .ok _ => none
  | .error e => some e

def curGet (o : ReadOpts) (t : Table) (key : Bytes) : Option (Except Err GoBytes) :=
  match openTable plainComps .slice o t none with
  | .ok (r, idx) => (r.get idx key).2
  | .error _ => none

end SST.Proofs.V0
