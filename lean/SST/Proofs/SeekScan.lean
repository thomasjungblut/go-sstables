/-
`SeekNext` (4 KiB windows, marker scan, trial reads), specified once over an arbitrary trial reader `rd`
(`seekNextG`): it finds the first position at or after the start offset where the marker stands and the trial read
succeeds (`seekNextG_spec`), and all it needs of `rd` is that it does not accept the bare marker at the very end of
the file (`TailSafe`; `tailSafe_iff_spec`).  The scan of the current format is the instance `rd = readAt c file`
(`seekNextG_v4`).  On a written file of any record framing whose records start with the marker the scan returns the
first record at or after the offset (`IsFraming.seek_first_record`).
-/
import SST.Spec.RecordIOLegacy
import SST.Proofs.FileFraming
import SST.Proofs.RecordFraming
namespace SST.Proofs.Legacy
open SST Generated SST.Legacy

theorem take3_iff (l : Bytes) (a b d : UInt8) :
    l.take 3 = [a, b, d] ↔ l[0]? = some a ∧ l[1]? = some b ∧ l[2]? = some d := by
  match l with
  | [] => simp
  | [_] => simp
  | [_, _] => simp
  | x :: y :: z :: t => simp

theorem markerAtL_iff (file : Bytes) (p : Nat) :
    MarkerAtL file p ↔ file[p]? = some 0x91 ∧ file[p + 1]? = some 0x8d ∧ file[p + 2]? = some 0x4c := by
  unfold MarkerAtL
  rw [show magicBytes.length = 3 from rfl, show magicBytes = [0x91, 0x8d, 0x4c] from rfl, take3_iff]
  simp only [List.getElem?_drop, Nat.add_zero]

theorem markerAtL_len (file : Bytes) (p : Nat) (h : MarkerAtL file p) : p + 3 ≤ file.length := by
  have h2 := ((markerAtL_iff file p).mp h).2.2
  have := (List.getElem?_eq_some_iff.mp h2).1
  omega

theorem drop_eq_magic (file : Bytes) (q : Nat) (hq : q + 3 = file.length) (hm : MarkerAtL file q) :
    file.drop q = magicBytes := by
  unfold MarkerAtL at hm
  rw [List.take_of_length_le (by rw [List.length_drop, show magicBytes.length = 3 from rfl]; omega)] at hm
  exact hm

theorem matchMarker_eq (win : Bytes) (n i : Nat) : matchMarker win n i =
    if win.getD i 0 != 0x91 then (i, false) else if i + 1 ≥ n then (i + 1, true)
    else if win.getD (i + 1) 0 != 0x8d then (i + 1, false) else if i + 2 ≥ n then (i + 2, true)
    else if win.getD (i + 2) 0 != 0x4c then (i + 2, false) else if i + 3 ≥ n then (i + 3, true)
    else (i + 3, false) := rfl

theorem matchMarker_cases (win : Bytes) (n i : Nat) :
    (∃ ix, matchMarker win n i = (ix, true) ∧ n ≤ i + 3) ∨
    (matchMarker win n i = (i, false) ∧ win.getD i 0 ≠ 0x91) ∨
    (matchMarker win n i = (i + 1, false) ∧ i + 1 < n ∧ win.getD (i + 1) 0 ≠ 0x8d) ∨
    (matchMarker win n i = (i + 2, false) ∧ i + 2 < n ∧ win.getD (i + 2) 0 ≠ 0x4c) ∨
    (matchMarker win n i = (i + 3, false) ∧ i + 3 < n ∧
      win.getD i 0 = 0x91 ∧ win.getD (i + 1) 0 = 0x8d ∧ win.getD (i + 2) 0 = 0x4c) := by
  have hb : ∀ {x b : UInt8}, x = b → ¬ (x != b) = true := fun h => by rw [h, bne_self_eq_false]; decide
  have hn : ∀ {x b : UInt8}, x ≠ b → (x != b) = true := fun h => bne_iff_ne.mpr h
  rw [matchMarker_eq]
  by_cases h0 : win.getD i 0 = 0x91
  · rw [if_neg (hb h0)]
    by_cases e1 : i + 1 ≥ n
    · rw [if_pos e1]; exact Or.inl ⟨_, rfl, Nat.le_trans e1 (Nat.add_le_add_left (by decide) i)⟩
    rw [if_neg e1]
    by_cases h1 : win.getD (i + 1) 0 = 0x8d
    · rw [if_neg (hb h1)]
      by_cases e2 : i + 2 ≥ n
      · rw [if_pos e2]; exact Or.inl ⟨_, rfl, Nat.le_trans e2 (Nat.add_le_add_left (by decide) i)⟩
      rw [if_neg e2]
      by_cases h2 : win.getD (i + 2) 0 = 0x4c
      · rw [if_neg (hb h2)]
        by_cases e3 : i + 3 ≥ n
        · rw [if_pos e3]; exact Or.inl ⟨_, rfl, e3⟩
        rw [if_neg e3]
        exact Or.inr (Or.inr (Or.inr (Or.inr ⟨rfl, Nat.lt_of_not_le e3, h0, h1, h2⟩)))
      · rw [if_pos (hn h2)]
        exact Or.inr (Or.inr (Or.inr (Or.inl ⟨rfl, Nat.lt_of_not_le e2, h2⟩)))
    · rw [if_pos (hn h1)]
      exact Or.inr (Or.inr (Or.inl ⟨rfl, Nat.lt_of_not_le e1, h1⟩))
  · rw [if_pos (hn h0)]
    exact Or.inr (Or.inl ⟨rfl, h0⟩)

/-- the one thing the scan needs from the trial reader: it does not accept a "record" that consists of nothing
but the three marker bytes at the very end of the file.  (The scan never tries that position: its match loop
runs into the end of the window and gives up.) -/
def TailSafe (rd : Nat → Except Err GoBytes) (file : Bytes) : Prop :=
  ∀ q r, q + 3 = file.length → MarkerAtL file q → rd q ≠ .ok r

theorem tailSafe_of_len (rd : Nat → Except Err GoBytes) (file : Bytes)
    (h : ∀ q r, rd q = .ok r → q + 3 < file.length) : TailSafe rd file := by
  intro q r hq _ hr
  have := h q r hr
  omega

/-- the readers behind a header parser that runs out on the bare marker (it does as soon as it frames one header
that starts with the marker: `IsHdr.prefix_ranOut`) -/
theorem tailSafe_readAtW (rh : Bytes → Except Err RecHeader) (W : Nat) (c : Compression) (file : Bytes)
    (hW : magicBytes.length ≤ W) (hm : RanOut (rh magicBytes)) : TailSafe (readAtW rh W c file) file := by
  intro q r hq hmk hr
  unfold readAtW at hr
  rw [if_neg (by omega), if_neg (by omega), drop_eq_magic file q hq hmk] at hr
  simp only [List.take_of_length_le hW] at hr
  obtain ⟨e, he⟩ := hm.error
  rw [he] at hr
  cases hr

def ScanPostG (rd : Nat → Except Err GoBytes) (file : Bytes) (lo next n : Nat) : ScanOut → Prop
  | .found p r => lo ≤ p ∧ MarkerAtL file p ∧ rd p = .ok r ∧
      ∀ q, lo ≤ q → q < p → ¬ ValidAtG rd file q
  | .fail _ => False
  | .advance i => i ≤ n ∧ n ≤ i + 3 ∧ ∀ q, lo ≤ q → q < next + i → ¬ ValidAtG rd file q

/-- the match loop at window position `i`, read off the file: it runs into the end of the window; or no marker
stands at `next + i`; or one does, and then none at the next two positions, which hold `8d 4c` -/
theorem matchMarker_file (file : Bytes) (next i : Nat) {win : Bytes} (hwin : (file.drop next).take seekLen = win)
    (hi : i < win.length) :
    (∃ ix, matchMarker win win.length i = (ix, true) ∧ win.length ≤ i + 3) ∨
    (∃ ix, matchMarker win win.length i = (ix, false) ∧ ix - i < magicBytes.length ∧
      ¬ MarkerAtL file (next + i)) ∨
    (matchMarker win win.length i = (i + 3, false) ∧ i + 3 < win.length ∧ MarkerAtL file (next + i) ∧
      ¬ MarkerAtL file (next + i + 1) ∧ ¬ MarkerAtL file (next + i + 2)) := by
  have hget : ∀ j, j < win.length → win.getD j 0 = file[next + j]?.getD 0 := by
    intro j hj; subst hwin
    have : j < seekLen := by rw [List.length_take] at hj; omega
    rw [List.getD_eq_getElem?_getD, List.getElem?_take_of_lt this, List.getElem?_drop]
  have hne : ∀ j b, j < win.length → win.getD j 0 ≠ b → file[next + j]? ≠ some b := by
    intro j b hj hb hf; rw [hget j hj, hf] at hb; exact hb rfl
  have heq : ∀ j (b : UInt8), j < win.length → b ≠ 0 → win.getD j 0 = b → file[next + j]? = some b := by
    intro j b hj hb h
    rw [hget j hj] at h
    cases hf : file[next + j]? with
    | none => rw [hf] at h; exact absurd h.symm hb
    | some x => rw [hf] at h; exact congrArg some h
  have h3 : magicBytes.length = 3 := rfl
  rcases matchMarker_cases win win.length i with ⟨ix, hm, hn⟩ | ⟨hm, hb⟩ | ⟨hm, hl, hb⟩ | ⟨hm, hl, hb⟩ |
      ⟨hm, hl, b0, b1, b2⟩
  · exact Or.inl ⟨ix, hm, hn⟩
  · exact Or.inr (Or.inl ⟨i, hm, by omega, fun h => hne i _ hi hb ((markerAtL_iff file _).mp h).1⟩)
  · refine Or.inr (Or.inl ⟨i + 1, hm, by omega, fun h => hne (i + 1) _ hl hb ?_⟩)
    rw [← Nat.add_assoc]; exact ((markerAtL_iff file _).mp h).2.1
  · refine Or.inr (Or.inl ⟨i + 2, hm, by omega, fun h => hne (i + 2) _ hl hb ?_⟩)
    rw [← Nat.add_assoc]; exact ((markerAtL_iff file _).mp h).2.2
  · have f0 := heq i _ hi (by decide) b0
    have f1 := heq (i + 1) _ (by omega) (by decide) b1
    have f2 := heq (i + 2) _ (by omega) (by decide) b2
    refine Or.inr (Or.inr ⟨hm, hl, (markerAtL_iff file _).mpr ⟨f0, ?_, ?_⟩, fun h => ?_, fun h => ?_⟩)
    · rw [Nat.add_assoc]; exact f1
    · rw [Nat.add_assoc]; exact f2
    · have := ((markerAtL_iff file _).mp h).1
      rw [Nat.add_assoc, f1] at this; exact absurd this (by decide)
    · have := ((markerAtL_iff file _).mp h).1
      rw [Nat.add_assoc, f2] at this; exact absurd this (by decide)

/-- the scan's invariant (nothing valid in `[lo, b)`) moves on by one position that is not valid either -/
theorem noValid_step {rd : Nat → Except Err GoBytes} {file : Bytes} {lo b : Nat}
    (h : ∀ q, lo ≤ q → q < b → ¬ ValidAtG rd file q) (hb : ¬ ValidAtG rd file b) :
    ∀ q, lo ≤ q → q < b + 1 → ¬ ValidAtG rd file q := by
  intro q h1 h2
  by_cases hq : q = b
  · rw [hq]; exact hb
  · exact h q h1 (Nat.lt_of_le_of_ne (Nat.le_of_lt_succ h2) hq)

theorem scanWindowG_spec (rd : Nat → Except Err GoBytes) (file : Bytes) (lo next : Nat) (hlo : lo ≤ next)
    {win : Bytes} (hwin : (file.drop next).take seekLen = win) :
    ∀ (fuel i : Nat), i ≤ win.length → win.length + 1 ≤ fuel + i →
      (∀ q, lo ≤ q → q < next + i → ¬ ValidAtG rd file q) →
      ScanPostG rd file lo next win.length (scanWindowG rd next win win.length fuel i) := by
  intro fuel
  induction fuel with
  | zero => intro i hi hf _; omega
  | succ f ih =>
    intro i hi hf hinv
    unfold scanWindowG
    by_cases hge : i ≥ win.length
    · rw [if_pos hge]; exact ⟨hi, Nat.le_add_right_of_le hge, hinv⟩
    rw [if_neg hge]
    rcases matchMarker_file file next i hwin (Nat.lt_of_not_le hge) with
      ⟨ix, hm, hn⟩ | ⟨ix, hm, hlt, hno⟩ | ⟨hm, hl, hmark, hno1, hno2⟩
    · rw [hm]; simp only [if_true]
      exact ⟨hi, hn, hinv⟩
    · rw [hm]
      simp only [Bool.false_eq_true, if_false]
      rw [if_pos hlt]
      exact ih (i + 1) (Nat.lt_of_not_le hge) (by omega) (noValid_step hinv fun hv => hno hv.1)
    · -- marker found: trial read; when it fails the scan goes on behind the marker
      rw [hm]
      simp only [Bool.false_eq_true, if_false]
      rw [if_neg (by rw [Nat.add_sub_cancel_left]; decide)]
      cases hr : rd (next + i) with
      | ok r => exact ⟨Nat.le_trans hlo (Nat.le_add_right _ _), hmark, hr, hinv⟩
      | error e =>
        have h0 : ¬ ValidAtG rd file (next + i) := by
          intro hv; obtain ⟨r, hr'⟩ := hv.2; rw [hr] at hr'; cases hr'
        exact ih (i + 3) (Nat.le_of_lt hl) (by omega)
          (noValid_step (noValid_step (noValid_step hinv h0) fun hv => hno1 hv.1) fun hv => hno2 hv.1)

def SeekPostG (rd : Nat → Except Err GoBytes) (file : Bytes) (off : Nat) : Except Err (Nat × GoBytes) → Prop
  | .ok (p, r) => off ≤ p ∧ MarkerAtL file p ∧ rd p = .ok r ∧
      ∀ q, off ≤ q → q < p → ¬ ValidAtG rd file q
  | .error e => e = .eof ∧ ∀ q, off ≤ q → ¬ ValidAtG rd file q

/-- at most 3 bytes left: nothing the trial reader accepts starts from here on -/
theorem no_valid_tailG (rd : Nat → Except Err GoBytes) (file : Bytes) (ht : TailSafe rd file) (next : Nat)
    (h : file.length ≤ next + 3) : ∀ q, next ≤ q → ¬ ValidAtG rd file q := by
  intro q hq hv
  have hm := markerAtL_len file q hv.1
  obtain ⟨r, hr⟩ := hv.2
  exact ht q r (by omega) hv.1 hr

theorem seekNextAuxG_spec (rd : Nat → Except Err GoBytes) (file : Bytes) (ht : TailSafe rd file) (off : Nat) :
    ∀ (fuel next : Nat), next ≤ file.length → file.length + 2 ≤ fuel + next → off ≤ next →
      (∀ q, off ≤ q → q < next → ¬ ValidAtG rd file q) →
      SeekPostG rd file off (seekNextAuxG rd file fuel next) := by
  intro fuel
  induction fuel with
  | zero => intro next h1 h2; omega
  | succ f ih =>
    intro next hn hf hoff hinv
    unfold seekNextAuxG
    rw [if_neg (Nat.not_lt.mpr hn)]
    simp only []
    generalize hwin : (file.drop next).take seekLen = win
    -- the window lies inside the file, and is short only at its end, where nothing valid is left
    obtain ⟨hle, hshort⟩ : next + win.length ≤ file.length ∧ (win.length ≤ 3 → file.length ≤ next + 3) := by
      rw [← hwin, List.length_take, List.length_drop, show seekLen = 4096 from rfl]; omega
    have htail : win.length ≤ 3 → ∀ q, off ≤ q → ¬ ValidAtG rd file q := by
      intro h q hq
      by_cases hq' : q < next
      · exact hinv q hq hq'
      · exact no_valid_tailG rd file ht next (hshort h) q (Nat.le_of_not_lt hq')
    by_cases h0 : win.length = 0
    · rw [if_pos h0]; exact ⟨rfl, htail (h0 ▸ Nat.zero_le 3)⟩
    rw [if_neg h0]
    have hs := scanWindowG_spec rd file off next hoff hwin (win.length + 1) 0 (Nat.zero_le _) (Nat.le_refl _)
      (fun q a b => hinv q a b)
    generalize scanWindowG rd next win win.length (win.length + 1) 0 = out at hs
    cases out with
    | found p r => exact hs
    | fail e => exact hs.elim
    | advance i =>
      obtain ⟨a1, a2, a3⟩ := hs
      simp only []
      by_cases hi0 : i = 0
      · rw [if_pos hi0]; exact ⟨rfl, htail (by rw [hi0] at a2; exact a2)⟩
      · rw [if_neg hi0]
        exact ih (next + i) (Nat.le_trans (Nat.add_le_add_left a1 _) hle) (by omega)
          (Nat.le_trans hoff (Nat.le_add_right _ _)) a3

/-- the scan over ANY trial reader that is `TailSafe`: the FIRST position at or after `off` where the marker
stands and the trial read succeeds, end-of-file if there is none -/
theorem seekNextG_spec (rd : Nat → Except Err GoBytes) (file : Bytes) (ht : TailSafe rd file) (off : Nat)
    (hoff : off ≤ file.length) :
    match seekNextG rd file off with
    | .ok (p, r) => off ≤ p ∧ MarkerAtL file p ∧ rd p = .ok r ∧ ∀ q, off ≤ q → q < p → ¬ ValidAtG rd file q
    | .error e => e = .eof ∧ ∀ q, off ≤ q → ¬ ValidAtG rd file q :=
  seekNextAuxG_spec rd file ht off (file.length + 2) off hoff (by omega) (Nat.le_refl _)
    (fun q a b => by omega)

theorem scanWindowG_v4 (c : Compression) (file : Bytes) (next : Nat) (win : Bytes) (n : Nat) :
    ∀ fuel i, scanWindowG (readAt c file) next win n fuel i = scanWindow c file next win n fuel i := by
  intro fuel
  induction fuel with
  | zero => intro i; rfl
  | succ f ih =>
    intro i
    unfold scanWindowG scanWindow
    simp only [ih]
    cases readAt c file (next + i) <;> rfl

theorem seekNextAuxG_v4 (c : Compression) (file : Bytes) :
    ∀ fuel next, seekNextAuxG (readAt c file) file fuel next = seekNextAux c file fuel next := by
  intro fuel
  induction fuel with
  | zero => intro next; rfl
  | succ f ih =>
    intro next
    unfold seekNextAuxG seekNextAux
    simp only [ih, scanWindowG_v4]
    generalize scanWindow c file next _ _ _ _ = out
    cases out <;> rfl

theorem seekNextG_v4 (c : Compression) (file : Bytes) (off : Nat) :
    seekNextG (readAt c file) file off = seekNext c file off :=
  seekNextAuxG_v4 c file _ _

/-- when the file ends with the three marker bytes the scan started at them gives up without a trial read -/
theorem seekNextG_tail (rd : Nat → Except Err GoBytes) (file : Bytes) (q : Nat) (hq : q + 3 = file.length)
    (hm : MarkerAtL file q) : seekNextG rd file q = .error .eof := by
  have hd := drop_eq_magic file q hq hm
  have ht : List.take seekLen magicBytes = magicBytes := by decide
  have hs : scanWindowG rd q magicBytes magicBytes.length (magicBytes.length + 1) 0 = .advance 0 := rfl
  unfold seekNextG
  rw [show file.length + 2 = (file.length + 1) + 1 from rfl]
  unfold seekNextAuxG
  rw [if_neg (by omega)]
  simp only [hd, ht]
  rw [if_neg (by decide), hs]
  simp

/-- the specification of the scan holds for every start offset in the file IF AND ONLY IF the trial reader is
`TailSafe` -/
theorem tailSafe_iff_spec (rd : Nat → Except Err GoBytes) (file : Bytes) :
    TailSafe rd file ↔ ∀ off, off ≤ file.length → SeekPostG rd file off (seekNextG rd file off) := by
  constructor
  · intro ht off hoff; exact seekNextG_spec rd file ht off hoff
  · intro h q r hq hm hr
    have := h q (by omega)
    rw [seekNextG_tail rd file q hq hm] at this
    exact this.2 q (Nat.le_refl _) ⟨hm, r, hr⟩

/-- on a file where a trial read succeeds exactly at the strictly increasing positions `offs k` (`k < n`), giving
`res k`, the scan from any offset returns the first of them at or after it, or end-of-file -/
theorem seekNextG_first_record (rd : Nat → Except Err GoBytes) (file : Bytes) (ht : TailSafe rd file) (n : Nat)
    (offs : Nat → Nat) (res : (k : Nat) → k < n → GoBytes) (hmono : ∀ j k, j < k → k < n → offs j < offs k)
    (hvalid : ∀ k (hk : k < n), MarkerAtL file (offs k) ∧ rd (offs k) = .ok (res k hk))
    (hnp : ∀ p, ValidAtG rd file p → ∃ k, k < n ∧ p = offs k) (off : Nat) (hoff : off ≤ file.length) :
    match seekNextG rd file off with
    | .ok (p, r) => ∃ k, ∃ hk : k < n, p = offs k ∧ r = res k hk ∧ off ≤ p ∧ ∀ j, j < k → offs j < off
    | .error e => e = .eof ∧ ∀ k, k < n → offs k < off := by
  have hv : ∀ k, k < n → ValidAtG rd file (offs k) := fun k hk => ⟨(hvalid k hk).1, _, (hvalid k hk).2⟩
  have h := seekNextG_spec rd file ht off hoff
  cases hr : seekNextG rd file off with
  | error e =>
    rw [hr] at h
    exact ⟨h.1, fun k hk => Nat.lt_of_not_le fun h' => h.2 _ h' (hv k hk)⟩
  | ok pr =>
    obtain ⟨p, r⟩ := pr
    rw [hr] at h
    obtain ⟨h1, h2, h3, h4⟩ := h
    obtain ⟨k, hk, rfl⟩ := hnp p ⟨h2, r, h3⟩
    refine ⟨k, hk, rfl, ?_, h1, fun j hj => Nat.lt_of_not_le fun h' =>
      h4 _ h' (hmono j k hj hk) (hv j (Nat.lt_trans hj hk))⟩
    rw [(hvalid k hk).2] at h3
    exact (Except.ok.inj h3).symm

theorem markerAtL_append (pre X rest : Bytes) : MarkerAtL (pre ++ (magicBytes ++ X ++ rest)) pre.length := by
  unfold MarkerAtL
  rw [List.drop_left, List.append_assoc, List.take_left]

/-- `SeekNext` on a written file, over any record framing whose records start with the marker: when no trial read
succeeds anywhere but at a record start, the scan from any offset returns the first record that starts at or after
it, or end-of-file -/
theorem _root_.SST.Proofs.IsFraming.seek_first_record {law : Prop} {enc : GoBytes → Bytes}
    {back : GoBytes → GoBytes} {fits : GoBytes → Prop} {next : Bytes → Except Err (GoBytes × Nat)}
    {skip : Bytes → Except Err Nat} {rdAt : Bytes → Nat → Except Err GoBytes}
    (F : IsFraming law enc back fits next skip rdAt) (hl : law)
    (hmark : ∀ r, ∃ X, enc r = magicBytes ++ X) (hdr : Bytes) (rs : List GoBytes) (hf : ∀ r ∈ rs, fits r)
    (ht : TailSafe (rdAt (hdr ++ catRecs enc rs)) (hdr ++ catRecs enc rs))
    (hnp : ∀ p, ValidAtG (rdAt (hdr ++ catRecs enc rs)) (hdr ++ catRecs enc rs) p →
      ∃ k, k < rs.length ∧ p = offs enc hdr.length rs k)
    (off : Nat) (hoff : off ≤ (hdr ++ catRecs enc rs).length) :
    match seekNextG (rdAt (hdr ++ catRecs enc rs)) (hdr ++ catRecs enc rs) off with
    | .ok (p, r) => ∃ k, ∃ hk : k < rs.length, p = offs enc hdr.length rs k ∧ r = back rs[k] ∧ off ≤ p ∧
        ∀ j, j < k → offs enc hdr.length rs j < off
    | .error e => e = .eof ∧ ∀ k, k < rs.length → offs enc hdr.length rs k < off := by
  refine seekNextG_first_record _ _ ht rs.length (offs enc hdr.length rs) (fun k _ => back rs[k])
    (fun j k hjk hk => offs_lt F.pos _ rs j k hjk (Nat.le_of_lt hk)) (fun k hk => ⟨?_, ?_⟩) hnp off hoff
  · obtain ⟨X, hX⟩ := hmark rs[k]
    rw [catRecs_split hdr rs k hk, offs_eq, hX]
    exact markerAtL_append _ _ _
  · have := F.at_offs hl hdr rs [] k hk hf
    rwa [List.append_nil] at this

end SST.Proofs.Legacy
