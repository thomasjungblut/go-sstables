/-
Proofs for the sstable reader on the files of the current format (C03, C15): the table written from an ascending list
(`tableOf`) opens, its index file loads to `loadedEntries`, its values sit behind those entries (`trips`,
`getValue_table`), so by SST/Proofs/SSTableServe.lean it reads back as the sorted map of the list through every
in-memory loader (`table_reads`); the closed table of any call program decodes to the accepted pairs.
-/
import SST.Proofs.SSTableWriter
import SST.Proofs.SSTableServe
import SST.Proofs.Proto
namespace SST.Proofs.Sst
open SST Generated SST.Proofs

/-- the triples of the table of `kvs`: value `i` sits at the offset of record `i` of data.rio -/
def trips (cfg : SstCfg) (kvs : List KV) : List Trip :=
  kvs.mapIdx fun i p => (p.1, p.2, (⟨offsetOf cfg.dc (kvs.map (·.2)) i, valueSum p.2⟩ : IndexVal))

def loadedEntries (cfg : SstCfg) (kvs : List KV) : List IEntry := (trips cfg kvs).map Trip.ie

theorem trips_kv (cfg : SstCfg) (kvs : List KV) : (trips cfg kvs).map Trip.kv = kvs := by
  rw [trips, map_mapIdx]
  exact (mapIdx_eq_map (fun p : KV => p) kvs).trans (List.map_id' kvs)

theorem loadedEntries_eq (cfg : SstCfg) (kvs : List KV) :
    loadedEntries cfg kvs = (entriesOf cfg.dc kvs).map fun e => (normKey e.1, e.2) := by
  rw [entriesOf_mapIdx, loadedEntries, trips, map_mapIdx, map_mapIdx]
  rfl

theorem loadedEntries_strictAsc (cfg : SstCfg) (kvs : List KV) (hs : StrictAsc bytesCmp kvs) :
    StrictAsc keyCmp (loadedEntries cfg kvs) :=
  strictAsc_ie (by rw [trips_kv]; exact hs)

theorem loadedEntries_keys (cfg : SstCfg) (kvs : List KV) :
    (loadedEntries cfg kvs).map (fun e => e.1.getD []) = kvs.map (·.1) := by
  rw [loadedEntries, keys_ie, trips_kv]

theorem loadEntriesS_enc (c : Compression) (hl : LawfulC c) (es : List (Bytes × IndexVal)) :
    ∀ fuel, (encAll c (es.map indexRecOf)).length < fuel →
      (∀ e ∈ es, e.1.length < 2 ^ 64 ∧ e.2.off < 2 ^ 64 ∧ e.2.sum < 2 ^ 64 ∧ FitsRec c (indexRecOf e)) →
      loadEntriesS c fuel (encAll c (es.map indexRecOf)) = .ok (es.map fun e => (normKey e.1, e.2)) := by
  induction es with
  | nil =>
    intro fuel hf _
    obtain ⟨f, rfl⟩ := Nat.exists_eq_succ_of_ne_zero (Nat.ne_of_gt hf)
    rw [List.map_nil, encAll_nil, loadEntriesS, readNextS_nil]
    rfl
  | cons e es ih =>
    intro fuel hf hfit
    obtain ⟨f, rfl⟩ := Nat.exists_eq_succ_of_ne_zero (Nat.ne_of_gt (Nat.zero_lt_of_lt hf))
    obtain ⟨h1, h2, h3, h4⟩ := hfit e List.mem_cons_self
    have hr := readNextS_enc c (indexRecOf e) (encAll c (es.map indexRecOf)) hl h4
    have hd := Pb.decIndexEntry_enc e.1 e.2.off e.2.sum h1 h2 h3
    rw [List.map_cons, encAll_cons] at hf ⊢
    have ih' := ih f (Nat.lt_of_lt_of_le (Nat.lt_add_of_pos_left (encRecord_pos c _))
      (Nat.le_of_lt_succ (List.length_append ▸ hf))) (fun x hx => hfit x (List.mem_cons_of_mem _ hx))
    simp only [List.map_cons, loadEntriesS, hr]
    simp only [indexRecOf, Option.getD_some, hd, List.drop_left, ih']
    rfl

/-- `Scan` pairs the i-th index entry with the i-th sequential record; no offset is looked at -/
theorem fullScanS_trips (dc : Compression) (hl : LawfulC dc) (skip : Bool) : ∀ ts : List Trip,
    (∀ t ∈ ts, FitsRec dc t.2.1 ∧ t.2.2.sum = valueSum t.2.1) →
    fullScanS dc skip (ts.map Trip.ie) .done (encAll dc (ts.map (·.2.1))) = (ts.map Trip.out, .done) := by
  intro ts
  induction ts with
  | nil => intro _; rfl
  | cons t ts ih =>
    intro h
    obtain ⟨hf, hs⟩ := h t List.mem_cons_self
    have hr := readNextS_enc dc t.2.1 (encAll dc (ts.map (·.2.1))) hl hf
    simp only [List.map_cons, encAll_cons, fullScanS, hr, Trip.ie, hs, List.drop_left,
      ih fun x hx => h x (List.mem_cons_of_mem _ hx)]
    simp [Trip.out]

theorem metaFits (cfg : SstCfg) (kvs : List KV) (hf : FitsKV cfg kvs) : Pb.MetaFits (metaOf cfg kvs) := by
  obtain ⟨h1, _, h3⟩ := hf
  have hlen : kvs.length ≤ (dataFileOf cfg kvs).length := by
    have := length_le_encAll cfg.dc (kvs.map (·.2))
    simp only [dataFileOf, List.length_append, List.length_map] at this ⊢; omega
  have hnull : (kvs.filter (·.2.isNone)).length ≤ kvs.length := List.length_filter_le _ _
  have hmin : ((kvs.head?.map (·.1)).getD []).length < 2 ^ 64 := by
    cases kvs with
    | nil => simp
    | cons p rest => simpa using (h1 p (by simp)).2
  have hmax : ((kvs.getLast?.map (·.1)).getD []).length < 2 ^ 64 := by
    cases hgl : kvs.getLast? with
    | none => simp
    | some l => simpa using (h1 l (List.mem_of_getLast? hgl)).2
  have hD : (dataFileOf cfg kvs).length < 2 ^ 64 := Nat.lt_of_le_of_lt (Nat.le_add_right _ _) h3
  exact ⟨Nat.lt_of_le_of_lt hlen hD, hmin, hmax, hD, Nat.lt_of_le_of_lt (Nat.le_add_left _ _) h3, h3,
    (by decide : sstVersion < 2 ^ 32), (by decide : 0 < 2 ^ 64), Nat.lt_of_le_of_lt (Nat.le_trans hnull hlen) hD⟩

theorem decMeta_metaOf (cfg : SstCfg) (kvs : List KV) (hf : FitsKV cfg kvs) :
    decMeta (encMeta (metaOf cfg kvs)) = .ok (metaOf cfg kvs).norm :=
  Pb.decMeta_enc _ (metaFits cfg kvs hf)

theorem entries_fit (cfg : SstCfg) (kvs : List KV) (hf : FitsKV cfg kvs) :
    ∀ e ∈ entriesOf cfg.dc kvs,
      e.1.length < 2 ^ 64 ∧ e.2.off < 2 ^ 64 ∧ e.2.sum < 2 ^ 64 ∧ FitsRec cfg.ic (indexRecOf e) := by
  intro e he
  have h2 := hf.2.1 e he
  rw [entriesOf_mapIdx] at he
  obtain ⟨i, hi, rfl⟩ := List.mem_mapIdx.1 he
  exact ⟨(hf.1 _ (List.getElem_mem hi)).2, h2.1, UInt64.toNat_lt _, h2.2⟩

theorem loadEntries_of_open (comps : Nat → Compression) (file : Bytes) (c : Compression) (st : Bytes)
    (h : openSeq comps file = .ok (c, st)) : loadEntries comps file = loadEntriesS c (st.length + 1) st := by
  unfold loadEntries; rw [h]

theorem loadEntries_header (comps : Nat → Compression) (ct : Nat) (hct : ct ≤ maxCompression) :
    loadEntries comps (fileHeader currentVersion ct) = .ok [] := by
  have h := openSeq_file comps ct [] hct
  rw [List.append_nil] at h
  rw [loadEntries_of_open comps _ _ _ h]
  simp [loadEntriesS, readNextS_nil]

/-! The conjuncts of `CompsOk` by name, and what they are for: a file that starts with a header of the writer opens
with the writer's compressor. -/
section CompsOk
variable {comps : Nat → Compression} {cfg : SstCfg} (hc : CompsOk comps cfg)
include hc
theorem _root_.SST.CompsOk.dataCodec : comps cfg.dct = cfg.dc := hc.1
theorem _root_.SST.CompsOk.indexCodec : comps cfg.ict = cfg.ic := hc.2.1
theorem _root_.SST.CompsOk.dataLawful : LawfulC cfg.dc := hc.2.2.1
theorem _root_.SST.CompsOk.indexLawful : LawfulC cfg.ic := hc.2.2.2.1
theorem _root_.SST.CompsOk.dataCode_le : cfg.dct ≤ maxCompression := hc.2.2.2.2.1
theorem _root_.SST.CompsOk.indexCode_le : cfg.ict ≤ maxCompression := hc.2.2.2.2.2

theorem _root_.SST.CompsOk.openSeq_data (rest : Bytes) :
    openSeq comps (fileHeader currentVersion cfg.dct ++ rest) = .ok (cfg.dc, rest) :=
  hc.dataCodec ▸ openSeq_file comps cfg.dct rest hc.dataCode_le

theorem _root_.SST.CompsOk.openMmap_data (rest : Bytes) :
    openMmap comps (fileHeader currentVersion cfg.dct ++ rest) = .ok cfg.dc :=
  hc.dataCodec ▸ openMmap_file comps cfg.dct rest hc.dataCode_le

theorem _root_.SST.CompsOk.openSeq_index (rest : Bytes) :
    openSeq comps (fileHeader currentVersion cfg.ict ++ rest) = .ok (cfg.ic, rest) :=
  hc.indexCodec ▸ openSeq_file comps cfg.ict rest hc.indexCode_le

theorem _root_.SST.CompsOk.openMmap_index (rest : Bytes) :
    openMmap comps (fileHeader currentVersion cfg.ict ++ rest) = .ok cfg.ic :=
  hc.indexCodec ▸ openMmap_file comps cfg.ict rest hc.indexCode_le
end CompsOk

theorem loadEntries_table (comps : Nat → Compression) (cfg : SstCfg) (kvs : List KV)
    (hc : CompsOk comps cfg) (hf : FitsKV cfg kvs) :
    loadEntries comps (indexFileOf cfg kvs) = .ok (loadedEntries cfg kvs) := by
  rw [loadEntries_of_open comps (indexFileOf cfg kvs) _ _ (hc.openSeq_index _),
    loadEntriesS_enc cfg.ic hc.indexLawful (entriesOf cfg.dc kvs) _ (Nat.lt_succ_self _)]
  · rw [loadedEntries_eq]
  · exact entries_fit cfg kvs hf

/-- the reader `NewSSTableReader` returns on the table of `kvs` -/
def readerOf (cfg : SstCfg) (kvs : List KV) (o : ReadOpts) (bloom : Option (Bytes → Bool)) : Reader :=
  { data := dataFileOf cfg kvs, dc := cfg.dc, bloom := bloom, skipHashOnRead := o.skipHashOnRead,
    md := (metaOf cfg kvs).norm }

/-- the value of every entry sits in data.rio at the entry's offset: `readAt_offset` of the recordio layer -/
theorem readAt_table (cfg : SstCfg) (kvs : List KV) (hl : LawfulC cfg.dc) (hf : ∀ p ∈ kvs, FitsRec cfg.dc p.2)
    (t : Trip) (ht : t ∈ trips cfg kvs) :
    readAt cfg.dc (dataFileOf cfg kvs) t.2.2.off = .ok t.2.1 ∧ t.2.2.off < (dataFileOf cfg kvs).length ∧
      t.2.2.sum = valueSum t.2.1 := by
  obtain ⟨i, hi, rfl⟩ := List.mem_mapIdx.1 ht
  have hi' : i < (kvs.map (·.2)).length := by rw [List.length_map]; exact hi
  have h1 := readAt_offset cfg.dc cfg.dct (kvs.map (·.2)) i hi' hl (List.forall_mem_map.2 hf)
  rw [List.getElem_map] at h1
  exact ⟨h1, Nat.lt_of_lt_of_le (offsetOf_lt cfg.dc _ i (i + 1) (Nat.lt_succ_self i) hi')
    (offsetOf_le_file cfg.dc cfg.dct _ _), rfl⟩

theorem getValue_table (cfg : SstCfg) (kvs : List KV) (hl : LawfulC cfg.dc) (hf : FitsKV cfg kvs) (skip : Bool)
    (t : Trip) (ht : t ∈ trips cfg kvs) :
    getValueAtOffset cfg.dc (dataFileOf cfg kvs) t.2.2 skip = .ok t.2.1 := by
  obtain ⟨h1, h2, h3⟩ := readAt_table cfg kvs hl (fun p hp => (hf.1 p hp).1) t ht
  rw [getValueAtOffset_eq, rawAt, if_neg (Nat.ne_of_lt h2), h1, h3]
  exact gate_self skip _

theorem openTable_of (comps : Nat → Compression) (k : LoaderKind) (o : ReadOpts) (t : Table)
    (bloom : Option (Bytes → Bool)) (md : Meta) (idx : Index) (dc : Compression)
    (h1 : decMeta t.metaf = .ok md) (h2 : loadIndex comps k t.index = .ok idx) (h3 : md.version ≠ 0)
    (h4 : openMmap comps t.data = .ok dc) (h5 : validateData dc t.data idx.all = .ok ()) :
    openTable comps k o t bloom =
      .ok ({ data := t.data, dc := dc, bloom := bloom, skipHashOnRead := o.skipHashOnRead, md := md }, idx) := by
  unfold openTable
  rw [h1, h2]
  simp only [h3, if_false, h4, h5]
  cases o.skipHashOnLoad <;> rfl

theorem openTable_ok (comps : Nat → Compression) (cfg : SstCfg) (kvs : List KV)
    (hc : CompsOk comps cfg) (hf : FitsKV cfg kvs) (k : LoaderKind) (o : ReadOpts) (bloom : Option (Bytes → Bool))
    (idx : Index) (hload : loadIndex comps k (indexFileOf cfg kvs) = .ok idx)
    (hall : idx.all = (loadedEntries cfg kvs, .done)) :
    openTable comps k o (tableOf cfg kvs) bloom = .ok (readerOf cfg kvs o bloom, idx) := by
  have hv : (metaOf cfg kvs).norm.version ≠ 0 := by simp [Meta.norm, metaOf, sstVersion]
  have hmm : openMmap comps (tableOf cfg kvs).data = .ok cfg.dc := hc.openMmap_data _
  have hval : validateData cfg.dc (tableOf cfg kvs).data idx.all = .ok () := by
    unfold validateData
    rw [hall]
    show (match scanWith cfg.dc (dataFileOf cfg kvs) false (loadedEntries cfg kvs) .done with
          | (_, .done) => Except.ok ()
          | (_, .err e) => .error e) = _
    unfold loadedEntries
    rw [scanWith_good cfg.dc _ false (trips cfg kvs) fun t ht => getValue_table cfg kvs hc.dataLawful hf false t ht]
  exact openTable_of comps k o (tableOf cfg kvs) bloom _ idx cfg.dc (decMeta_metaOf cfg kvs hf) hload hv hmm hval

/-- `Scan` on the reader of the table of `kvs`, whatever index delivers the loaded entries -/
theorem fullScan_table (comps : Nat → Compression) (cfg : SstCfg) (kvs : List KV) (hc : CompsOk comps cfg)
    (hf : FitsKV cfg kvs) (o : ReadOpts) (bloom : Option (Bytes → Bool)) :
    (readerOf cfg kvs o bloom).fullScan comps (loadedEntries cfg kvs, .done) = .ok (kvs.map normKV, .done) := by
  rw [fullScan_of comps (readerOf cfg kvs o bloom) _ _ _ (hc.openSeq_data _)]
  have h := fullScanS_trips cfg.dc hc.dataLawful o.skipHashOnRead (trips cfg kvs) fun t ht =>
    ⟨(hf.1 _ (trips_kv cfg kvs ▸ List.mem_map_of_mem (f := Trip.kv) ht)).1,
      (readAt_table cfg kvs hc.dataLawful (fun p hp => (hf.1 p hp).1) t ht).2.2⟩
  rw [show (trips cfg kvs).map (·.2.1) = kvs.map (·.2) by
      conv => rhs; rw [← trips_kv cfg kvs, List.map_map]
      rfl,
    show (trips cfg kvs).map Trip.out = kvs.map normKV by
      conv => rhs; rw [← trips_kv cfg kvs, List.map_map]
      rfl] at h
  exact congrArg Except.ok h

theorem reads_as_map (comps : Nat → Compression) (cfg : SstCfg) (kvs : List KV)
    (hc : CompsOk comps cfg) (hf : FitsKV cfg kvs) (o : ReadOpts) (bloom : Option (Bytes → Bool))
    (hb : BloomOk bloom kvs) (P : Bytes → Prop) (idx : Index)
    (hr : IdxRefines P idx (loadedEntries cfg kvs)) :
    ReadsAsMap comps P (readerOf cfg kvs o bloom) idx kvs := by
  have h := reads_as_map_of_trips (r := readerOf cfg kvs o bloom) (T := trips cfg kvs)
    (fun t ht => getValue_table cfg kvs hc.dataLawful hf _ t ht) comps
  rw [trips_kv] at h
  exact h (fullScan_table comps cfg kvs hc hf o bloom) hb P idx hr

theorem reads_as_map_from (comps : Nat → Compression) (cfg : SstCfg) (kvs : List KV)
    (hc : CompsOk comps cfg) (hf : FitsKV cfg kvs) (o : ReadOpts) (bloom : Option (Bytes → Bool))
    (hb : BloomOk bloom kvs) (idx0 : Index)
    (hr : IdxRefinesFrom idx0 (loadedEntries cfg kvs)) :
    ReadsAsMapFrom comps (readerOf cfg kvs o bloom) idx0 kvs := by
  have h := reads_as_map_from_of_trips (r := readerOf cfg kvs o bloom) (T := trips cfg kvs)
    (fun t ht => getValue_table cfg kvs hc.dataLawful hf _ t ht) comps
  rw [trips_kv] at h
  exact h (fullScan_table comps cfg kvs hc hf o bloom) hb idx0 hr

/-- the index every in-memory loader makes of the index file of the table of `kvs` -/
theorem table_index (comps : Nat → Compression) (cfg : SstCfg) (kvs : List KV)
    (hc : CompsOk comps cfg) (hf : FitsKV cfg kvs) (hs : StrictAsc bytesCmp kvs)
    (k : LoaderKind) (hk : kindFits k (kvs.map (·.1))) :
    ∃ idx, loadIndex comps k (indexFileOf cfg kvs) = .ok idx ∧
      IdxRefines (kindProbes k (kvs.map (·.1))) idx (loadedEntries cfg kvs) := by
  obtain ⟨idx, hb, hr⟩ := build_refines (loadedEntries_strictAsc cfg kvs hs) k (by rw [loadedEntries_keys]; exact hk)
  exact ⟨idx, loadIndex_of_build (loadEntries_table comps cfg kvs hc hf) hb, loadedEntries_keys cfg kvs ▸ hr⟩

/-- a table written from an ascending list reads back as the sorted map of the list, whichever in-memory loader
opens it -/
theorem table_reads (comps : Nat → Compression) (cfg : SstCfg) (kvs : List KV)
    (hcmp : cfg.cmp = bytesCmp) (hc : CompsOk comps cfg) (hf : FitsKV cfg kvs) (hs : StrictAsc bytesCmp kvs)
    (k : LoaderKind) (hk : kindFits k (kvs.map (·.1))) (o : ReadOpts) (bloom : Option (Bytes → Bool))
    (hb : BloomOk bloom kvs) :
    ∃ r idx, openTable comps k o (writeTable cfg kvs) bloom = .ok (r, idx) ∧
      ReadsAsMap comps (kindProbes k (kvs.map (·.1))) r idx kvs := by
  obtain ⟨idx, hload, href⟩ := table_index comps cfg kvs hc hf hs k hk
  refine ⟨readerOf cfg kvs o bloom, idx, ?_, reads_as_map comps cfg kvs hc hf o bloom hb _ idx href⟩
  rw [writeTable_eq cfg kvs (by rw [hcmp]; exact hs)]
  exact openTable_ok comps cfg kvs hc hf k o bloom idx hload href.all

theorem contains_no_false_negative (comps : Nat → Compression) (r : Reader) (idx : Index) (kvs : List KV)
    (h : ReadsAsMap comps (fun _ => True) r idx kvs) :
    ∀ p ∈ kvs, r.contains idx p.1 = (idx, some (.ok true)) := by
  intro p hp
  rw [h.contains p.1 trivial, specGet_isSome_of_mem bytesCmp bytesCmp_refl kvs hp]

/-! ## C15: the closed table decodes to the accepted pairs; metadata -/

theorem table_decodes (comps : Nat → Compression) (cfg : SstCfg) (acc : List KV)
    (hc : CompsOk comps cfg) (hf : FitsKV cfg acc) :
    readAll cfg.dc (dataFileOf cfg acc) = (acc.map (·.2), .eof) ∧
    loadEntries comps (indexFileOf cfg acc) = .ok ((entriesOf cfg.dc acc).map fun e => (normKey e.1, e.2)) := by
  constructor
  · have hfr : ∀ r ∈ acc.map (·.2), FitsRec cfg.dc r := by
      intro r hr
      obtain ⟨p, hp, rfl⟩ := List.mem_map.mp hr
      exact (hf.1 p hp).1
    have := seq_roundtrip cfg.dc cfg.dct (acc.map (·.2)) hc.dataLawful hfr
    unfold dataFileOf
    exact this
  · rw [← loadedEntries_eq]
    exact loadEntries_table comps cfg acc hc hf

theorem closed_table_eq_accepted (comps : Nat → Compression) (cfg : SstCfg) (cs : List Call)
    (htr : ∀ a b c, cfg.cmp a b = .lt → cfg.cmp b c = .lt → cfg.cmp a c = .lt)
    (hc : CompsOk comps cfg) (hf : FitsKV cfg (accepted cfg.cmp cs)) :
    StrictAsc cfg.cmp (accepted cfg.cmp cs) ∧
    ((SstW.open cfg).run cfg cs).1.close = tableOf cfg (accepted cfg.cmp cs) ∧
    readAll cfg.dc ((SstW.open cfg).run cfg cs).1.close.data = ((accepted cfg.cmp cs).map (·.2), .eof) ∧
    loadEntries comps ((SstW.open cfg).run cfg cs).1.close.index =
      .ok ((entriesOf cfg.dc (accepted cfg.cmp cs)).map fun e => (normKey e.1, e.2)) := by
  rw [close_run_eq]
  exact ⟨accepted_strictAsc cfg.cmp htr cs, rfl, table_decodes comps cfg _ hc hf⟩

theorem metadata_truthful (cfg : SstCfg) (cs : List Call) :
    ((SstW.open cfg).run cfg cs).1.close.metaf = encMeta ((SstW.open cfg).run cfg cs).1.finalMeta ∧
    ((SstW.open cfg).run cfg cs).1.finalMeta = metaOf cfg (accepted cfg.cmp cs) ∧
    ((SstW.open cfg).run cfg cs).1.close = tableOf cfg (accepted cfg.cmp cs) ∧
    (FitsKV cfg (accepted cfg.cmp cs) →
      decMeta ((SstW.open cfg).run cfg cs).1.close.metaf = .ok (metaOf cfg (accepted cfg.cmp cs)).norm) := by
  refine ⟨rfl, (close_spec cfg _ _ (run_open_spec cfg cs).1).2, close_run_eq cfg cs, fun hf => ?_⟩
  rw [close_run_eq]
  exact decMeta_metaOf cfg _ hf

/-! ## the zero-padding collision of the map loader (D21) -/

theorem map_index_pad_collision (comps : Nat → Compression) (cfg : SstCfg) (hcmp : cfg.cmp = bytesCmp)
    (hc : CompsOk comps cfg) (v1 v2 : GoBytes) (hf : FitsKV cfg [([97], v1), ([97, 0], v2)])
    (o : ReadOpts) (bloom : Option (Bytes → Bool)) :
    ∃ r idx, openTable comps (.map 4) o (writeTable cfg [([97], v1), ([97, 0], v2)]) bloom = .ok (r, idx) ∧
      (r.get idx [97]).2 = some (.ok v2) ∧ specGetRes [([97], v1), ([97, 0], v2)] [97] = .ok v1 ∧
      (r.get idx [97, 0, 0]).2 = some (.ok v2) ∧
      specGetRes [([97], v1), ([97, 0], v2)] [97, 0, 0] = .error .notFound := by
  have hs : StrictAsc bytesCmp [(([97] : Bytes), v1), ([97, 0], v2)] :=
    List.pairwise_pair.2 (by decide : bytesCmp [97] [97, 0] = .lt)
  have hload : loadIndex comps (.map 4) _ = .ok (.map 4 (loadedEntries cfg [([97], v1), ([97, 0], v2)])) :=
    loadIndex_of_build (loadEntries_table comps cfg _ hc hf) rfl
  have hall : (Index.map 4 (loadedEntries cfg [([97], v1), ([97, 0], v2)])).all = (_, .done) :=
    (IdxRefines.map (loadedEntries_strictAsc cfg _ hs) 4).all
  -- both probes are padded to the key of the second entry, whose value the reader then serves
  have hv := getValue_table cfg _ hc.dataLawful hf o.skipHashOnRead
    ([97, 0], v2, ⟨offsetOf cfg.dc [v1, v2] 1, valueSum v2⟩) (List.mem_mapIdx.2 ⟨1, Nat.lt_succ_self 1, rfl⟩)
  have hget : ∀ k : Bytes, k = [97] ∨ k = [97, 0, 0] →
      ((readerOf cfg [([97], v1), ([97, 0], v2)] o bloom).get
        (Index.map 4 (loadedEntries cfg [([97], v1), ([97, 0], v2)])) k).2 = some (.ok v2) := by
    rintro k (rfl | rfl) <;> exact congrArg some hv
  refine ⟨_, _, ?_, hget _ (.inl rfl), rfl, hget _ (.inr rfl), rfl⟩
  rw [writeTable_eq cfg _ (by rw [hcmp]; exact hs)]
  exact openTable_ok comps cfg _ hc hf (.map 4) o bloom _ hload hall

end SST.Proofs.Sst
