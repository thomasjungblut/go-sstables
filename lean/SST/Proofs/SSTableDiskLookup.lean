/-
The disk index loader, part 2, after the repairs 37d0b89 (failed reads are not cached), 93d8a40 (end-of-file inside
the binary search means "look below") and 90fd3ef (upper bound below every key = empty range): on an index
file without phantom records its point lookups and iterators answer like the sorted map of the entries,
IN EVERY STATE OF THE OFFSET CACHE that holds only fresh reads — and every call keeps the cache like that.

`findAt_ok` makes the cache transparent; `bsLoop_cut` is the invariant of the binary search over byte offsets:
`st t`, the smallest offset from which a seek finds the first entry not below the target, stays between `i` and `j`;
`diskIter_range` (part 1) runs the iterator to the end offset `IteratorBetween` computes.
-/
import SST.Proofs.SSTableDisk
import SST.Proofs.SSTableReader
namespace SST.Proofs.Sst
open SST Generated SST.Proofs

/-- the error part of a `SeekNext` answer as `findAt` reports it -/
def seekErr : Except Err Nat → Option Err
  | .ok _ => none
  | .error e => some e

/-- the index is (still) the one of file `F`: same file, same compressor, a cache of fresh reads -/
structure DiskOk (c : Compression) (F : Bytes) (d : DiskIdx) : Prop where
  file : d.file = F
  comp : d.c = c
  fresh : DiskCacheFresh d

/-- with a cache of fresh reads `findAt` answers what a fresh `SeekNext` answers, and keeps the cache fresh
(full or not: `diskCacheMax` plays no role) -/
theorem findAt_ok {c : Compression} {F : Bytes} (d : DiskIdx) (hd : DiskOk c F d) (h : Nat) :
    ∃ d', d.findAt h = (d', (diskSeekEntry c F h).2, seekErr (diskSeekEntry c F h).1) ∧ DiskOk c F d' := by
  obtain ⟨rfl, rfl, hc⟩ := hd
  unfold DiskIdx.findAt
  cases hf : d.cache.find? (·.1 == h) with
  | some p =>
    obtain ⟨o, en⟩ := p
    obtain rfl : o = h := by have := List.find?_some hf; simpa using this
    obtain ⟨q, hq⟩ := hc (o, en) (List.mem_of_find?_eq_some hf)
    simp only [] at hq
    refine ⟨d, ?_, rfl, rfl, hc⟩
    simp only [hq, seekErr]
  | none =>
    simp only []
    generalize hr : diskSeekEntry d.c d.file h = x
    obtain ⟨res, en⟩ := x
    cases res with
    | error e => exact ⟨d, rfl, rfl, rfl, hc⟩
    | ok p =>
      simp only [seekErr]
      by_cases hlen : d.cache.length < diskCacheMax
      · refine ⟨{ d with cache := d.cache ++ [(h, en)] }, by rw [if_pos hlen], rfl, rfl, ?_⟩
        intro pr hpr
        rcases List.mem_append.1 hpr with hpr | hpr
        · exact hc pr hpr
        · rw [List.mem_singleton.1 hpr]; exact ⟨p, hr⟩
      · exact ⟨d, by rw [if_neg hlen], rfl, rfl, hc⟩

section Search
variable {c : Compression} {F : Bytes} {st : Nat → Nat} {ents : List IndexEntry}

theorem cut_key_lt {target : Bytes} {t : Nat}
    (hc : CutAt keyCmp Prod.fst (ents.map IndexEntry.toI) (some target) t)
    (k : Nat) (hk : k < ents.length) : bytesCmp (ents[k].key.getD []) target = .lt ↔ k < t := by
  rw [hc.lt_iff k (by simpa using hk), ← bytesCmp_gt_iff]
  simp only [List.getElem_map, IndexEntry.toI, keyCmp_some]

/-- the loop of `binarySearch`, whatever the cache holds: `st t`, the smallest offset from which a seek finds the
first entry not below the target, stays in `[i, j]`, so the loop ends on it; it never fails on this file and keeps the
cache fresh.  A probe falls into the interval of one entry or behind all of them (`locate`). -/
theorem bsLoop_cut (M : SeekIv c F st ents) {target : Bytes} {t : Nat} (ht : t ≤ ents.length)
    (hc : CutAt keyCmp Prod.fst (ents.map IndexEntry.toI) (some target) t) :
    ∀ fuel d i j, DiskOk c F d → i ≤ st t → st t ≤ j → j ≤ F.length → j < i + fuel →
      ∃ d', DiskIdx.bsLoop target fuel d i j = (d', .ok (st t)) ∧ DiskOk c F d' := by
  intro fuel
  induction fuel with
  | zero => intro d i j _ hi hj _ h; exact absurd (Nat.le_trans hi hj) (Nat.not_le.2 h)
  | succ f ih =>
    intro d i j hd hi hj hjn hf
    unfold DiskIdx.bsLoop
    by_cases hij : i < j
    · rw [if_pos hij]
      obtain ⟨hm1, hm2, hf1, hf2⟩ := halve hij hf
      generalize (i + j) / 2 = h at hm1 hm2 hf1 hf2 ⊢
      obtain ⟨d', hfa, hd'⟩ := findAt_ok d hd h
      have hhn : h ≤ F.length := Nat.le_trans (Nat.le_of_lt hm2) hjn
      rcases Nat.lt_or_ge h (st ents.length) with hin | hout
      · obtain ⟨k, hk, h1, h2⟩ := M.locate h _ hin
        simp only [hfa, M.entry hk h1 h2, seekErr]
        by_cases hlt : bytesCmp (ents[k].key.getD []) target = .lt
        · -- an entry below the target: its whole interval lies before `st t`
          simp only [hlt, beq_self_eq_true, if_true]
          exact ih d' _ _ hd' (Nat.succ_le_of_lt (Nat.lt_of_lt_of_le h2 (M.mono ((cut_key_lt hc k hk).1 hlt) ht)))
            hj hjn hf1
        · simp only [beq_iff_eq, hlt, if_false]
          exact ih d' _ _ hd' hi
            (Nat.le_trans (M.mono (Nat.le_of_not_lt (mt (cut_key_lt hc k hk).2 hlt)) (Nat.le_of_lt hk)) h1) hhn hf2
      · -- end of file (the repair 93d8a40): every interval lies before the probe
        simp only [hfa, M.entry_eof hout hhn, seekErr]
        exact ih d' _ _ hd' hi (Nat.le_trans (M.mono ht (Nat.le_refl _)) hout) hhn hf2
    · rw [if_neg hij, show i = st t from Nat.le_antisymm hi (Nat.le_trans hj (Nat.le_of_not_lt hij))]
      exact ⟨d, rfl, hd⟩

/-- what `binarySearch` returns when the cut index of the target is `t` -/
def bsOut (F : Bytes) (st : Nat → Nat) (ents : List IndexEntry) (target : Bytes) (t : Nat) : BsRes :=
  match ents[t]? with
  | some en => ⟨st t, some en, bytesCmp (en.key.getD []) target == .eq⟩
  | none => ⟨F.length, none, false⟩

theorem bsOut_lt {target : Bytes} {t : Nat} (ht : t < ents.length) :
    bsOut F st ents target t = ⟨st t, some ents[t], bytesCmp (ents[t].key.getD []) target == .eq⟩ := by
  unfold bsOut; rw [List.getElem?_eq_getElem ht]

theorem bsOut_ge {target : Bytes} {t : Nat} (ht : ents.length ≤ t) :
    bsOut F st ents target t = ⟨F.length, none, false⟩ := by
  unfold bsOut; rw [List.getElem?_eq_none ht]

/-- `binarySearch` in any fresh cache state: it succeeds, finds the cut index of the target, keeps the
cache fresh -/
theorem bs_spec (M : SeekIv c F st ents) (hs : StrictAsc keyCmp (ents.map IndexEntry.toI))
    (d : DiskIdx) (hd : DiskOk c F d) (target : Bytes) :
    ∃ d' t, d.binarySearch target = (d', .ok (bsOut F st ents target t)) ∧ DiskOk c F d' ∧
      t ≤ ents.length ∧ CutAt keyCmp Prod.fst (ents.map IndexEntry.toI) (some target) t := by
  obtain ⟨t, htl, hcut⟩ := exists_cutAt keyCmp_lawful Prod.fst (some target) _ hs
  rw [List.length_map] at htl
  obtain ⟨d1, hloop, hd1⟩ := bsLoop_cut M htl hcut (F.length + 1) d 0 F.length hd (Nat.zero_le _)
    (M.le_len htl) (Nat.le_refl _) (Nat.lt_of_lt_of_eq (Nat.lt_succ_self _) (Nat.zero_add _).symm)
  obtain ⟨d2, hfa, hd2⟩ := findAt_ok d1 hd1 (st t)
  refine ⟨d2, t, ?_, hd2, htl, hcut⟩
  unfold DiskIdx.binarySearch
  simp only [hd.file, hloop, hfa]
  rcases Nat.lt_or_ge t ents.length with ht | ht
  · have hlt : st t < F.length := M.lt_len ht
    rw [M.entry ht (Nat.le_refl _) (M.step t ht), bsOut_lt ht]
    simp only [seekErr, hlt, decide_true, Bool.true_and]
  · obtain rfl : t = ents.length := Nat.le_antisymm htl ht
    rw [M.entry_eof (Nat.le_refl _) M.inFile, bsOut_ge (Nat.le_refl _)]
    rfl

end Search

section Calls
variable {c : Compression} {F : Bytes} {st : Nat → Nat} {ents : List IndexEntry}

/-- the iterator started at the offset a binary search returned (cut index `t1`) -/
theorem iter_from_bs (M : SeekIv c F st ents) (target : Bytes) (t1 : Nat)
    (endOff m : Nat) (hstop1 : ∀ k, k < m → st k ≤ endOff)
    (hstop2 : m < ents.length → endOff < st m) :
    diskIter c F (F.length + 2) (bsOut F st ents target t1).off endOff =
      (((ents.take m).drop t1).map IndexEntry.toI, .done) := by
  rcases Nat.lt_or_ge t1 ents.length with ht | ht
  · rw [bsOut_lt ht]
    exact diskIter_range M endOff m hstop1 hstop2 (Nat.le_of_lt ht) (Nat.lt_succ_of_lt (Nat.lt_succ_self _))
  · rw [bsOut_ge ht, diskIter_eof M endOff _ (Nat.le_refl _) M.inFile,
      List.drop_eq_nil_of_le (Nat.le_trans (List.length_take_le' _ _) ht)]
    rfl

theorem iter_eq (d : DiskIdx) (hd : DiskOk c F d) (a b : Nat) :
    d.iter a b = diskIter c F (F.length + 2) a b := by
  unfold DiskIdx.iter; rw [hd.file, hd.comp]

/-- the point lookups: one search, one look at the entry it ended on -/
theorem disk_lookup (M : SeekIv c F st ents) (hs : StrictAsc keyCmp (ents.map IndexEntry.toI))
    (d : DiskIdx) (hd : DiskOk c F d) (k : Bytes) :
    ∃ d', d.get k = (d', getRes (specGet keyCmp (ents.map IndexEntry.toI) (some k))) ∧
      d.contains k = (d', .ok (specGet keyCmp (ents.map IndexEntry.toI) (some k)).isSome) ∧ DiskOk c F d' := by
  obtain ⟨d', t, hbs, hd', _, hcut⟩ := bs_spec M hs d hd k
  refine ⟨d', ?_⟩
  unfold DiskIdx.get DiskIdx.contains
  rw [hbs, hcut.specGet keyCmp_lawful hs, List.getElem?_map]
  rcases Nat.lt_or_ge t ents.length with ht | ht
  · rw [bsOut_lt ht, List.getElem?_eq_getElem ht]
    simp only [Option.map_some, Option.filter_some, IndexEntry.toI, keyCmp_some, bytesCmp_beq_eq_comm k]
    cases bytesCmp (ents[t].key.getD []) k == .eq <;> exact ⟨rfl, rfl, hd'⟩
  · rw [bsOut_ge ht, List.getElem?_eq_none ht]
    exact ⟨rfl, rfl, hd'⟩

theorem map_take_drop (m t : Nat) :
    ((ents.take m).drop t).map IndexEntry.toI = ((ents.map IndexEntry.toI).take m).drop t := by
  rw [List.map_drop, List.map_take]

theorem disk_from (M : SeekIv c F st ents) (hs : StrictAsc keyCmp (ents.map IndexEntry.toI))
    (d : DiskIdx) (hd : DiskOk c F d) (k : Bytes) :
    ∃ d', d.from k = (d', .ok (specFrom keyCmp (ents.map IndexEntry.toI) (some k), .done)) ∧
      DiskOk c F d' := by
  obtain ⟨d', t, hbs, hd', htl, hcut⟩ := bs_spec M hs d hd k
  refine ⟨d', ?_, hd'⟩
  unfold DiskIdx.from
  rw [hbs]
  simp only [iter_eq d' hd', hd'.file]
  rw [iter_from_bs M k t F.length ents.length
    (fun j hj => M.le_len (Nat.le_of_lt hj)) (fun h => absurd h (Nat.lt_irrefl _))]
  rw [hcut.specFrom, List.take_length, List.map_drop]

theorem disk_between (M : SeekIv c F st ents) (hs : StrictAsc keyCmp (ents.map IndexEntry.toI))
    (d : DiskIdx) (hd : DiskOk c F d) (lo hi : Bytes) :
    ∃ d', d.between lo hi =
        (d', betweenRes (specBetween keyCmp (ents.map IndexEntry.toI) (some lo) (some hi))) ∧
      DiskOk c F d' := by
  unfold DiskIdx.between
  by_cases hgt : (bytesCmp lo hi == .gt) = true
  · refine ⟨d, ?_, hd⟩
    have hgt' : (keyCmp (some lo) (some hi) == .gt) = true := hgt
    rw [if_pos hgt]
    unfold SST.specBetween
    rw [if_pos hgt']; rfl
  · rw [if_neg hgt]
    obtain ⟨d1, t1, hbs1, hd1, ht1, hc1⟩ := bs_spec M hs d hd lo
    obtain ⟨d2, t2, hbs2, hd2, ht2, hc2⟩ := bs_spec M hs d1 hd1 hi
    refine ⟨d2, ?_, hd2⟩
    have hgt' : ¬ (keyCmp (some lo) (some hi) == .gt) = true := hgt
    rw [hbs1]; simp only [hbs2]
    rw [CutAt.specBetween keyCmp_lawful hs hc1 hc2, if_neg hgt', List.getElem?_map]
    simp only [betweenRes, iter_eq d2 hd2]
    rcases Nat.lt_or_ge t2 ents.length with hl | hl
    · have hhead : (bytesCmp (ents[t2].key.getD []) hi != .gt) = (bytesCmp (ents[t2].key.getD []) hi == .eq) := by
        have := hc2.head_le_iff_eq keyCmp_lawful (by simpa using hl)
        simpa only [List.getElem_map, IndexEntry.toI, keyCmp_some'] using this
      rw [bsOut_lt hl, List.getElem?_eq_getElem hl]
      simp only [Option.map_some, IndexEntry.toI, keyCmp_some', hhead]
      by_cases hf : (bytesCmp (ents[t2].key.getD []) hi == .eq) = true
      · -- the upper bound is a key: the iterator may still START a seek at its record
        simp only [hf, if_true]
        rw [iter_from_bs M lo t1 (st t2) (t2 + 1)
          (fun j hj => M.mono (Nat.le_of_lt_succ hj) ht2)
          (fun _ => M.step t2 hl), map_take_drop]
      · -- not a key: the entry at the cut is above the bound, the iterator must stop before it
        simp only [hf, Bool.false_eq_true, if_false]
        cases t2 with
        | zero =>
          -- below every key: the empty iterator `newIterator(1, 0)`
          rw [if_pos M.zero, diskIter_past _ Nat.zero_lt_one]
          simp
        | succ t =>
          have hpos : st t < st (t + 1) := M.step t (Nat.lt_of_succ_lt hl)
          rw [if_neg (Nat.ne_of_gt (Nat.lt_of_le_of_lt (Nat.zero_le _) hpos)),
            iter_from_bs M lo t1 (st (t + 1) - 1) (t + 1)
              (fun j hj => Nat.le_sub_one_of_lt (Nat.lt_of_le_of_lt
                (M.mono (Nat.le_of_lt_succ hj) (Nat.le_of_lt (Nat.lt_of_succ_lt hl))) hpos))
              (fun _ => Nat.sub_lt (Nat.lt_of_le_of_lt (Nat.zero_le _) hpos) Nat.one_pos),
            map_take_drop]
    · -- the upper bound is above every key: the search answered "offset n, not found"
      obtain rfl : t2 = ents.length := Nat.le_antisymm ht2 hl
      have hpos := M.pos
      rw [bsOut_ge hl, List.getElem?_eq_none hl]
      simp only [Option.map_none, Bool.false_eq_true, if_false]
      rw [if_neg (Nat.ne_of_gt hpos), iter_from_bs M lo t1 (F.length - 1) ents.length
        (fun j hj => Nat.le_sub_one_of_lt (M.lt_len hj))
        (fun h => absurd h (Nat.lt_irrefl _)), map_take_drop]

/-- seek intervals are all it takes: over such a file the disk index, started with an empty cache, answers like the
sorted map of the entries in every state it can reach (`hF`, `h0`: `DiskIdx.all` starts behind the file header, which
must lie before the first record) -/
theorem disk_refines (M : SeekIv c F st ents) (hs : StrictAsc keyCmp (ents.map IndexEntry.toI))
    (hF : fileHeaderSize ≤ F.length) (h0 : 0 < ents.length → fileHeaderSize < st 1) :
    IdxRefinesFrom (.disk ⟨F, c, []⟩) (ents.map IndexEntry.toI) := by
  -- reachable states = `DiskOk` indexes of this file
  have hst : ∀ {i}, IndexState (.disk ⟨F, c, []⟩) i → ∃ d, i = .disk d ∧ DiskOk c F d :=
    fun ⟨d, e0, e1, e2, e3⟩ => ⟨d, e0, e1, e2, e3⟩
  have hts : ∀ {d}, DiskOk c F d → IndexState (.disk ⟨F, c, []⟩) (.disk d) :=
    fun hd => ⟨_, rfl, hd.file, hd.comp, hd.fresh⟩
  refine ⟨hts ⟨rfl, rfl, fun p hp => by cases hp⟩, ?_, ?_, ?_, ?_, ?_⟩
  · intro i hi k
    obtain ⟨d, rfl, hd⟩ := hst hi
    obtain ⟨d', e, _, hd'⟩ := disk_lookup M hs d hd k
    exact ⟨.disk d', by simp only [Index.get, e], hts hd'⟩
  · intro i hi k
    obtain ⟨d, rfl, hd⟩ := hst hi
    obtain ⟨d', _, e, hd'⟩ := disk_lookup M hs d hd k
    exact ⟨.disk d', by simp only [Index.contains, e], hts hd'⟩
  · intro i hi
    obtain ⟨d, rfl, hd⟩ := hst hi
    rw [Index.all, DiskIdx.all, iter_eq d hd, hd.file]
    exact diskIter_all M hF h0
  · intro i hi k
    obtain ⟨d, rfl, hd⟩ := hst hi
    obtain ⟨d', e, hd'⟩ := disk_from M hs d hd k
    exact ⟨.disk d', by simp only [Index.from, e], hts hd'⟩
  · intro i hi lo hi2
    obtain ⟨d, rfl, hd⟩ := hst hi
    obtain ⟨d', e, hd'⟩ := disk_between M hs d hd lo hi2
    exact ⟨.disk d', by simp only [Index.between, e], hts hd'⟩

end Calls

theorem loadIndex_disk_of (comps : Nat → Compression) (f : Bytes) (c : Compression)
    (h : openMmap comps f = .ok c) :
    loadIndex comps .disk f = .ok (.disk { file := f, c := c, cache := [] }) := by
  unfold loadIndex; rw [h]

/-- the disk index of a freshly written table (no phantoms in its index file) answers like the sorted map
of the loaded entries in every fresh state of its offset cache -/
theorem disk_table (comps : Nat → Compression) (cfg : SstCfg) (kvs : List KV)
    (hc : CompsOk comps cfg) (hf : FitsKV cfg kvs) (hs : StrictAsc bytesCmp kvs)
    (hnp : NoPhantom cfg.ic cfg.ict ((entriesOf cfg.dc kvs).map indexRecOf)) :
    ∃ idx, loadIndex comps .disk (indexFileOf cfg kvs) = .ok idx ∧
      IdxRefinesFrom idx (loadedEntries cfg kvs) := by
  have M := seekIv_of cfg.ic cfg.ict (entriesOf cfg.dc kvs) hc.indexLawful (entries_fit cfg kvs hf) hnp
  have hEq : ((entriesOf cfg.dc kvs).map entryOf).map IndexEntry.toI = loadedEntries cfg kvs := by
    rw [entryOf_toI, loadedEntries_eq]
  refine ⟨_, loadIndex_disk_of comps _ _ (hc.openMmap_index _), ?_⟩
  rw [← hEq]
  exact disk_refines M (hEq ▸ loadedEntries_strictAsc cfg kvs hs) (offsetOf_le_file cfg.ic cfg.ict _ 0)
    (fun _ => Nat.lt_succ_of_le (by simp [offsetOf]))

/-- the table written from an ascending list opens with the disk loader, to such an index -/
theorem disk_table_opens (comps : Nat → Compression) (cfg : SstCfg) (kvs : List KV)
    (hcmp : cfg.cmp = bytesCmp) (hc : CompsOk comps cfg) (hf : FitsKV cfg kvs) (hs : StrictAsc bytesCmp kvs)
    (hnp : NoPhantom cfg.ic cfg.ict ((entriesOf cfg.dc kvs).map indexRecOf))
    (o : ReadOpts) (bloom : Option (Bytes → Bool)) :
    ∃ idx, openTable comps .disk o (writeTable cfg kvs) bloom = .ok (readerOf cfg kvs o bloom, idx) ∧
      IdxRefinesFrom idx (loadedEntries cfg kvs) := by
  obtain ⟨idx, hload, href⟩ := disk_table comps cfg kvs hc hf hs hnp
  refine ⟨idx, ?_, href⟩
  rw [writeTable_eq cfg kvs (by rw [hcmp]; exact hs)]
  exact openTable_ok comps cfg kvs hc hf .disk o bloom idx hload (href.all idx href.init)

/-- `Scan` through the disk loader on a table without phantoms in its index file (no bloom filter law needed) -/
theorem disk_scan (comps : Nat → Compression) (cfg : SstCfg) (kvs : List KV)
    (hcmp : cfg.cmp = bytesCmp) (hc : CompsOk comps cfg) (hf : FitsKV cfg kvs) (hs : StrictAsc bytesCmp kvs)
    (hnp : NoPhantom cfg.ic cfg.ict ((entriesOf cfg.dc kvs).map indexRecOf))
    (o : ReadOpts) (bloom : Option (Bytes → Bool)) :
    ∃ r idx, openTable comps .disk o (writeTable cfg kvs) bloom = .ok (r, idx) ∧
      r.scan comps idx = .ok (kvs.map normKV, .done) := by
  obtain ⟨idx, hopen, href⟩ := disk_table_opens comps cfg kvs hcmp hc hf hs hnp o bloom
  refine ⟨_, idx, hopen, ?_⟩
  rw [Reader.scan, href.all idx href.init]
  exact fullScan_table comps cfg kvs hc hf o bloom

/-- `ValidAt` as a check -/
def validAtB (c : Compression) (file : Bytes) (p : Nat) : Bool :=
  ((file.drop p).take magicBytes.length == magicBytes) &&
    (match readAt c file p with | .ok _ => true | .error _ => false)

/-- `NoPhantom` follows from a check over the positions of the file (used for the non-vacuity example of
the hypothesis in SST/Props/C03.lean) -/
theorem noPhantom_of_check (c : Compression) (ct : Nat) (rs : List GoBytes)
    (h : ∀ p, p < (fileHeader currentVersion ct ++ encAll c rs).length →
      validAtB c (fileHeader currentVersion ct ++ encAll c rs) p = true →
      ∃ k, k < rs.length ∧ p = offsetOf c rs k) : NoPhantom c ct rs := by
  intro p hv
  obtain ⟨hm, r, hr⟩ := hv
  have hlen := Legacy.markerAtL_len _ p hm
  apply h p (by omega)
  unfold validAtB
  rw [hr]
  unfold MarkerAt at hm
  simp [hm]

end SST.Proofs.Sst
