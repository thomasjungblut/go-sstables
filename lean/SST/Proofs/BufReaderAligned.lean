/-
The point of `NewAlignedReaderBuf` (/repo commit 9c40b59): an aligned reader hands only (a suffix of) its own
buffer to the underlying reader.  In the model the underlying reader keeps a ghost log of the request lengths.
Capacity and flag never change, so they stand inside the invariant (`Own`).
-/
import SST.Proofs.BufReader
namespace SST.Buf
open SST Generated

theorem readCore_reqs (u : Under) (w : Nat) : (u.readCore w).st.reqs = u.reqs := by
  unfold Under.readCore
  cases hs : u.sched with
  | nil =>
    simp only [Under.deliver]
    cases u.rem <;> rfl
  | cons l t =>
    simp only []
    split
    · rfl
    · simp only [Under.deliver]
      cases hr : u.rem <;> simp

theorem read_reqs (u : Under) (w : Nat) : (u.read w).st.reqs = w :: u.reqs := by
  simp [Under.read, readCore_reqs]

/-- a reader of capacity `cap` and flag `al` whose underlying reader has only been asked for at most `cap` bytes -/
def Own (cap : Nat) (al : Bool) (b : Rd) : Prop := b.cap = cap ∧ b.aligned = al ∧ b.OwnBuf

/-- the invariant does not look at the buffer and the sticky error -/
theorem Own.same {cap : Nat} {al : Bool} {b b' : Rd} (h : Own cap al b) (hc : b'.cap = b.cap)
    (ha : b'.aligned = b.aligned) (hu : b'.under = b.under) : Own cap al b' :=
  ⟨hc.trans h.1, ha.trans h.2.1, fun r hr => by rw [hc]; exact h.2.2 r (hu ▸ hr)⟩

theorem Own.read {cap : Nat} {al : Bool} {b b' : Rd} {w : Nat} (h : Own cap al b) (hw : w ≤ b.cap)
    (hc : b'.cap = b.cap) (ha : b'.aligned = b.aligned) (hu : b'.under = (b.under.read w).st) : Own cap al b' :=
  ⟨hc.trans h.1, ha.trans h.2.1, fun r hr => by
    rw [hu, read_reqs, List.mem_cons] at hr
    rw [hc]
    exact hr.elim (fun e => e ▸ hw) (h.2.2 r)⟩

theorem fillLoop_own {cap : Nat} {al : Bool} (i : Nat) : ∀ (b : Rd), Own cap al b → Own cap al (b.fillLoop i) := by
  induction i with
  | zero => exact fun _ h => h
  | succ i ih =>
    intro b h
    have h1 : Own cap al { b with pend := b.pend ++ (b.under.read (b.cap - b.pend.length)).data,
                                  under := (b.under.read (b.cap - b.pend.length)).st } :=
      h.read (Nat.sub_le _ _) rfl rfl rfl
    simp only [Rd.fillLoop]
    split
    · exact h1.same rfl rfl rfl
    · split
      · exact h1
      · exact ih _ h1

theorem readByteLoop_own {cap : Nat} {al : Bool} (k : Nat) : ∀ (b : Rd), Own cap al b →
    Own cap al (b.readByteLoop k).2 := by
  induction k with
  | zero => exact fun _ h => h
  | succ k ih =>
    intro b h
    simp only [Rd.readByteLoop]
    split
    · exact h.same rfl rfl rfl
    · split
      · exact h.same rfl rfl rfl
      · split
        · exact h
        · rename_i b' hf
          simp only [Rd.fill] at hf
          split at hf
          · cases hf
          · cases hf
            exact ih _ (fillLoop_own _ b h)

/-- `Read(p)` of an ALIGNED reader asks for its own buffer, whatever `len p` is -/
theorem read_own {cap : Nat} {b : Rd} (n : Nat) (h : Own cap true b) : Own cap true (b.read n).st := by
  have h1 : Own cap true { b with under := (b.under.read b.cap).st } := h.read (Nat.le_refl _) rfl rfl rfl
  have hno : ¬ (n ≥ b.cap ∧ b.aligned = false) := by rw [h.2.1]; simp
  unfold Rd.read
  by_cases hn : n = 0
  · rw [if_pos hn]
    split <;> exact h.same rfl rfl rfl
  · rw [if_neg hn]
    cases b.pend with
    | cons c rest => exact h.same rfl rfl rfl
    | nil =>
      cases b.err with
      | some e => exact h.same rfl rfl rfl
      | none =>
        simp only []
        rw [if_neg hno]
        split <;> exact h1.same rfl rfl rfl

theorem run_own {cap : Nat} : ∀ (ops : List RdOp) (b : Rd), Own cap true b → Own cap true (b.run ops)
  | [], _, h => h
  | .readByte :: ops, b, h => run_own ops _ (readByteLoop_own 3 b h)
  | .read n :: ops, _, h => run_own ops _ (read_own n h)

end SST.Buf
