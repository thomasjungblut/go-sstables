/-
Zero-padded cuts of the flag file, payload level: a cut marshalled `CompactionMetadata`, padded with zeros to its
length, does not unmarshal, or unmarshals to the message with the tail of its last written string zeroed
(`decCompMeta_padCut`).
(`zeros`, `padCut`: SST/Proofs/CompDirBytesDefs.lean; cut varints, `IsVar`, `vval`: SST/Proofs/Varint.lean; the decoder
relation `Dec`: SST/Proofs/Proto.lean.)
(Helper file of SST/Proofs/CompDirBytesPad.lean.)
-/
import SST.Proofs.CompDirBytesFlag
namespace SST.Proofs.CompDir.Pad
open SST SST.CompDir Generated SST.Proofs SST.Proofs.Pb

def IsErr (r : PbFields × Option Err) : Prop := ∃ e, r.2 = some e

/-- with enough fuel, decoding `b` on top of `acc` fails -/
def Fails (sch : Nat → Option PbKind) (b : Bytes) (acc : PbFields) : Prop := ∃ r, IsErr r ∧ Dec sch b acc r

theorem fails_zero (sch : Nat → Option PbKind) (l : Bytes) (acc : PbFields) : Fails sch (0 :: l) acc :=
  ⟨(acc, some .other), ⟨_, rfl⟩, Dec.now fun fuel => by rw [pbDecodeAux]; simp [pbVarint_zero]⟩

theorem fails_zeros (sch : Nat → Option PbKind) (n : Nat) (acc : PbFields) (h : 0 < n) : Fails sch (zeros n) acc := by
  rw [zeros_pos n h]; exact fails_zero _ _ _

/-- a `string` field whose length prefix — any varint `V` — is followed by zeros only: an error, unless the zeros are
exactly the content announced -/
theorem string_zeros (sch : Nat → Option PbKind) (num : Nat) (hs : sch num = some .bytes) (h1 : 1 ≤ num)
    (h2 : num ≤ 536870911) (V : Bytes) (hV : IsVar V) (N : Nat) (acc : PbFields) :
    Fails sch (pbTag num 2 ++ (V ++ zeros N)) acc ∨
    (N = vval V ∧ Dec sch (pbTag num 2 ++ (V ++ zeros N)) acc (acc ++ [(num, .bytes (zeros N))], none)) := by
  have hst := fun fuel => aux_string sch num (V ++ zeros N) acc fuel hs h1 h2
  rcases pbVarint_isVar V hV (zeros N) with h | h
  · exact .inl ⟨_, ⟨_, rfl⟩, Dec.now fun fuel => by rw [hst, h]⟩
  · simp only [h, List.length_append, zeros_length, Nat.add_sub_cancel_left] at hst
    by_cases hgt : vval V > N
    · exact .inl ⟨_, ⟨_, rfl⟩, Dec.now fun fuel => by rw [hst, if_pos hgt]⟩
    · simp only [if_neg hgt, ← List.drop_drop, List.drop_left, zeros_drop, zeros_take,
        Nat.min_eq_left (Nat.le_of_not_lt hgt)] at hst
      have hl : (zeros (N - vval V)).length < (pbTag num 2 ++ (V ++ zeros N)).length := by
        rw [zeros_length, List.length_append, List.length_append, zeros_length]
        exact Nat.lt_of_le_of_lt (Nat.sub_le _ _) (Nat.lt_of_lt_of_le
          (Nat.lt_add_of_pos_left (List.length_pos_iff.mpr (uvarintEnc_ne_nil (num * 8 + 2))))
          (Nat.add_le_add_left (Nat.le_add_left _ _) _))
      by_cases hrem : 0 < N - vval V
      · obtain ⟨r, he, hd⟩ := fails_zeros sch _ (acc ++ [(num, .bytes (zeros (vval V)))]) hrem
        exact .inl ⟨r, he, Dec.next hl hst hd⟩
      · have hN : N = vval V := Nat.le_antisymm (Nat.le_of_sub_eq_zero (Nat.eq_zero_of_not_pos hrem)) (Nat.le_of_not_lt hgt)
        refine .inr ⟨hN, Dec.next hl hst ?_⟩
        rw [← hN, Nat.sub_self]
        exact dec_nil _ _

theorem zeroTailStr_length (s : Bytes) (i : Nat) : (zeroTailStr s i).length = s.length := by
  simp only [zeroTailStr, List.length_append, List.length_take, zeros_length]; omega

theorem pbRepField_length (num : Nat) (ht : num * 8 + 2 < 128) (c : Bytes) :
    (pbRepField num c).length = 1 + (uvarintEnc c.length).length + c.length := by
  simp [pbRepField, tag_len num 2 ht]; omega

theorem padCut_zeroTailStr (c : Bytes) (i r : Nat) : padCut c i r = zeroTailStr c i ++ zeros r := by
  unfold padCut zeroTailStr
  rw [List.append_assoc, zeros_add]

/-- a cut field padded with `r` more zeros than it was long: the decoder fails on it, or the cut was inside the content
of the string and nothing follows -/
theorem field_pad (sch : Nat → Option PbKind) (num : Nat) (hs : sch num = some .bytes) (h1 : 1 ≤ num)
    (ht : num * 8 + 2 < 128) (c : Bytes) (hc : c.length < 2 ^ 64)
    (j : Nat) (hj : j < (pbRepField num c).length) (r : Nat) (acc : PbFields) :
    Fails sch (padCut (pbRepField num c) j r) acc ∨
    (r = 0 ∧ ∃ i, Dec sch (padCut (pbRepField num c) j r) acc (acc ++ [(num, .bytes (zeroTailStr c i))], none)) := by
  have hlpos := uvarintEnc_len_pos c.length
  have htl := tag_len num 2 ht
  have hfl := pbRepField_length num ht c
  have h2 : num ≤ 536870911 := by omega
  rw [hfl] at hj
  cases j with
  | zero =>
    rw [padCut_zero]
    exact .inl (fails_zeros _ _ _ (by rw [hfl]; omega))
  | succ t =>
    rw [pbRepField, List.append_assoc, padCut_append_ge _ _ _ _ (by omega), htl, Nat.add_sub_cancel]
    by_cases hcut : (uvarintEnc c.length).length ≤ t
    · -- the length prefix is intact: the field with its content zeroed from `i` on, then `r` zeros
      rw [padCut_append_ge _ _ _ _ hcut, padCut_zeroTailStr]
      generalize t - (uvarintEnc c.length).length = i
      rw [← zeroTailStr_length c i] at hc ⊢
      rw [← List.append_assoc, ← List.append_assoc]
      cases r with
      | succ r =>
        obtain ⟨x, he, hd⟩ := fails_zero sch (zeros r) (acc ++ [(num, .bytes (zeroTailStr c i))])
        exact .inl ⟨x, he, dec_lenField hs h1 h2 hc hd⟩
      | zero => exact .inr ⟨rfl, i, dec_lenField hs h1 h2 hc (dec_nil _ _)⟩
    · -- cut inside the length prefix: its first `t` bytes and a zero byte are a varint again
      obtain ⟨hV, hv⟩ := isVar_take_zero _ (isVar_enc c.length).1 t (by omega)
      rw [padCut_append_le _ _ _ _ (by omega), padCut_lt _ _ _ (by omega)]
      rcases string_zeros _ num hs h1 h2 _ hV ((uvarintEnc c.length).length - t - 1 + (c.length + r)) acc
        with h | ⟨hN, h⟩
      · exact .inl h
      · -- the zeros are the announced content: possible only for `tag 00` with nothing after it
        rw [hv] at hN
        have ht0 : t = 0 := Nat.eq_zero_of_not_pos fun h0 => by
          have hle : c.length ≤ vval ((uvarintEnc c.length).take t) := by
            rw [← hN]; exact Nat.le_trans (Nat.le_add_right _ r) (Nat.le_add_left _ _)
          exact Nat.lt_irrefl _ (Nat.lt_of_le_of_lt hle (vval_take_enc_lt c.length t h0 (Nat.lt_of_not_le hcut)))
        subst ht0
        have hN0 : (uvarintEnc c.length).length - 0 - 1 + (c.length + r) = 0 := hN
        obtain ⟨hc0, hr0⟩ := Nat.add_eq_zero_iff.mp (Nat.add_eq_zero_iff.mp hN0).2
        refine .inr ⟨hr0, 0, ?_⟩
        rw [hN0] at h
        rw [hN0, zeroTailStr, List.take_zero, List.nil_append, Nat.sub_zero, hc0]
        exact h

/-- a cut list of `string` fields with one-byte tags, padded with zeros to its length: the decoder fails on it, or the
cut was inside the content of the last string -/
theorem encF_pad (sch : Nat → Option PbKind) : ∀ (L : List (Nat × Bytes)),
    (∀ p ∈ L, sch p.1 = some .bytes ∧ 1 ≤ p.1 ∧ p.1 * 8 + 2 < 128) →
    (encF L).length < 2 ^ 64 → ∀ (j : Nat), j < (encF L).length → ∀ (acc : PbFields),
    Fails sch (padCut (encF L) j 0) acc ∨
    ∃ L' p i, L = L' ++ [p] ∧ Dec sch (padCut (encF L) j 0) acc
      (acc ++ fieldsOf (L' ++ [(p.1, zeroTailStr p.2 i)]), none) := by
  intro L
  induction L with
  | nil => intro _ _ j hj; simp [encF] at hj
  | cons p L ih =>
    intro hn hlen j hj acc
    obtain ⟨hs, h1, ht⟩ := hn p List.mem_cons_self
    have hfl := pbRepField_length p.1 ht p.2
    have h2 : p.1 ≤ 536870911 := by omega
    have hnp := field_pad sch p.1 hs h1 ht p.2
    rw [encF_cons] at hlen hj ⊢
    rw [List.length_append] at hlen hj
    by_cases hcut : j < (pbRepField p.1 p.2).length
    · rw [padCut_append_le _ _ _ _ (by omega)]
      rcases hnp (by omega) j hcut ((encF L).length + 0) acc with h | ⟨h0, i, h⟩
      · exact Or.inl h
      · right
        have hL : L = [] := by
          cases L with
          | nil => rfl
          | cons q L =>
            have := pbRepField_length q.1 (hn q (by simp)).2.2 q.2
            rw [encF_cons, List.length_append] at h0; omega
        subst hL
        exact ⟨[], p, i, rfl, h⟩
    · rw [padCut_append_ge _ _ _ _ (by omega)]
      rcases ih (fun q hq => hn q (by simp [hq])) (by omega) (j - (pbRepField p.1 p.2).length) (by omega)
        (acc ++ [(p.1, .bytes p.2)]) with ⟨x, he, hd⟩ | ⟨L', q, i, hL, h⟩
      · exact Or.inl ⟨x, he, dec_lenField hs h1 h2 (by omega) hd⟩
      · refine Or.inr ⟨p :: L', q, i, by rw [hL]; rfl, dec_lenField hs h1 h2 (by omega) ?_⟩
        simpa [fieldsOf] using h

theorem decCompMeta_err (b : Bytes) (h : IsErr (pbDecode compMetaSchema b)) : decCompMeta b = none := by
  obtain ⟨e, he⟩ := h
  unfold decCompMeta
  split
  · rename_i fs heq; rw [heq] at he; cases he
  · rfl

/-- the last field `proto.Marshal` writes holds the string that `zeroTail` changes -/
theorem metaFields_zeroTail (m : RawMeta) (L' : List (Nat × Bytes)) (p : Nat × Bytes) (i : Nat)
    (h : metaFields m = L' ++ [p]) : L' ++ [(p.1, zeroTailStr p.2 i)] = metaFields (zeroTail m i) := by
  have key : ∃ X k s, metaFields m = X ++ [(k, s)] ∧ metaFields (zeroTail m i) = X ++ [(k, zeroTailStr s i)] := by
    obtain ⟨wp, rp, ps⟩ := m
    rcases List.eq_nil_or_concat ps with rfl | ⟨qs, l, rfl⟩
    · by_cases h2 : rp.length = 0
      · by_cases h1 : wp.length = 0
        · simp [metaFields, h1, h2] at h
        · exact ⟨[], 1, wp, by simp [metaFields, h1, h2], by simp [zeroTail, metaFields, h1, h2, zeroTailStr_length]⟩
      · exact ⟨if wp.length = 0 then [] else [(1, wp)], 2, rp, by simp [metaFields, h2],
          by simp [zeroTail, metaFields, h2, zeroTailStr_length]⟩
    · exact ⟨(if wp.length = 0 then [] else [(1, wp)]) ++
          ((if rp.length = 0 then [] else [(2, rp)]) ++ qs.map (fun b => (3, b))), 3, l,
        by simp [metaFields], by simp [zeroTail, metaFields]⟩
  obtain ⟨X, k, s, h1, h2⟩ := key
  obtain ⟨rfl, e2⟩ := List.append_inj' (h.symm.trans h1) rfl
  obtain rfl : p = (k, s) := by simpa using e2
  exact h2.symm

/-- the payload level, for any message whose encoding fits -/
theorem decCompMeta_padCut (m : RawMeta) (hfits : (encCompMeta m).length < 2 ^ 64) (j : Nat)
    (hj : j < (encCompMeta m).length) :
    decCompMeta (padCut (encCompMeta m) j 0) = none ∨
    ∃ i, decCompMeta (padCut (encCompMeta m) j 0) = some (zeroTail m i) := by
  rw [encCompMeta_eq] at hfits hj ⊢
  rcases encF_pad compMetaSchema (metaFields m) (metaFields_sch m) hfits j hj [] with ⟨x, he, hd⟩ | ⟨L', p, i, hL, h⟩
  · exact Or.inl (decCompMeta_err _ (dec_pbDecode hd ▸ he))
  · have hd : pbDecode compMetaSchema (padCut (encF (metaFields m)) j 0) =
        (fieldsOf (L' ++ [(p.1, zeroTailStr p.2 i)]), none) := dec_pbDecode h
    rw [decCompMeta_ok _ _ hd, metaFields_zeroTail m L' p i hL, fieldsOf_metaFields, rawOfFields_compFields]
    split
    · exact Or.inr ⟨i, rfl⟩
    · exact Or.inl rfl

end SST.Proofs.CompDir.Pad
