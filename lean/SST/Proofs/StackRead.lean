/-
L7, the read path: `GetBytes` of the byte-level stack equals `DBM.get` of the related layer state.
Uses C03 (`ReadsAsMap`, through the relation), the lemmas behind C08 (`Proofs.Merge.super_get`,
`Proofs.MergeSpec.tget_overlay`) and the memstore simulation of C14 (`Proofs.MemP.step_sim`) as black boxes.
-/
import SST.Proofs.StackBasic
import SST.Proofs.Merge
namespace SST.Proofs.Stack
open SST SST.Stack SST.DBM

/-- bridging C03 → C08: the byte-level reader's `Get` is the abstract reader's `Get` of the Merge model -/
theorem readerGet_eq {P : Params} {t : LiveTbl} {kvs : List KV} (h : TblDec P t kvs) (k : Bytes) :
    (t.rd.get t.idx k).2 = some (Merge.tableGet kvs k) := by
  rw [h.reads.get k trivial]
  unfold specGetRes Merge.tableGet
  rw [Proofs.MergeSpec.specGet_eq_tget]
  cases Merge.tget kvs k <;> rfl

theorem superGetAux_eq {P : Params} {ts : List LiveTbl} {kvss : List (List KV)}
    (h : Rel2 (TblDec P) ts kvss) (k : Bytes) :
    superGetAux ts k = some (Merge.superGetAux kvss k) := by
  induction h with
  | nil => rfl
  | cons hab _ ih =>
    simp only [superGetAux, Merge.superGetAux, readerGet_eq hab]
    cases hg : Merge.tableGet _ k with
    | ok v => rfl
    | error e =>
      simp only
      by_cases he : e = .notFound
      · simp [he, ih]
      · simp [he]

/-- the newest-first loop over the byte-level readers = `SuperSSTableReader.Get` of the Merge model -/
theorem superGet_eq {P : Params} {ts : List LiveTbl} {kvss : List (List KV)}
    (h : Rel2 (TblDec P) ts kvss) (k : Bytes) :
    superGet ts k = some (Merge.superGet kvss k) :=
  superGetAux_eq h.reverse k

theorem tablesGet_eq {kvss : List (List KV)} {tbls : List Tbl}
    (h : Rel2 (fun kvs (a : Tbl) => CellsRel a.cells kvs) kvss tbls) (k : Bytes) :
    tablesGet tbls k = Merge.newestValue kvss k := by
  induction h with
  | nil => rfl
  | cons hab _ ih =>
    simp only [tablesGet, Merge.newestValue, ih, hab.get]
    cases Merge.newestValue _ k <;> rfl

/-- split the table relation at the decoded contents -/
theorem tables_mid {P : Params} {ts : List LiveTbl} {tbls : List Tbl} (h : Rel2 (TblRel P) ts tbls) :
    ∃ kvss, Rel2 (TblDec P) ts kvss ∧ Rel2 (fun kvs (a : Tbl) => CellsRel a.cells kvs) kvss tbls ∧
      ∀ kvs ∈ kvss, Merge.Asc kvs := by
  induction h with
  | nil => exact ⟨[], Rel2.nil, Rel2.nil, fun _ hm => nomatch hm⟩
  | cons hab _ ih =>
    obtain ⟨kvs, hd, hc⟩ := hab.dec
    obtain ⟨kvss, h1, h2, hasc⟩ := ih
    exact ⟨kvs :: kvss, Rel2.cons hd h1, Rel2.cons hc h2, List.forall_mem_cons.mpr ⟨hd.asc, hasc⟩⟩

/-- the byte-level reader stack answers as the layer stack does (C03 ∘ C08) -/
theorem superGet_tables {P : Params} {ts : List LiveTbl} {tbls : List Tbl} (h : Rel2 (TblRel P) ts tbls)
    (k : Bytes) :
    superGet ts k = some (match tablesGet tbls k with | some v => .ok v | none => .error .notFound) := by
  obtain ⟨kvss, h1, h2, hasc⟩ := tables_mid h
  rw [superGet_eq h1, Proofs.Merge.super_get kvss hasc, Proofs.MergeSpec.tget_overlay hasc, tablesGet_eq h2]
  cases Merge.newestValue kvss k <;> rfl

theorem mem_get_eq {m : Mem.MemStore} {l : Layer} (h : MemRel m l) (k : Bytes) :
    Mem.get m (some k) =
      match Layer.get l k with
      | none => .got none (some .keyNotFound)
      | some none => .got none (some .keyTombstoned)
      | some (some v) => .got (some v) none := by
  have hs := (Proofs.MemP.step_sim h.wf (.get (some k)) 1 (Nat.le_refl 1)).1
  simp only [Mem.step, Mem.refStep, Option.getD_some] at hs
  rw [hs, h.get k]
  cases Mem.RefMap.get k (Proofs.MemP.view m) with
  | none => rfl
  | some c => cases c <;> rfl

theorem rwGet_eq {P : Params} {c : Stack.State} {s : DBM.State} (h : Rel P c s) (k : Bytes) :
    rwGet c (some k) =
      match memGet s k with
      | none => .got none (some .keyNotFound)
      | some none => .got none (some .keyTombstoned)
      | some (some v) => .got (some v) none := by
  unfold rwGet memGet
  rw [mem_get_eq h.w k]
  cases hw : Layer.get s.w k with
  | some x => cases x <;> rfl
  | none =>
    simp only
    unfold State.readStore
    by_cases ha : c.rAliasesW = true
    · rw [if_pos ha, mem_get_eq h.w k, hw, h.r.get k, h.alias ha]
      rfl
    · rw [if_neg ha, mem_get_eq h.r k]

theorem getMem_eq {P : Params} {c : Stack.State} {s : DBM.State} (h : Rel P c s) (k : Bytes) (ssVal : GoBytes)
    (notFound : Bool) :
    getMem c k ssVal notFound = .db
      (match memGet s k with
       | none => if notFound then .notFound else .value (ssVal.getD [])
       | some none => .notFound
       | some (some v) => .value v) := by
  unfold getMem
  rw [rwGet_eq h k]
  cases memGet s k with
  | none => cases notFound <;> rfl
  | some x => cases x <;> rfl

theorem get_sim {P : Params} {c : Stack.State} {s : DBM.State} (h : Rel P c s) (k : Bytes) :
    Stack.get c k = .db (DBM.get s k) := by
  unfold Stack.get DBM.get
  rw [h.isOpen, h.closed, superGet_tables h.tables k]
  cases (!s.isOpen || s.closed) with
  | true => rfl
  | false =>
    rw [if_neg Bool.false_ne_true, if_neg Bool.false_ne_true]
    cases tablesGet s.tables k with
    | none =>
      show getMem c k none true = _
      rw [getMem_eq h]
      cases memGet s k with
      | none => rfl
      | some x => cases x <;> rfl
    | some tv =>
      show getMem c k tv (tv.getD []).isEmpty = _
      rw [getMem_eq h]
      cases memGet s k with
      | none => cases tv <;> rfl
      | some x => cases x <;> rfl

end SST.Proofs.Stack
