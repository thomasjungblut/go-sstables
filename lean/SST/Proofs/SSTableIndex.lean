/-
The in-memory indexes of the table reader answer like the sorted map of their entries (`specGet`, `specFrom`,
`specBetween`).  For the slice index the idea is `CutAt` (SST/Proofs/SortedCut.lean).  The specification of
`slices.BinarySearchFunc` is `binSearchAux_cut`: on probes that split at a position the search returns that position.
The probes of a strictly ascending list split at the position that cuts the list at the key, and the three
specifications are told in terms of such a position once, for any search that finds it (the disk index of
SST/Proofs/SSTableDiskLookup.lean is another).  The skip-list index rests on SST/Proofs/SkipList.lean; the point
lookups of the map index are right for the probes that zero padding keeps apart from the keys (`PadInjective`).
-/
import SST.Model.SSTable
import SST.Spec.SSTable
import SST.Proofs.SkipList
import SST.Proofs.BytesOrd
import SST.Proofs.ListFacts
namespace SST.Proofs.Sst
open SST SkipList

theorem keyCmp_lawful : LawfulCmp keyCmp := lawful_bytesCmp_on _

/-- the midpoint of `[i, j)` lies inside, and leaves a shorter range on either side -/
theorem halve {i j f : Nat} (hij : i < j) (hf : j < i + (f + 1)) :
    i ≤ (i + j) / 2 ∧ (i + j) / 2 < j ∧ j < (i + j) / 2 + 1 + f ∧ (i + j) / 2 < i + f := by
  omega

/-- `slices.BinarySearchFunc` (external code, written out as coded): when the probes split at `p` ("lt" before it,
not "lt" from it on) the search returns `p` -/
theorem binSearchAux_cut (lt : Nat → Bool) {n p : Nat}
    (hlo : ∀ x, x < p → lt x = true) (hhi : ∀ x, p ≤ x → x < n → lt x = false) :
    ∀ fuel i j, i ≤ p → p ≤ j → j ≤ n → j < i + (fuel + 1) → binSearchAux lt fuel i j = p := by
  intro fuel
  induction fuel with
  | zero => intro i j hi hj _ hf; exact Nat.le_antisymm hi (Nat.le_trans hj (Nat.le_of_lt_succ hf))
  | succ f ih =>
    intro i j hi hj hjn hf
    unfold binSearchAux
    by_cases hij : i < j
    · obtain ⟨_, h2, hf1, hf2⟩ := halve hij hf
      rw [if_pos hij]
      generalize (i + j) / 2 = h at h2 hf1 hf2 ⊢
      cases hc : lt h with
      | true =>
        have hp : h < p := Nat.lt_of_not_le fun hph => by
          rw [hhi h hph (Nat.lt_of_lt_of_le h2 hjn)] at hc; cases hc
        simp only [hc, if_true]
        exact ih (h + 1) j hp hj hjn hf1
      | false =>
        have hp : p ≤ h := Nat.le_of_not_lt fun hhp => by rw [hlo h hhp] at hc; cases hc
        simp only [hc, Bool.false_eq_true, if_false]
        exact ih i h hi hp (Nat.le_trans (Nat.le_of_lt h2) hjn) hf2
    · rw [if_neg hij]
      exact Nat.le_antisymm hi (Nat.le_trans hj (Nat.le_of_not_lt hij))

theorem keyCmp_some (k : Bytes) (g : GoBytes) : keyCmp (some k) g = bytesCmp k (g.getD []) := rfl

theorem keyCmp_some' (g : GoBytes) (k : Bytes) : keyCmp g (some k) = bytesCmp (g.getD []) k := rfl

theorem entryLt_eq {es : List IEntry} {i : Nat} (k : Bytes) (hi : i < es.length) :
    entryLt es k i = (bytesCmp (es[i].1.getD []) k == .lt) := by
  unfold entryLt; rw [List.getElem?_eq_getElem hi]

theorem slice_cut (es : List IEntry) (hs : StrictAsc keyCmp es) (k : Bytes) :
    CutAt keyCmp Prod.fst es (some k) (sliceSearch es k).1 := by
  obtain ⟨t, htl, hcut⟩ := exists_cutAt keyCmp_lawful Prod.fst (some k) es hs
  have hlt : ∀ x, x < es.length → (entryLt es k x = true ↔ x < t) := fun x hx => by
    rw [entryLt_eq k hx, beq_iff_eq, ← bytesCmp_gt_iff, ← keyCmp_some, hcut.lt_iff x hx]
  rw [show (sliceSearch es k).1 = t from binSearchAux_cut (entryLt es k)
    (fun x hx => (hlt x (Nat.lt_of_lt_of_le hx htl)).2 hx)
    (fun x hpx hx => Bool.eq_false_iff.2 fun h => absurd ((hlt x hx).1 h) (Nat.not_lt.2 hpx))
    es.length 0 es.length (Nat.zero_le _) htl (Nat.le_refl _) (Nat.lt_succ_of_le (Nat.le_add_left _ _))]
  exact hcut

/-- the shape in which the reader API reports index answers -/
def getRes (o : Option IndexVal) : Except Err IndexVal :=
  match o with | some iv => .ok iv | none => .error .notFound
def betweenRes (o : Option (List IEntry)) : Except Err Iter :=
  match o with | some l => .ok (l, .done) | none => .error .rejected

/-- the point lookups: one search, one look at the entry it ended on -/
theorem slice_lookup (es : List IEntry) (hs : StrictAsc keyCmp es) (k : Bytes) :
    sliceGet es k = getRes (specGet keyCmp es (some k)) ∧
    sliceContains es k = (specGet keyCmp es (some k)).isSome := by
  rw [(slice_cut es hs k).specGet keyCmp_lawful hs]
  unfold sliceGet sliceContains
  simp only [sliceSearch]
  rcases Option.eq_none_or_eq_some es[binSearchAux (entryLt es k) es.length 0 es.length]? with h | ⟨e, h⟩
  · simp only [h]
    exact ⟨rfl, rfl⟩
  · simp only [h, Option.filter_some, keyCmp_some, bytesCmp_beq_eq_comm k]
    cases bytesCmp (e.1.getD []) k == .eq <;> exact ⟨rfl, rfl⟩

theorem slice_refines (es : List IEntry) (hs : StrictAsc keyCmp es) :
    (∀ k : Bytes, sliceGet es k = getRes (specGet keyCmp es (some k))) ∧
    (∀ k : Bytes, sliceContains es k = (specGet keyCmp es (some k)).isSome) ∧
    sliceAll es = (es, .done) ∧
    (∀ k : Bytes, sliceFrom es k = (specFrom keyCmp es (some k), .done)) ∧
    (∀ lo hi : Bytes, sliceBetween es lo hi = betweenRes (specBetween keyCmp es (some lo) (some hi))) := by
  refine ⟨fun k => (slice_lookup es hs k).1, fun k => (slice_lookup es hs k).2, ?_, ?_, ?_⟩
  · simp [sliceAll, sliceIter]
  · intro k
    rw [(slice_cut es hs k).specFrom]
    simp [sliceFrom, sliceIter]
  · intro lo hi
    rw [CutAt.specBetween keyCmp_lawful hs (slice_cut es hs lo) (slice_cut es hs hi)]
    unfold sliceBetween
    rw [show keyCmp (some lo) (some hi) = bytesCmp lo hi from rfl]
    split
    · rfl
    · simp only [sliceIter, betweenRes, keyCmp_some']
      cases es[(sliceSearch es hi).1]? <;> rfl

/-- the model's `fun (e, i) => …` written with projections, the form `List.map_map` and `zipIdx_map_fst` meet -/
theorem skipLoad_eq (es : List IEntry) (heights : List Nat) :
    skipLoad es heights =
      match SkipList.insertAll keyCmp SkipList.empty
          (es.zipIdx.map fun p => (p.1.1, p.1.2, heights.getD p.2 1)) with
      | some s => .ok s
      | none => .error .other := rfl

theorem skip_refines (es : List IEntry) (hs : StrictAsc keyCmp es) (heights : List Nat)
    (hh : ∀ h ∈ heights, 1 ≤ h) :
    ∃ s, skipLoad es heights = .ok s ∧
    (∀ k : Bytes, skipGet s k = getRes (specGet keyCmp es (some k))) ∧
    (∀ k : Bytes, skipContains s k = (specGet keyCmp es (some k)).isSome) ∧
    skipAll s = (es, .done) ∧
    (∀ k : Bytes, skipFrom s k = (specFrom keyCmp es (some k), .done)) ∧
    (∀ lo hi : Bytes, skipBetween s lo hi = betweenRes (specBetween keyCmp es (some lo) (some hi))) := by
  -- the loader inserts the entries numbered and paired with their heights; `hmap` … `hhs` bring that list into the
  -- form `skiplist_refines` is stated for
  have hmap : ((es.zipIdx.map fun p => (p.1.1, p.1.2, heights.getD p.2 1)).map
      fun x : GoBytes × IndexVal × Nat => (x.1, x.2.1)) = es := by
    rw [List.map_map]
    exact List.zipIdx_map_fst 0 es
  have hkeys : ((es.zipIdx.map fun p => (p.1.1, p.1.2, heights.getD p.2 1)).map
      fun x : GoBytes × IndexVal × Nat => x.1) = es.map (·.1) := by
    conv => rhs; rw [← hmap]
    rw [List.map_map, List.map_map, List.map_map]
    rfl
  have hd : DistinctKeys keyCmp ((es.zipIdx.map fun p => (p.1.1, p.1.2, heights.getD p.2 1)).map (·.1)) := by
    rw [hkeys]
    unfold DistinctKeys
    apply List.Pairwise.map _ _ hs
    intro a b hab; rw [hab]; decide
  have hhs : ∀ x ∈ es.zipIdx.map (fun p => (p.1.1, p.1.2, heights.getD p.2 1)), 1 ≤ x.2.2 := by
    intro x hx
    obtain ⟨p, _, rfl⟩ := List.mem_map.1 hx
    show 1 ≤ heights.getD p.2 1
    rw [List.getD_eq_getElem?_getD]
    cases hg : heights[p.2]? with
    | none => exact Nat.le_refl 1
    | some h => exact hh h (List.mem_of_getElem? hg)
  obtain ⟨s, hall, hspec⟩ := skiplist_refines keyCmp keyCmp_lawful _ hd hhs
  rw [hmap, sortedOf_asc keyCmp_lawful es hs] at hspec
  obtain ⟨_, hiter, hget, hcont, hfrom, hbetw⟩ := hspec
  refine ⟨s, by rw [skipLoad_eq, hall], fun k => ?_, fun k => by rw [skipContains, hcont], by rw [skipAll, hiter],
    fun k => by rw [skipFrom, hfrom], fun lo hi => ?_⟩
  · rw [skipGet, hget]
    cases specGet keyCmp es (some k) <;> rfl
  · rw [skipBetween, hbetw]
    cases specBetween keyCmp es (some lo) (some hi) <;> rfl

theorem map_refines (n : Nat) (es : List IEntry) (hs : StrictAsc keyCmp es) (k : Bytes)
    (hp : PadInjective n (es.map fun e => e.1.getD []) k) :
    mapGet n es k = some (getRes (specGet keyCmp es (some k))) ∧
    mapContains n es k = some (specGet keyCmp es (some k)).isSome := by
  obtain ⟨hlen, hinj⟩ := hp
  have hmem : ∀ e ∈ es, e.1.getD [] ∈ k :: es.map (fun e => e.1.getD []) := by
    intro e he
    exact List.mem_cons_of_mem _ (List.mem_map_of_mem (f := fun e : IEntry => e.1.getD []) he)
  have hk : mapKey n k = some (k ++ List.replicate (n - k.length) 0) := by
    unfold mapKey
    rw [if_neg]
    have := hlen k List.mem_cons_self
    omega
  -- under `PadInjective` equal padded keys are equal keys (`hq`), and in a strictly ascending list the last entry
  -- with the key, which the map keeps, is the only one (`huniq`)
  have hq : ∀ e ∈ es, (mapKey n (e.1.getD []) == mapKey n k) = (keyCmp (some k) e.1 == .eq) := by
    intro e he
    rw [Bool.eq_iff_iff, beq_iff_eq, beq_iff_eq, keyCmp_some, bytesCmp_eq_iff]
    exact ⟨fun h => (hinj _ (hmem e he) _ List.mem_cons_self h).symm, fun h => by rw [h]⟩
  have huniq : es.Pairwise (fun a b => ¬ ((keyCmp (some k) a.1 == .eq) = true ∧
      (keyCmp (some k) b.1 == .eq) = true)) := by
    apply List.Pairwise.imp _ hs
    intro a b hab ⟨ha, hb⟩
    rw [beq_iff_eq, keyCmp_some, bytesCmp_eq_iff] at ha hb
    rw [keyCmp, ← ha, ← hb, bytesCmp_refl] at hab
    cases hab
  have hlook : mapLookup n es k = specGet keyCmp es (some k) := by
    unfold mapLookup specGet
    rw [find?_congr_mem es.reverse (q := fun e => keyCmp (some k) e.1 == .eq)
      (fun e he => hq e (List.mem_reverse.1 he)), find?_reverse_unique es huniq]
  constructor
  · unfold mapGet
    rw [hk, hlook]
    cases specGet keyCmp es (some k) <;> rfl
  · unfold mapContains
    rw [hk, hlook]

end SST.Proofs.Sst
