/-
recordio, current file version: the record header.  A written header reads back through any header window
(`readHeader_enc`); an accepted window starts with the canonical bytes of the header returned
(`readHeader_ok_wellFormed`, from the stages of a successful parse, `readHeader_ok_inv`); the parse through
the window of a reader that reports a short input as it is reads front to back (`readHeader_frontToBack`), so a cut
header makes it run out; what a magic-number mismatch of the file reader's window means (`readHeader_magic_inv`).
-/
import SST.Spec.RecordIO
import SST.Proofs.FrontToBack
import SST.Proofs.ListFacts
namespace SST.Proofs
open SST Generated

theorem uvarintEnc_magic : uvarintEnc magicNumber = magicBytes := by
  rw [magicNumber, uvarintEnc_ge 0x130691 (by decide), uvarintEnc_ge (0x130691 / 128) (by decide),
    uvarintEnc_lt (0x130691 / 128 / 128) (by decide)]
  decide

theorem magicEnc_length : (uvarintEnc magicNumber).length = 3 := by rw [uvarintEnc_magic]; rfl

/-- the checksummed part of a V4 record header with an arbitrary nil-flag byte -/
def rawBody (nb : UInt8) (u cl : Nat) : Bytes :=
  magicBytes ++ [nb] ++ uvarintEnc u ++ uvarintEnc cl

theorem headerBody_eq_rawBody (nf : Bool) (u cl : Nat) :
    headerBody nf u cl = rawBody (if nf then 1 else 0) u cl := rfl

theorem rawBody_eq (nb : UInt8) (u cl : Nat) :
    rawBody nb u cl = uvarintEnc magicNumber ++ ([nb] ++ (uvarintEnc u ++ uvarintEnc cl)) := by
  rw [rawBody, uvarintEnc_magic]; simp

theorem headerBody_eq (nf : Bool) (u cl : Nat) : headerBody nf u cl =
    uvarintEnc magicNumber ++ ([if nf then 1 else 0] ++ (uvarintEnc u ++ uvarintEnc cl)) :=
  rawBody_eq _ u cl

theorem headerBody_length (nf : Bool) (u c : Nat) :
    (headerBody nf u c).length = 4 + (uvarintEnc u).length + (uvarintEnc c).length := by
  simp [headerBody, magicBytes]; omega

theorem encHeader_length (nf : Bool) (u c : Nat) :
    (encHeader nf u c).length = 4 + (uvarintEnc u).length + (uvarintEnc c).length
      + (uvarintEnc (crc32c (headerBody nf u c)).toNat).length := by
  simp [encHeader, headerBody_length]

theorem encHeader_length_le (nf : Bool) (u c : Nat) (hu : u < 2 ^ 64) (hc : c < 2 ^ 64) :
    (encHeader nf u c).length ≤ recordHeaderMax := by
  have h1 := uvarintEnc_len64 u hu
  have h2 := uvarintEnc_len64 c hc
  have h3 := uvarintEnc_len32 (crc32c (headerBody nf u c)).toNat (UInt32.toNat_lt _)
  rw [encHeader_length, recordHeaderMax]; omega

theorem encHeader_pos (nf : Bool) (u c : Nat) : 0 < (encHeader nf u c).length := by
  rw [encHeader_length]; omega

/-- the `do` block written out as a `match` (likewise `readHeader_eq`): the form the proofs rewrite with and split -/
theorem canonDec_eq (w : Win) (bs : Bytes) :
    canonDec w bs = match w.map (uvarintDec bs) with
      | .error e => .error e
      | .ok (v, n) => if n > 1 ∧ bs.getD (n - 1) 0 = 0 then .error .nonCanonical else .ok (v, n) := by
  unfold canonDec
  cases h : w.map (uvarintDec bs) with
  | error e => rfl
  | ok p =>
    obtain ⟨v, n⟩ := p
    simp only [bind, Except.bind]
    split <;> rfl

theorem uvarintEnc_last_ne_zero (n : Nat) : 1 ≤ n →
    (uvarintEnc n).getD ((uvarintEnc n).length - 1) 0 ≠ 0 := by
  induction n using Nat.strongRecOn with
  | _ n ih =>
    intro h1
    by_cases h : n < 128
    · rw [uvarintEnc_lt n h]
      simp only [List.length_singleton, Nat.sub_self, List.getD_cons_zero]
      intro h0
      have := congrArg UInt8.toNat h0
      rw [toNat_ofNat_lt n (by omega)] at this
      simp at this; omega
    · rw [uvarintEnc_ge n h]
      have ih' := ih (n / 128) (Nat.div_lt_self (by omega) (by omega)) (by omega)
      have hp := List.length_pos_iff.mpr (uvarintEnc_ne_nil (n / 128))
      obtain ⟨k, hk⟩ : ∃ k, (uvarintEnc (n / 128)).length = k + 1 := ⟨_, (Nat.sub_add_cancel hp).symm⟩
      rw [hk] at ih'
      simp only [List.length_cons, hk, Nat.add_sub_cancel, List.getD_cons_succ] at ih' ⊢
      exact ih'

theorem canonDec_ok_of (w : Win) (bs : Bytes) (v n : Nat) (hd : uvarintDec bs = .ok (v, n))
    (hc : ¬ (n > 1 ∧ bs.getD (n - 1) 0 = 0)) : canonDec w bs = .ok (v, n) := by
  rw [canonDec_eq, hd]
  simp only [Win.map]
  rw [if_neg hc]

theorem canonDec_enc (w : Win) (n : Nat) (rest : Bytes) (hn : n < 2 ^ 64) :
    canonDec w (uvarintEnc n ++ rest) = .ok (n, (uvarintEnc n).length) := by
  apply canonDec_ok_of w _ _ _ (uvarintDec_enc n rest hn)
  rintro ⟨hlen, h0⟩
  have hn1 : 1 ≤ n := by
    rcases Nat.lt_or_ge n 1 with h | h
    · rw [uvarintEnc_lt n (by omega)] at hlen; simp at hlen
    · exact h
  rw [getD_append_left _ _ _ (by omega)] at h0
  exact uvarintEnc_last_ne_zero n hn1 h0

theorem readHeader_eq (w : Win) : readHeader w =
    match canonDec w w.bytes with
    | .error e => .error e
    | .ok (m, c1) =>
      if m ≠ magicNumber then .error .magic else
      match w.bytes.drop c1 with
      | [] => .error w.end0
      | nb :: rest =>
        match canonDec w rest with
        | .error e => .error e
        | .ok (u, c2) =>
          match canonDec w (rest.drop c2) with
          | .error e => .error e
          | .ok (cl, c3) =>
            match canonDec w ((rest.drop c2).drop c3) with
            | .error e => .error e
            | .ok (ex, c4) =>
              if (crc32c (w.bytes.take (c1 + 1 + c2 + c3))).toNat ≠ ex then .error .headerCrc
              else .ok { ulen := u, clen := cl, isNil := nb == 1, hlen := c1 + 1 + c2 + c3 + c4 } := by
  unfold readHeader
  cases canonDec w w.bytes with
  | error e => rfl
  | ok p1 =>
    obtain ⟨m, c1⟩ := p1
    simp only [bind, Except.bind]
    by_cases hm : m ≠ magicNumber
    · rw [if_pos hm, if_pos hm]; rfl
    · rw [if_neg hm, if_neg hm]
      cases w.bytes.drop c1 with
      | nil => rfl
      | cons nb rest =>
        simp only []
        cases canonDec w rest with
        | error e => rfl
        | ok p2 =>
          obtain ⟨u, c2⟩ := p2
          simp only []
          cases canonDec w (rest.drop c2) with
          | error e => rfl
          | ok p3 =>
            obtain ⟨cl, c3⟩ := p3
            simp only []
            cases canonDec w ((rest.drop c2).drop c3) with
            | error e => rfl
            | ok p4 =>
              obtain ⟨ex, c4⟩ := p4
              simp only []
              split <;> rfl

theorem readHeader_enc (w : Win) (nf : Bool) (u c : Nat) (t : Bytes) (hu : u < 2 ^ 64) (hc : c < 2 ^ 64)
    (hw : w.bytes = encHeader nf u c ++ t) :
    readHeader w = .ok { ulen := u, clen := c, isNil := nf, hlen := (encHeader nf u c).length } := by
  have hcrc : (crc32c (headerBody nf u c)).toNat < 2 ^ 64 := by
    have := UInt32.toNat_lt (crc32c (headerBody nf u c)); omega
  have hm : magicNumber < 2 ^ 64 := by decide
  have hw' : w.bytes = uvarintEnc magicNumber ++ ((if nf then 1 else 0) :: (uvarintEnc u ++ (uvarintEnc c ++
      (uvarintEnc (crc32c (headerBody nf u c)).toNat ++ t)))) := by
    rw [hw, encHeader, headerBody_eq]; simp
  have htake : w.bytes.take (3 + 1 + (uvarintEnc u).length + (uvarintEnc c).length) = headerBody nf u c := by
    rw [hw, encHeader, List.append_assoc, List.take_left']
    rw [headerBody_length]
  rw [readHeader_eq]
  rw [hw'] at htake ⊢
  have hd : ∀ (l : Bytes), (uvarintEnc magicNumber ++ l).drop 3 = l := by
    intro l; rw [← magicEnc_length, List.drop_left]
  simp only [canonDec_enc w _ _ hm, magicEnc_length, ne_eq, not_true_eq_false, if_false, hd]
  simp only [canonDec_enc w _ _ hu, List.drop_left, canonDec_enc w _ _ hc, canonDec_enc w _ _ hcrc, htake,
    not_true_eq_false, if_false]
  rw [encHeader_length]
  cases nf <;> simp <;> omega

theorem _root_.SST.Buf.fileWin_bytes_eq (s : Bytes) : (fileWin s).bytes = s.take recordHeaderMax := by
  unfold fileWin
  split
  · rfl
  · rename_i h; simp only; rw [List.take_of_length_le (by omega)]

/-- a header of at most 36 bytes lies inside the window of the random-access reader (`fileWin_bytes`: of the file
reader) -/
theorem mmapWin_bytes (h x : Bytes) (hh : h.length ≤ recordHeaderMax) :
    ∃ t, (mmapWin (h ++ x)).bytes = h ++ t :=
  ⟨x.take (recordHeaderMax - h.length), by rw [mmapWin, List.take_append, List.take_of_length_le hh]⟩

theorem fileWin_bytes (h x : Bytes) (hh : h.length ≤ recordHeaderMax) :
    ∃ t, (fileWin (h ++ x)).bytes = h ++ t := by
  rw [Buf.fileWin_bytes_eq]
  exact mmapWin_bytes h x hh

theorem readHeader_fileWin (nf : Bool) (u c : Nat) (x : Bytes) (hu : u < 2 ^ 64) (hc : c < 2 ^ 64) :
    readHeader (fileWin (encHeader nf u c ++ x)) =
      .ok { ulen := u, clen := c, isNil := nf, hlen := (encHeader nf u c).length } := by
  obtain ⟨t, ht⟩ := fileWin_bytes (encHeader nf u c) x (encHeader_length_le nf u c hu hc)
  exact readHeader_enc _ nf u c t hu hc ht

theorem readHeader_mmapWin (nf : Bool) (u c : Nat) (x : Bytes) (hu : u < 2 ^ 64) (hc : c < 2 ^ 64) :
    readHeader (mmapWin (encHeader nf u c ++ x)) =
      .ok { ulen := u, clen := c, isNil := nf, hlen := (encHeader nf u c).length } := by
  obtain ⟨t, ht⟩ := mmapWin_bytes (encHeader nf u c) x (encHeader_length_le nf u c hu hc)
  exact readHeader_enc _ nf u c t hu hc ht

theorem canonDec_nil (w : Win) : canonDec w [] = .error w.end0 := by
  rw [canonDec_eq]; simp [uvarintDec, uvarintDecAux, Win.map]

theorem canonDec_zero (w : Win) (l : Bytes) : canonDec w (0 :: l) = .ok (0, 1) := by
  rw [canonDec_eq, uvarintDec_zero]; simp [Win.map]

theorem magic_length : magicBytes.length = 3 := rfl

theorem canonDec_magic (w : Win) (rest : Bytes) : canonDec w (magicBytes ++ rest) = .ok (magicNumber, 3) := by
  have := canonDec_enc w magicNumber rest (by decide)
  rw [uvarintEnc_magic] at this
  exact this

theorem readHeader_zero (w : Win) (l : Bytes) (hw : w.bytes = 0 :: l) : readHeader w = .error .magic := by
  rw [readHeader_eq, hw, canonDec_eq, uvarintDec_zero]
  simp [Win.map, magicNumber]

theorem fileWin_zero (n : Nat) : ∃ l, (fileWin (List.replicate (n + 1) 0)).bytes = 0 :: l := by
  unfold fileWin
  split
  · exact ⟨List.replicate (min 35 n) 0, by simp [recordHeaderMax, List.replicate_succ, List.take_replicate]⟩
  · exact ⟨_, rfl⟩

theorem Win.map_ok_inv {α : Type} (w : Win) (r : Except Err α) (p : α) (h : w.map r = .ok p) : r = .ok p := by
  unfold Win.map at h
  split at h <;> first | exact h | cases h

theorem Win.map_ok {α : Type} (w : Win) (p : α) : w.map (.ok p : Except Err α) = .ok p := rfl

theorem Win.map_of_not_ranOut {α : Type} (w : Win) (r : Except Err α) (h : ¬ RanOut r) : w.map r = r := by
  unfold Win.map
  split
  · exact absurd (Or.inl rfl) h
  · exact absurd (Or.inr rfl) h
  · rfl

theorem Win.map_error {α : Type} (w : Win) (e : Err) : ∃ e', w.map (.error e : Except Err α) = .error e' := by
  by_cases h : RanOut (.error e : Except Err α)
  · rcases h with h | h <;> rw [h] <;> exact ⟨_, rfl⟩
  · exact ⟨e, Win.map_of_not_ranOut w _ h⟩

theorem canonDec_isVar (w : Win) (E rest : Bytes) (hE : IsVar E) :
    (∃ e, canonDec w (E ++ rest) = .error e) ∨ canonDec w (E ++ rest) = .ok (vval E, E.length) := by
  rw [canonDec_eq]
  rcases uvarintDecAux_isVar E hE rest 0 0 0 with ⟨e, h⟩ | h
  · left
    have h' : uvarintDec (E ++ rest) = .error e := h
    obtain ⟨e', he'⟩ := Win.map_error (α := Nat × Nat) w e
    rw [h', he']; exact ⟨_, rfl⟩
  · have h' : uvarintDec (E ++ rest) = .ok (vval E, E.length) := by simpa [uvarintDec] using h
    rw [h', Win.map_ok]
    simp only []
    split
    · exact Or.inl ⟨_, rfl⟩
    · exact Or.inr rfl

theorem canonDec_ok_inv (w : Win) (bs : Bytes) (v n : Nat) (h : canonDec w bs = .ok (v, n)) :
    uvarintDec bs = .ok (v, n) ∧ ¬ (n > 1 ∧ bs.getD (n - 1) 0 = 0) := by
  rw [canonDec_eq] at h
  cases hm : w.map (uvarintDec bs) with
  | error e => rw [hm] at h; cases h
  | ok p =>
    obtain ⟨v', n'⟩ := p
    rw [hm] at h
    simp only [] at h
    by_cases hc : n' > 1 ∧ bs.getD (n' - 1) 0 = 0
    · rw [if_pos hc] at h; cases h
    · rw [if_neg hc] at h
      cases h
      exact ⟨Win.map_ok_inv w _ _ hm, hc⟩

theorem readHeader_ok_inv (w : Win) (h : RecHeader) (hok : readHeader w = .ok h) :
    ∃ c1 nb rest u c2 cl c3 ex c4,
      canonDec w w.bytes = .ok (magicNumber, c1) ∧ w.bytes.drop c1 = nb :: rest ∧
      canonDec w rest = .ok (u, c2) ∧ canonDec w (rest.drop c2) = .ok (cl, c3) ∧
      canonDec w ((rest.drop c2).drop c3) = .ok (ex, c4) ∧
      (crc32c (w.bytes.take (c1 + 1 + c2 + c3))).toNat = ex ∧
      h = { ulen := u, clen := cl, isNil := nb == 1, hlen := c1 + 1 + c2 + c3 + c4 } := by
  rw [readHeader_eq] at hok
  split at hok
  · cases hok
  rename_i m c1 h1
  split at hok
  · cases hok
  rename_i hm
  split at hok
  · cases hok
  rename_i nb rest h2
  split at hok
  · cases hok
  rename_i u c2 h3
  split at hok
  · cases hok
  rename_i cl c3 h4
  split at hok
  · cases hok
  rename_i ex c4 h5
  split at hok
  · cases hok
  rename_i hcrc
  cases hok
  rw [Decidable.not_not.mp hm] at h1
  exact ⟨c1, nb, rest, u, c2, cl, c3, ex, c4, h1, h2, h3, h4, h5, Decidable.not_not.mp hcrc, rfl⟩

theorem readHeader_ok_of (w : Win) (c1 : Nat) (nb : UInt8) (rest : Bytes) (u c2 cl c3 ex c4 : Nat)
    (h1 : canonDec w w.bytes = .ok (magicNumber, c1)) (h2 : w.bytes.drop c1 = nb :: rest)
    (h3 : canonDec w rest = .ok (u, c2)) (h4 : canonDec w (rest.drop c2) = .ok (cl, c3))
    (h5 : canonDec w ((rest.drop c2).drop c3) = .ok (ex, c4))
    (h6 : (crc32c (w.bytes.take (c1 + 1 + c2 + c3))).toNat = ex) :
    readHeader w = .ok { ulen := u, clen := cl, isNil := nb == 1, hlen := c1 + 1 + c2 + c3 + c4 } := by
  simp only [readHeader_eq, h1, h2, h3, h4, h5, h6, ne_eq, not_true_eq_false, if_false]

/-- a successful canonical read consumed exactly the encoder's bytes for the value it returned -/
theorem canonDec_ok_enc (w : Win) (bs : Bytes) (v n : Nat) (h : canonDec w bs = .ok (v, n)) :
    ∃ rem, bs = uvarintEnc v ++ rem ∧ n = (uvarintEnc v).length := by
  obtain ⟨hd, hc⟩ := canonDec_ok_inv w bs v n h
  obtain ⟨X, rem, e1, e2, e3, e4, _⟩ := uvarintDecAux_ok_shape bs 0 0 0 v n hd
  have hpos := List.length_pos_iff.mpr (isVar_ne_nil X e2)
  have hn : n = X.length := by omega
  have hv : v = vval X := by simpa using e4
  have hcan : X.length > 1 → X.getD (X.length - 1) 0 ≠ 0 := by
    intro hgt h0
    apply hc
    refine ⟨by omega, ?_⟩
    rw [hn, e1, getD_append_left _ _ _ (by omega)]
    exact h0
  have := canon_unique X e2 hcan
  rw [← hv] at this
  exact ⟨rem, by rw [e1, ← this], by rw [hn, ← this]⟩

/-- `s` begins with a header exactly as the writer would lay it out for flag byte `nb` and lengths
`u`, `cl`: marker, flag, the two canonical length varints, and the canonical varint of the CRC-32C of
exactly those bytes. -/
def WellFormedHeader (s : Bytes) (nb : UInt8) (u cl : Nat) : Prop :=
  ∃ tail, s = rawBody nb u cl ++ uvarintEnc (crc32c (rawBody nb u cl)).toNat ++ tail

/-- whenever the header parser accepts, the window starts with a well-formed header for the values it
returns -/
theorem readHeader_ok_wellFormed (w : Win) (h : RecHeader) (hok : readHeader w = .ok h) :
    ∃ nb, WellFormedHeader w.bytes nb h.ulen h.clen ∧ h.isNil = (nb == 1) ∧
      h.hlen = (rawBody nb h.ulen h.clen).length +
        (uvarintEnc (crc32c (rawBody nb h.ulen h.clen)).toNat).length := by
  obtain ⟨c1, nb, rest, u, c2, cl, c3, ex, c4, g1, g2, g3, g4, g5, g6, rfl⟩ := readHeader_ok_inv w h hok
  obtain ⟨r1, a1, b1⟩ := canonDec_ok_enc _ _ _ _ g1
  obtain ⟨r2, a2, b2⟩ := canonDec_ok_enc _ _ _ _ g3
  rw [a1, b1, List.drop_left] at g2
  subst g2
  rw [a2, b2, List.drop_left] at g4
  obtain ⟨r3, a3, b3⟩ := canonDec_ok_enc _ _ _ _ g4
  rw [a2, b2, List.drop_left, a3, b3, List.drop_left] at g5
  obtain ⟨r4, a4, b4⟩ := canonDec_ok_enc _ _ _ _ g5
  have hbytes : w.bytes = rawBody nb u cl ++ (uvarintEnc ex ++ r4) := by
    rw [a1, a2, a3, a4, rawBody_eq]; simp
  have hlen : (rawBody nb u cl).length = c1 + 1 + c2 + c3 := by
    rw [b1, b2, b3, rawBody_eq]; simp only [List.length_append, List.length_singleton, Nat.add_assoc]
  rw [hbytes, List.take_left' hlen] at g6
  refine ⟨nb, ⟨r4, ?_⟩, rfl, ?_⟩
  · simp only []
    rw [g6, hbytes, List.append_assoc]
  · simp only []
    rw [g6, hlen, b4]

theorem readHeader_err1 (w : Win) (e : Err) (h1 : canonDec w w.bytes = .error e) :
    readHeader w = .error e := by
  rw [readHeader_eq, h1]

theorem readHeader_err2 (w : Win) (c1 : Nat) (h1 : canonDec w w.bytes = .ok (magicNumber, c1))
    (h2 : w.bytes.drop c1 = []) : readHeader w = .error w.end0 := by
  simp only [readHeader_eq, h1, h2, ne_eq, not_true_eq_false, if_false]

theorem readHeader_err3 (w : Win) (c1 : Nat) (nb : UInt8) (rest : Bytes) (e : Err)
    (h1 : canonDec w w.bytes = .ok (magicNumber, c1)) (h2 : w.bytes.drop c1 = nb :: rest)
    (h3 : canonDec w rest = .error e) : readHeader w = .error e := by
  simp only [readHeader_eq, h1, h2, h3, ne_eq, not_true_eq_false, if_false]

theorem readHeader_err4 (w : Win) (c1 : Nat) (nb : UInt8) (rest : Bytes) (u c2 : Nat) (e : Err)
    (h1 : canonDec w w.bytes = .ok (magicNumber, c1)) (h2 : w.bytes.drop c1 = nb :: rest)
    (h3 : canonDec w rest = .ok (u, c2)) (h4 : canonDec w (rest.drop c2) = .error e) :
    readHeader w = .error e := by
  simp only [readHeader_eq, h1, h2, h3, h4, ne_eq, not_true_eq_false, if_false]

theorem readHeader_err5 (w : Win) (c1 : Nat) (nb : UInt8) (rest : Bytes) (u c2 cl c3 : Nat) (e : Err)
    (h1 : canonDec w w.bytes = .ok (magicNumber, c1)) (h2 : w.bytes.drop c1 = nb :: rest)
    (h3 : canonDec w rest = .ok (u, c2)) (h4 : canonDec w (rest.drop c2) = .ok (cl, c3))
    (h5 : canonDec w ((rest.drop c2).drop c3) = .error e) :
    readHeader w = .error e := by
  simp only [readHeader_eq, h1, h2, h3, h4, h5, ne_eq, not_true_eq_false, if_false]

namespace CompDir.Pad

theorem readHeader_err6 (w : Win) (c1 : Nat) (nb : UInt8) (rest : Bytes) (u c2 cl c3 ex c4 : Nat)
    (h1 : canonDec w w.bytes = .ok (magicNumber, c1)) (h2 : w.bytes.drop c1 = nb :: rest)
    (h3 : canonDec w rest = .ok (u, c2)) (h4 : canonDec w (rest.drop c2) = .ok (cl, c3))
    (h5 : canonDec w ((rest.drop c2).drop c3) = .ok (ex, c4))
    (h6 : (crc32c (w.bytes.take (c1 + 1 + c2 + c3))).toNat ≠ ex) :
    readHeader w = .error .headerCrc := by
  rw [readHeader_eq, h1]; simp only []; rw [if_neg (by simp), h2]; simp only []; rw [h3]
  simp only []; rw [h4]; simp only []; rw [h5]; simp only []; rw [if_pos h6]

end CompDir.Pad

/-- the window of a reader that reports running off its end as what it is: EOF, or unexpected EOF inside a field -/
abbrev eofWin (s : Bytes) : Win := ⟨s, .eof, .unexpectedEof⟩

theorem mmapWin_eq (s : Bytes) : mmapWin s = eofWin (s.take recordHeaderMax) := rfl

theorem canonDec_plain (s bs : Bytes) : canonDec (eofWin s) bs = canonDec (eofWin []) bs := rfl

theorem canonDec_f2b : F2B (·.2) 0 (canonDec (eofWin [])) := by
  intro s t
  rw [canonDec_eq, canonDec_eq]
  have hmap : ∀ r : Except Err (Nat × Nat), (eofWin []).map r = r := fun r => by
    unfold Win.map; split <;> rfl
  rw [hmap, hmap]
  rcases uvarintDec_f2b s t with ⟨e, l⟩ | k
  case inr => exact Or.inr (k.imp (by intro k; rw [k]) (by intro k; rw [k]))
  rw [e]
  cases hd : uvarintDec s with
  | error e => exact Or.inl ⟨rfl, fun _ hh => nomatch hh⟩
  | ok p =>
    obtain ⟨v, n⟩ := p
    have hn : n ≤ s.length := l (v, n) hd
    have h1 := (uvarintDecAux_ok_ext s 0 0 0 v n hd).1
    simp only []
    rw [getD_append_left _ _ _ (Nat.lt_of_lt_of_le (Nat.sub_lt h1 Nat.one_pos) hn)]
    refine Or.inl ⟨rfl, fun h hh => ?_⟩
    split at hh
    · cases hh
    · cases hh; exact hn

/-- the header of the current format, one line per field -/
theorem readHeader_frontToBack : FrontToBack fun s => readHeader (eofWin s) := by
  simp only [readHeader_eq, canonDec_plain]
  refine F2B.bind canonDec_f2b fun m c1 p1 hp1 => ?_
  simp only [List.drop_left' hp1]
  by_cases hm : m ≠ magicNumber
  · simp only [if_pos hm]; exact F2B.error _ _ _
  simp only [if_neg hm]
  refine F2B.byte fun nb => F2B.bind canonDec_f2b fun u c2 p2 hp2 => ?_
  simp only [List.drop_left' hp2]
  refine F2B.bind canonDec_f2b fun cl c3 p3 hp3 => ?_
  simp only [List.drop_left' hp3]
  refine F2B.bind canonDec_f2b fun ex c4 p4 hp4 => ?_
  -- the checksummed bytes are the first three fields, whatever follows
  have hcons : ∀ r, (p1 ++ nb :: (p2 ++ (p3 ++ (p4 ++ r)))).take (c1 + 1 + c2 + c3) = p1 ++ nb :: (p2 ++ p3) :=
    fun r => by
      rw [show p1 ++ nb :: (p2 ++ (p3 ++ (p4 ++ r))) = (p1 ++ nb :: (p2 ++ p3)) ++ (p4 ++ r) by simp]
      exact List.take_left' (by simp [hp1, hp2, hp3]; omega)
  simp only [hcons]
  by_cases hc : (crc32c (p1 ++ nb :: (p2 ++ p3))).toNat ≠ ex
  · simp only [if_pos hc]; exact F2B.error _ _ _
  · simp only [if_neg hc]; exact F2B.ok _ (by simp only []; omega)

theorem readHeader_cut (nf : Bool) (u cl : Nat) (hu : u < 2 ^ 64) (hcl : cl < 2 ^ 64) (m : Nat)
    (hm : m < (encHeader nf u cl).length) : RanOut (readHeader (fileWin ((encHeader nf u cl).take m))) := by
  have hle := encHeader_length_le nf u cl hu hcl
  rw [fileWin, if_neg (by rw [List.length_take]; omega)]
  rcases readHeader_frontToBack.take
    (readHeader_enc ⟨_, _, _⟩ nf u cl [] hu hcl (List.append_nil _).symm) m with ⟨_, h⟩ | h
  · exact absurd h (Nat.not_le.mpr hm)
  · exact h

end SST.Proofs

namespace SST.Buf
open SST Generated

theorem fileWin_end0 (s : Bytes) :
    (fileWin s).end0 = if s.length > recordHeaderMax then .headerTooLong else .eof := by
  unfold fileWin; split <;> rfl

theorem fileWin_endN (s : Bytes) :
    (fileWin s).endN = if s.length > recordHeaderMax then .headerTooLong else .unexpectedEof := by
  unfold fileWin; split <;> rfl

/-- the window of the file reader never turns a varint error into a magic-number mismatch -/
theorem fileWin_map_ne_magic (s w : Bytes) : (fileWin s).map (uvarintDec w) ≠ .error .magic := by
  cases hd : uvarintDec w with
  | ok p => exact fun h => nomatch h
  | error e =>
    rcases uvarintDecAux_err w 0 0 0 e hd with rfl | rfl | rfl
    · simp only [Win.map, fileWin_end0]; split <;> exact fun h => nomatch h
    · simp only [Win.map, fileWin_endN]; split <;> exact fun h => nomatch h
    · exact fun h => nomatch h

theorem canonDec_ne_magic (s w : Bytes) : canonDec (fileWin s) w ≠ .error .magic := by
  rw [Proofs.canonDec_eq]
  have := fileWin_map_ne_magic s w
  cases hm : (fileWin s).map (uvarintDec w) with
  | error e => exact fun h => this (hm.trans h)
  | ok p => simp only []; split <;> exact fun h => nomatch h

/-- a magic-number mismatch means the magic varint itself was decoded, on the window and so on the stream -/
theorem readHeader_magic_inv {s : Bytes} (h : readHeader (fileWin s) = .error .magic) :
    ∃ v c1, uvarintDec (fileWin s).bytes = .ok (v, c1) ∧ uvarintDec s = .ok (v, c1) := by
  rw [Proofs.readHeader_eq] at h
  cases hc : canonDec (fileWin s) (fileWin s).bytes with
  | error e =>
    simp only [hc] at h
    exact absurd (Except.error.inj h ▸ hc) (canonDec_ne_magic s _)
  | ok p =>
    have hu := (Proofs.canonDec_ok_inv _ _ _ _ hc).1
    exact ⟨p.1, p.2, hu, Proofs.uvarintDec_take_ok (fileWin_bytes_eq s ▸ hu)⟩

end SST.Buf
