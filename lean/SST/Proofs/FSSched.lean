/-
L6-fs: the blocks of a step of the sequential model that the flusher, the compactor and the rotating client make (a
flush, the tail of a rotation, a compaction cycle) are runs of the interleaved machine, so their crash safety is not
proved call by call a second time.  An operation boundary `QW` of an open database is the invariant `S` at a
configuration (`cfgOf`, `S_of_QW`); a block is a run of moves from it (`Steps`) whose calls are the block's
(`flushCalls_eq`, `compactCalls_eq`, `kstart_run`); every crash image inside the block is then the disk of a
configuration satisfying `S` and `G`, hence good (`Steps.good3`, `Steps.seg`), and the boundary the block ends in is
`S` at the last configuration again (`QW.of_S`).  Last the one call with which `Close` ends (`closeTail_seg`).
-/
import SST.Proofs.FSInterleaveTies
namespace SST.Proofs.FSI
open SST SST.DBM SST.FS SST.FSI SST.FSS SST.Proofs.DB SST.Proofs.FS

/-- a run of moves that leave the appender and the history alone (the flusher's, the compactor's, the tail of a
rotation: `hq`, which holds by `rfl` for each of them), with the calls it makes -/
inductive Steps (async : Bool) : Cfg → List Ev → Cfg → Prop
  | nil (c : Cfg) : Steps async c [] c
  | call {c c' c'' : Cfg} {mv : Mv} {e : Ev} {es : List Ev} (hm : Move async c mv (some e) c')
      (t : Steps async c' es c'') (hq : c'.queue = c.queue ∧ c'.hist = c.hist := by exact ⟨rfl, rfl⟩) :
      Steps async c (e :: es) c''
  | tau {c c' c'' : Cfg} {mv : Mv} {es : List Ev} (hm : Move async c mv none c')
      (t : Steps async c' es c'') (hq : c'.queue = c.queue ∧ c'.hist = c.hist := by exact ⟨rfl, rfl⟩) :
      Steps async c es c''

/-- every crash image inside the run is good, and `S` holds where it ends.  `hq`: nothing of the history is durable
yet; as the run leaves the appender alone this stays so, and `G` then says that the disk serves what it served at the
start. -/
theorem Steps.good3 {async : Bool} {d0 : Disk} {c c' : Cfg} {es : List Ev} (hs : Steps async c es c') (hS : S c)
    (hG : G async (logical d0) c) (hq : c.hist = c.queue) :
    Seg (Good3 d0) (fun x => x = c.d) es (fun x => x = c'.d) ∧ S c' := by
  have good : ∀ {c : Cfg}, S c → G async (logical d0) c → c.hist = c.queue → Good3 d0 c.d := by
    intro c hS hG hq
    obtain ⟨Hd, e1, e2, _⟩ := hG.ex
    refine ⟨hS.diskOk, ?_⟩
    have hHd : Hd = [] := List.self_eq_append_left.1 (hq.symm.trans e1)
    rw [hS.serves, e2, hHd]
    rfl
  induction hs with
  | nil c => exact ⟨.done (good hS hG hq) rfl, hS⟩
  | call hm _ hk ih =>
    obtain ⟨i1, i2⟩ := ih (S_step hS hm) (G_step hS hG hm) (by rw [hk.1, hk.2]; exact hq)
    exact ⟨.step (good hS hG hq) hm.disk.symm i1, i2⟩
  | tau hm _ hk ih =>
    obtain ⟨i1, i2⟩ := ih (S_step hS hm) (G_step hS hG hm) (by rw [hk.1, hk.2]; exact hq)
    exact ⟨i1.weaken (fun _ hx => hx.trans hm.disk.symm) fun _ hx => hx, i2⟩

/-- a run from an operation boundary (there the reference is what the disk serves, and nothing of the history is
durable): a segment of good disks; what holds of the disk it ends on is read off `S` there -/
theorem Steps.seg {d : Disk} {v : Vol} {junk : List WalFile} {ro rc : List Mutation} {tn : Bool} {pc : Pc} {es : List Ev}
    {c' : Cfg} (hst : Steps true (cfgOf d v junk ro rc tn pc) es c') (h : QW d v junk ro rc tn) (hu : usable v.s = true)
    (hpc : pc = .idle ∨ pc = .rot0) {Post : Disk → Prop} (hpost : S c' → Post c'.d) :
    Seg (Good3 d) (fun x => x = d) es Post := by
  have hS := S_of_QW h hu hpc
  -- `G` at the boundary with nothing durable yet (`Hd = []`); at `async = true` its clause about `acked` is empty
  obtain ⟨hseg, hS'⟩ := hst.good3 hS
    ⟨⟨[], rfl, hS.serves.symm, Nat.zero_le _, nofun⟩, Nat.le_refl _, Nat.le_succ _, fun _ => rfl⟩ rfl
  exact hseg.weaken (fun _ hx => hx) fun _ hy => hy ▸ hpost hS'

/-- the flusher's job from its start: the calls `flushCalls`, then `addReader` -/
theorem flusher_steps (async : Bool) {c : Cfg} {j : FJob} (hfl : c.fl = some j) (h0 : j.stage = 0)
    (hnr : reflecting c = false) :
    ∃ x, Steps async c (flushCalls j) { c with d := x, fl := none, tables := c.tables ++ [{ gen := j.g, cells := j.r }] } := by
  obtain ⟨r, ro, on, g, st⟩ := j
  subst h0
  exact ⟨_, .call (.fstep hfl rfl) (.call (.fstep rfl rfl) (.call (.fstep rfl rfl)
    (.call (.fstep rfl rfl) (.call (.fstep rfl rfl) (.call (.fstep rfl rfl)
      (.tau (.fadd rfl rfl hnr) (.nil _)))))))⟩

/-- the tail of a rotation: the file is closed, the next one created, its header written -/
theorem rotTail_steps (async : Bool) {c : Cfg} (hpc : c.pc = .rot0) (hq : c.queue = []) (htn : c.tn = false) :
    ∃ x, Steps async c [.walClose c.cur, .walCreate (c.cur + 1), .walHeader (c.cur + 1)] { c with d := x, pc := .rot3 } :=
  ⟨_, .call (.close hpc hq htn) (.call (.create rfl) (.call (.header rfl) (.nil _)))⟩

/-- reflect, from input `j` on: the inputs go one `rmAll` at a time, then the rename puts the merged table in place of
the run -/
theorem reflect_steps (async : Bool) (jf : Nat → Option Layer) {npre nsel : Nat} {cells : Layer} :
    ∀ (rest : List Tbl) (c : Cfg) (j : Nat) (J : Layer), c.kj = .reflecting npre nsel cells j 0 J →
      (kIns c.tables npre nsel).drop j = rest →
      ∃ x, Steps async c
        (rest.flatMap (fun t => rmAll t.gen (jf t.gen)) ++ [.compRename kId (kMeta c.tables npre nsel).replacement])
        { c with d := x, kj := .idle, tables := c.tables.take npre ++
            [{ gen := (kMeta c.tables npre nsel).replacement, cells := cells }] ++ c.tables.drop (npre + nsel) } := by
  intro rest
  induction rest with
  | nil =>
    intro c j J hk hd
    exact ⟨_, .call (.krename (jk := none) hk (List.getElem?_eq_none (List.drop_eq_nil_iff.1 hd))) (.nil _)⟩
  | cons t rest ih =>
    intro c j J hk hd
    have ht : (kIns c.tables npre nsel)[j]? = some t :=
      (List.getElem?_drop (i := j) (j := 0)).symm.trans (by rw [hd]; rfl)
    have hd' : (kIns c.tables npre nsel).drop (j + 1) = rest := by
      rw [← List.drop_drop, hd]; rfl
    rw [List.flatMap_cons, List.append_assoc]
    cases jf t.gen with
    | none =>
      obtain ⟨x, hx⟩ := ih { c with d := _, kj := .reflecting npre nsel cells (j + 1) 0 J } (j + 1) J rfl hd'
      exact ⟨x, .call (.kunlinkMeta (jk := none) hk ht (Nat.zero_le _)) (.call (.kunlink (jk := none) rfl ht)
        (.call (.krmdir (jk := none) rfl ht (Nat.le_refl _)) hx))⟩
    | some J' =>
      obtain ⟨x, hx⟩ := ih { c with d := _, kj := .reflecting npre nsel cells (j + 1) 0 J' } (j + 1) J' rfl hd'
      exact ⟨x, .call (.kload hk ht) (.call (.kunlinkMeta (jk := none) rfl ht (Nat.le_refl _))
        (.call (.kunlink (jk := none) rfl ht) (.call (.krmdir (jk := none) rfl ht (Nat.le_refl _)) hx)))⟩

/-- a whole compaction cycle on the run of `nsel` tables after the first `npre` -/
theorem cycle_steps (async : Bool) (jf : Nat → Option Layer) {c : Cfg} (hk : c.kj = .idle) (hpc : c.pc = .idle)
    {npre nsel : Nat} (hg : npre + nsel ≤ c.tables.length) (hn : 1 ≤ nsel) :
    ∃ x, Steps async c
      (mergeCalls (kMeta c.tables npre nsel) (mergeRun (kIns c.tables npre nsel) (npre == 0)) ++
        ((kIns c.tables npre nsel).flatMap (fun t => rmAll t.gen (jf t.gen)) ++
          [.compRename kId (kMeta c.tables npre nsel).replacement]))
      { c with d := x, kj := .idle, tables := c.tables.take npre ++
          [{ gen := (kMeta c.tables npre nsel).replacement, cells := mergeRun (kIns c.tables npre nsel) (npre == 0) }] ++
          c.tables.drop (npre + nsel) } := by
  obtain ⟨x, hx⟩ := reflect_steps async jf (kIns c.tables npre nsel)
    { c with d := _, kj := .reflecting npre nsel (mergeRun (kIns c.tables npre nsel) (npre == 0)) 0 0 [] } 0 [] rfl rfl
  exact ⟨x, .tau (.kstart (sizes := []) (th := 0) (o := {}) hk hg hn)
    (.call (.kmerge (jk := none) rfl rfl) (.call (.kmerge (jk := none) rfl rfl)
    (.call (.kmerge (jk := none) rfl rfl) (.call (.kmerge (jk := none) rfl rfl)
    (.call (.kmerge (jk := none) rfl rfl) (.tau (.kreflect rfl hpc) hx))))))⟩

end SST.Proofs.FSI

namespace SST.Proofs.FS
open SST SST.DBM SST.FS SST.FSI SST.Proofs.DB SST.Proofs.FSI

/-- `executeFlush`, at every call boundary.  The calls are the flusher's moves from the start of its job. -/
theorem flush_seg (d : Disk) (v : Vol) (junk : List WalFile) (ro rc : List Mutation) (tn : Bool)
    (h : QW d v junk ro rc tn) :
    ∃ junk', Seg (Good3 d) (fun x => x = d) (flushEvs v).1 (fun x => QW x (flushEvs v).2 junk' ro rc tn) := by
  cases hp : v.s.flushPending with
  | false =>
    have he : flushEvs v = ([], v) := by unfold flushEvs; simp [hp]
    rw [he]
    exact ⟨junk, .done ⟨h.diskOk, rfl⟩ h⟩
  | true =>
    have hu := pending_usable h.inv hp
    obtain ⟨on, hon⟩ := Option.isSome_iff_exists.1 (h.old hu hp)
    have hS := S_of_QW h hu (pc := .idle) (.inl rfl)
    have hfl : (cfgOf d v junk ro rc tn .idle).fl =
        some { r := v.s.r, ro := ro, on := on, g := v.s.gen + 1, stage := 0 } := by
      simp only [cfgOf, hp, hon]; rfl
    have hu' : usable (flushStep v.s) = true := (flushStep_usable v.s).trans hu
    have hnp : ∀ {P : Prop}, (flushStep v.s).flushPending = true → P :=
      fun hf => nomatch (flushStep_pending v.s).symm.trans hf
    rcases flushStep_cases v.s with e | ⟨_, hr, e⟩ | ⟨_, hr, e⟩
    · exact nomatch hp.symm.trans ((congrArg State.flushPending e).symm.trans (flushStep_pending v.s))
    · -- skipped flush: the (record-less) WAL file stays behind
      have he : flushEvs v = ([], { v with s := flushStep v.s, walOld := none }) := by unfold flushEvs; simp [hp, hr]
      rw [he]
      refine ⟨junk ++ [{ num := on, recs := ro }], .done ⟨h.diskOk, rfl⟩
        (QW.of_S (flushStep_inv _ h.inv) hu' (.inl rfl) (pc := .idle) ?_ h.rok hnp)⟩
      have := S_skip hS hfl rfl hr (g' := v.s.gen) h.inv.gens.2
      simp only [cfgOf, e, hp] at this ⊢
      exact this
    · obtain ⟨x, hst⟩ := flusher_steps true hfl rfl rfl
      have he : (flushEvs v).2 = { v with s := flushStep v.s, walOld := none } := by
        unfold flushEvs; simp [hp, hr]
      rw [flushCalls_eq v on ro hp hr hon, he]
      refine ⟨junk, hst.seg h hu (.inl rfl) fun hS' =>
        QW.of_S (flushStep_inv _ h.inv) hu' (.inl rfl) (pc := .idle) ?_ h.rok hnp⟩
      simp only [cfgOf, e, hp] at hS' ⊢
      exact hS'

/-- closing the current file, creating the next one and writing its header (the flusher is idle, the buffer empty);
at the end the closed file is the one to be handed to the flusher -/
theorem rotTail_seg (d : Disk) (v : Vol) (junk : List WalFile) (ro rc : List Mutation) (tn : Bool)
    (h : QW d v junk ro rc tn) (hu : usable v.s = true) (hp : v.s.flushPending = false) (hq : v.queue = []) :
    Seg (Good3 d) (fun x => x = d) [.walClose v.walCur, .walCreate (v.walCur + 1), .walHeader (v.walCur + 1)]
      (fun x => QW x { s := rotate v.s, walCur := v.walCur + 1, walOld := some v.walCur, queue := [] } junk rc [] false) := by
  have htn := h.not_torn hq
  subst htn
  obtain ⟨x, hst⟩ := rotTail_steps true (c := cfgOf d v junk ro rc false .rot0) rfl hq rfl
  refine hst.seg h hu (.inr rfl) fun hS' => ?_
  have hrot : rotate v.s = { v.s with r := v.s.w, w := [], flushPending := true } := by
    rw [rotate_eq, flushStep_not_pending _ hp]
  have hS'' := S_ghost (P := []) (H := []) (a := 0) (m := 0)
    (S_handover hS' rfl (by simp only [cfgOf, hp]; rfl))
  refine QW.of_S (rotate_inv _ h.inv hu) (by rw [hrot]; exact hu) (.inl rfl) (pc := .idle) ?_ h.cok fun _ => rfl
  simp only [cfgOf, hrot, hp, hq] at hS'' ⊢
  exact hS''

/-- a compaction cycle of an open database, whatever the flusher has pending -/
theorem compact_seg (d : Disk) (v : Vol) (junk : List WalFile) (ro rc : List Mutation) (tn : Bool)
    (h : QW d v junk ro rc tn) (hu : usable v.s = true) (sizes : List Nat) (jk : List (Nat × Layer) := []) :
    Seg (Good3 d) (fun x => x = d) (compactEvs d v sizes jk).1
      (fun x => QW x (compactEvs d v sizes jk).2 junk ro rc tn) := by
  rcases compactStep_spec2 v.s sizes with (he | ⟨pre, t0, sel', post, htab, he⟩)
  · have : compactEvs d v sizes jk = ([], v) := by simp [compactEvs, he]
    rw [this]
    exact .done ⟨h.diskOk, rfl⟩ h
  · have hci := (compactStep_retabled v.s sizes).inv h.inv
    rw [he] at hci
    obtain ⟨_, hg, hins⟩ := kstart_run v.s.tables h.inv.gens.1 pre post sel' t0 htab
    obtain ⟨x, hst⟩ := cycle_steps true (fun g => lookupJ jk g) (c := cfgOf d v junk ro rc tn .idle) rfl rfl hg
      (Nat.succ_le_succ (Nat.zero_le _))
    have hmeta : kMeta v.s.tables pre.length ((t0 :: sel').map (·.gen)).length =
        { inputs := (t0 :: sel').map (·.gen), replacement := t0.gen } := by unfold kMeta; rw [hins]
    have hv : (compactEvs d v sizes jk).2 = { v with s := { v.s with tables :=
        pre ++ [{ gen := t0.gen, cells := mergeRun (t0 :: sel') (pre.length == 0) }] ++ post } } := by
      unfold compactEvs; rw [he]; rfl
    have htk : v.s.tables.take pre.length = pre := by rw [htab, List.append_assoc, List.take_left]
    have hdr : v.s.tables.drop (pre.length + ((t0 :: sel').map (·.gen)).length) = post := by
      rw [htab, List.length_map, ← List.length_append, List.drop_left]
    simp only [show (cfgOf d v junk ro rc tn .idle).tables = v.s.tables from rfl, hins, hmeta, htk, hdr] at hst
    rw [compactCalls_eq d h.comps v sizes jk h.inv.gens.1 pre post sel' t0 htab he, List.append_assoc, List.flatMap_map, hv]
    exact hst.seg h hu (.inl rfl) fun hS' =>
      QW.of_S hci hu (.inl rfl) (pc := .idle) hS' h.rok (h.old hu)

/-- `Close` after the final rotation and flush: the remaining WAL files are header-only leftovers.  The database is
closed then, which no configuration of the interleaved machine is: proved on `QW` itself. -/
theorem closeTail_seg (d : Disk) (v : Vol) (junk : List WalFile) (ro rc : List Mutation) (tn : Bool)
    (h : QW d v junk ro rc tn) (hu : usable v.s = true) (hp : v.s.flushPending = false) (hq : v.queue = [])
    (hw0 : v.s.w = []) :
    Seg (Good3 d) (fun x => x = d) [.walClose v.walCur]
      (fun x => QW x { v with s := { v.s with closed := true } } (junk ++ [{ num := v.walCur }]) [] [] false) := by
  refine .step ⟨h.diskOk, rfl⟩ (y := d) rfl (.done ⟨h.diskOk, rfl⟩ ?_)
  · obtain ⟨hwd, hw, _⟩ := h.live hu
    rw [hq, List.append_nil, hw0] at hw
    have hrc : rc = [] := applyMuts_eq_nil hw
    have htn := h.not_torn hq
    have hnu : usable ({ v.s with closed := true } : State) = false := by
      unfold usable; simp
    exact { h with
      inv := { h.inv with idle := fun _ => ⟨hw0, hp⟩ }
      jk := junk_append h.jk (by
        intro f hf
        simp only [List.mem_singleton] at hf
        subst hf
        exact ⟨rfl, rfl, rfl⟩)
      wal := by
        have l1 : liveFiles v ro rc tn = [{ num := v.walCur, recs := rc, torn := tn }] := by
          simp [liveFiles, hu, hp]
        have l2 : liveFiles { v with s := { v.s with closed := true } } [] [] false = [] := by
          show (if usable ({ v.s with closed := true } : State) = true then _ else []) = []
          rw [hnu]; rfl
        rw [h.wal, l1, l2, hrc, htn, List.append_nil]
      rok := by intro m hm; cases hm
      cok := by intro m hm; cases hm
      tnq := by intro hf; cases hf
      live := by intro hf; rw [hnu] at hf; cases hf
      idle := by
        intro _
        refine ⟨hq, rfl, ?_⟩
        intro hf
        rw [hwd] at hf; cases hf }

end SST.Proofs.FS
