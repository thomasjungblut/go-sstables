/-
L6: `floodFill` as coded computes `fillBetween`: a flag is set afterwards exactly if it lies between two set flags
(`floodFill_getD`).  `Btw a i x` says whether flag `x` is set in the end when the loop of `floodAux` runs on `a` from
position `i`: where the loop stops it is the flag itself (`Btw_of_none`), and the two ways the loop goes on (`Btw_succ`,
`Btw_fillRange`) leave it unchanged.
-/
import SST.Spec.DB
import SST.Proofs.ListFacts
namespace SST.Proofs.DB
open SST SST.DBM

/-- the search `floodAux` makes from position `o` of `a` finds the first set flag at or after `o`, if there is one -/
theorem nextTrue_drop (a : List Bool) (o : Nat) :
    (nextTrue (a.drop o) o = none ∧ ∀ y, o ≤ y → a.getD y false = false) ∨
    ∃ j, nextTrue (a.drop o) o = some j ∧ o ≤ j ∧ a.getD j false = true ∧
      ∀ y, o ≤ y → y < j → a.getD y false = false := by
  induction h : a.length - o generalizing o with
  | zero =>
    have ho : a.length ≤ o := Nat.le_of_sub_eq_zero h
    refine Or.inl ⟨by rw [List.drop_eq_nil_of_le ho]; rfl, fun y hy => Bool.eq_false_iff.2 fun h => ?_⟩
    exact absurd (getD_true_lt a y h) (Nat.not_lt.2 (Nat.le_trans ho hy))
  | succ n ih =>
    have ho : o < a.length := Nat.lt_of_sub_eq_succ h
    have e : a.getD o false = a[o] := (List.getElem_eq_getD false).symm
    rw [List.drop_eq_getElem_cons ho, nextTrue, ← e]
    cases hb : a.getD o false with
    | true => exact Or.inr ⟨o, rfl, Nat.le_refl _, hb, fun y h1 h2 => absurd h1 (Nat.not_le.2 h2)⟩
    | false =>
      have step : ∀ y, o ≤ y → (o + 1 ≤ y → a.getD y false = false) → a.getD y false = false := fun y hy k =>
        (Nat.eq_or_lt_of_le hy).elim (fun e => e ▸ hb) k
      rcases ih (o + 1) ((Nat.sub_succ ..).trans (congrArg Nat.pred h)) with ⟨h1, h2⟩ | ⟨j, h1, h2, h3, h4⟩
      · exact Or.inl ⟨h1, fun y hy => step y hy (h2 y)⟩
      · exact Or.inr ⟨j, h1, Nat.le_of_succ_le h2, h3, fun y hy hyj => step y hy fun hy' => h4 y hy' hyj⟩

theorem fillRange_length (a : List Bool) (i j : Nat) : (fillRange a i j).length = a.length := by
  rw [fillRange, List.length_map, List.length_range]

theorem fillRange_getD (a : List Bool) (i j x : Nat) :
    (fillRange a i j).getD x false = true ↔ x < a.length ∧ ((i ≤ x ∧ x ≤ j) ∨ a.getD x false = true) := by
  unfold fillRange
  rw [List.getD_eq_getElem?_getD, List.getElem?_map]
  by_cases hx : x < a.length
  · rw [List.getElem?_range hx, Option.map_some, Option.getD_some, and_iff_right hx]
    by_cases hr : i ≤ x ∧ x ≤ j
    · rw [if_pos hr]; exact iff_of_true rfl (Or.inl hr)
    · rw [if_neg hr, or_iff_right hr]
  · rw [List.getElem?_eq_none (by simpa using hx)]
    exact iff_of_false Bool.false_ne_true fun h => hx h.1

/-- the specification of `floodAux a i`: `x` is set, or lies between two set flags the first of which is at or
after `i` -/
def Btw (a : List Bool) (i x : Nat) : Prop :=
  a.getD x false = true ∨
    ∃ j k, i ≤ j ∧ j ≤ x ∧ x ≤ k ∧ a.getD j false = true ∧ a.getD k false = true

theorem Btw_zero (a : List Bool) (x : Nat) :
    Btw a 0 x ↔ ∃ j k, j ≤ x ∧ x ≤ k ∧ a.getD j false = true ∧ a.getD k false = true :=
  (or_iff_right_of_imp fun hx => ⟨x, x, Nat.zero_le _, Nat.le_refl _, Nat.le_refl _, hx, hx⟩).trans
    (exists_congr fun j => exists_congr fun _ => and_iff_right (Nat.zero_le j))

/-- no set flag beyond `i`: nothing is left to fill -/
theorem Btw_of_none {a : List Bool} {i : Nat} (hn : ∀ y, i < y → a.getD y false = false) (x : Nat) :
    Btw a i x ↔ a.getD x false = true := by
  refine ⟨?_, Or.inl⟩
  rintro (hx | ⟨j, k, h1, h2, h3, _, hk⟩)
  · exact hx
  · by_cases h : i < k
    · rw [hn k h] at hk; cases hk
    · exact Nat.le_antisymm h3 (Nat.le_trans (Nat.le_of_not_lt h) (Nat.le_trans h1 h2)) ▸ hk

theorem Btw_past_end {a : List Bool} {i : Nat} (hi : a.length ≤ i) (x : Nat) :
    Btw a i x ↔ a.getD x false = true :=
  Btw_of_none (fun y hy => Bool.eq_false_iff.2 fun h => absurd (getD_true_lt a y h) (Nat.not_lt.2 (Nat.le_trans hi (Nat.le_of_lt hy)))) x

/-- an unset flag at `i` starts no run -/
theorem Btw_succ {a : List Bool} {i : Nat} (hai : a.getD i false = false) (x : Nat) :
    Btw a (i + 1) x ↔ Btw a i x := by
  refine or_congr_right (exists_congr fun j => exists_congr fun k => and_congr_left fun ⟨_, _, hj, _⟩ => ?_)
  exact ⟨Nat.le_of_succ_le, fun h => Nat.lt_of_le_of_ne h fun e => by rw [← e, hai] at hj; cases hj⟩

/-- set flags at `i` and at a later `j`: filling `i..j` and going on from `j` sets the same flags -/
theorem Btw_fillRange {a : List Bool} {i j : Nat} (hij : i < j) (hai : a.getD i false = true)
    (haj : a.getD j false = true) (x : Nat) :
    Btw (fillRange a i j) j x ↔ Btw a i x := by
  have keep : ∀ y, a.getD y false = true → y < a.length ∧ ((i ≤ y ∧ y ≤ j) ∨ a.getD y false = true) :=
    fun y hy => ⟨getD_true_lt _ _ hy, Or.inr hy⟩
  unfold Btw
  simp only [fillRange_getD]
  -- →: `i` and `j` are set in `a`, so what `fillRange` adds lies between two set flags from `i` on anyway;
  -- ←: `x ≤ j` is filled, and beyond `j` a pair of set flags around `x` can be made to start at `j`
  constructor
  · rintro (⟨_, ⟨hx1, hx2⟩ | hx⟩ | ⟨y, z, hy1, hy2, hz1, _, _, ⟨_, hz3⟩ | hz3⟩)
    · exact Or.inr ⟨i, j, Nat.le_refl _, hx1, hx2, hai, haj⟩
    · exact Or.inl hx
    · exact Or.inr ⟨i, j, Nat.le_refl _, Nat.le_trans (Nat.le_of_lt hij) (Nat.le_trans hy1 hy2), Nat.le_trans hz1 hz3,
        hai, haj⟩
    · exact Or.inr ⟨i, z, Nat.le_refl _, Nat.le_trans (Nat.le_of_lt hij) (Nat.le_trans hy1 hy2), hz1, hai, hz3⟩
  · rintro (hx | ⟨y, z, hy1, hy2, hz1, _, hz2⟩)
    · exact Or.inl (keep x hx)
    · by_cases hxj : x ≤ j
      · exact Or.inl ⟨Nat.lt_of_le_of_lt hz1 (getD_true_lt _ _ hz2), Or.inl ⟨Nat.le_trans hy1 hy2, hxj⟩⟩
      · exact Or.inr ⟨j, z, Nat.le_refl _, Nat.le_of_not_le hxj, hz1, keep j haj, keep z hz2⟩

theorem floodAux_spec (fuel : Nat) (a : List Bool) (i : Nat) (h : a.length ≤ fuel + i) :
    (floodAux fuel a i).length = a.length ∧ ∀ x, (floodAux fuel a i).getD x false = true ↔ Btw a i x := by
  induction fuel generalizing a i with
  | zero => exact ⟨rfl, fun x => (Btw_past_end (a := a) (Nat.zero_add i ▸ h) x).symm⟩
  | succ fuel ih =>
    unfold floodAux
    by_cases hi : i ≥ a.length
    · rw [if_pos hi]
      exact ⟨rfl, fun x => (Btw_past_end hi x).symm⟩
    rw [if_neg hi]
    cases hai : a.getD i false with
    | true =>
      rw [if_pos rfl]
      rcases nextTrue_drop a (i + 1) with ⟨hn, hnone⟩ | ⟨j, hn, hij, haj, _⟩ <;> rw [hn]
      · exact ⟨rfl, fun x => (Btw_of_none hnone x).symm⟩
      · obtain ⟨ihl, ihx⟩ := ih (fillRange a i j) j (by rw [fillRange_length]; omega)
        exact ⟨ihl.trans (fillRange_length a i j), fun x => (ihx x).trans (Btw_fillRange hij hai haj x)⟩
    | false =>
      rw [if_neg Bool.false_ne_true]
      obtain ⟨ihl, ihx⟩ := ih a (i + 1) (Nat.le_trans h (Nat.le_of_eq (Nat.add_right_comm fuel 1 i)))
      exact ⟨ihl, fun x => (ihx x).trans (Btw_succ hai x)⟩

theorem fillBetween_length (a : List Bool) : (fillBetween a).length = a.length := by
  rw [fillBetween, List.length_map, List.length_range]

theorem fillBetween_getD (a : List Bool) (x : Nat) :
    (fillBetween a).getD x false = true ↔
      ∃ j k, j ≤ x ∧ x ≤ k ∧ a.getD j false = true ∧ a.getD k false = true := by
  unfold fillBetween
  rw [List.getD_eq_getElem?_getD, List.getElem?_map]
  by_cases hx : x < a.length
  · rw [List.getElem?_range hx]
    simp only [Option.map_some, Option.getD_some, Bool.or_eq_true, Bool.and_eq_true, List.any_eq_true,
      List.mem_range]
    constructor
    · rintro (h | ⟨⟨j, hj1, hj2⟩, ⟨d, hd1, hd2⟩⟩)
      · exact ⟨x, x, Nat.le_refl _, Nat.le_refl _, h, h⟩
      · exact ⟨j, x + 1 + d, Nat.le_of_lt hj1, Nat.le_trans (Nat.le_succ x) (Nat.le_add_right _ d), hj2, hd2⟩
    · rintro ⟨j, k, hj, hk, hj', hk'⟩
      rcases Nat.eq_or_lt_of_le hj with rfl | hjx
      · exact Or.inl hj'
      rcases Nat.eq_or_lt_of_le hk with rfl | hxk
      · exact Or.inl hk'
      have hkl := getD_true_lt _ _ hk'
      refine Or.inr ⟨⟨j, hjx, hj'⟩, ⟨k - (x + 1), by rw [Nat.sub_sub]; exact Nat.sub_lt_sub_right hxk hkl, ?_⟩⟩
      rwa [Nat.add_sub_cancel' hxk]
  · rw [List.getElem?_eq_none (by simpa using hx)]
    simp only [Option.map_none, Option.getD_none, Bool.false_eq_true, false_iff]
    rintro ⟨_, k, _, hk, _, hk'⟩
    exact hx (Nat.lt_of_le_of_lt hk (getD_true_lt _ _ hk'))

theorem floodFill_getD (a : List Bool) (x : Nat) :
    (floodFill a).getD x false = true ↔
      ∃ j k, j ≤ x ∧ x ≤ k ∧ a.getD j false = true ∧ a.getD k false = true :=
  ((floodAux_spec (a.length + 1) a 0 (Nat.le_succ _)).2 x).trans (Btw_zero a x)

theorem floodFill_length (a : List Bool) : (floodFill a).length = a.length :=
  (floodAux_spec (a.length + 1) a 0 (Nat.le_succ _)).1

theorem floodFill_spec (a : List Bool) : floodFill a = fillBetween a := by
  apply boolList_ext
  · rw [floodFill_length, fillBetween_length]
  · intro x; rw [floodFill_getD, fillBetween_getD]

theorem selection_contiguous (a : List Bool) : Contiguous (floodFill a) := by
  intro i j k hij hjk hi hk
  rw [floodFill_getD] at hi hk ⊢
  obtain ⟨y, _, hy, _, hy', _⟩ := hi
  obtain ⟨_, z, _, hz, _, hz'⟩ := hk
  exact ⟨y, z, Nat.le_trans hy (Nat.le_of_lt hij), Nat.le_trans (Nat.le_of_lt hjk) hz, hy', hz'⟩

end SST.Proofs.DB
