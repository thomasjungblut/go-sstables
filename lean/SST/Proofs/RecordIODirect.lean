/-
The direct-I/O recordio writer (SST/Model/RecordIODirect.lean).  One buffered write or flush is specified against
the file (`StepPost`, `FlushPost`): the chunks handed down are one overwrite with their concatenation, and `Write`
is transparent.  The writer then simulates the plain writer of SST/Model/RecordIO.lean on every program of writes
and seeks (`Sim`: same offsets, same logical content, zeros beyond everything ever written), so what `Close` yields
is read off the plain writer (`WInv`) plus a zero tail.  As long as there was no seek (`NInv`) the file is a sequence
of whole blocks, every write event is block aligned and the tail pads to the next block boundary.
-/
import SST.Model.RecordIODirect
import SST.Proofs.BufW
import SST.Proofs.RecordIO
namespace SST.Proofs.Direct
open SST Generated SST.Proofs

theorem getD_overwrite (file : Bytes) (pos : Nat) (bs : Bytes) (j : Nat) (hpos : pos ≤ file.length) :
    (overwrite file pos bs).getD j 0 =
      if j < pos then file.getD j 0 else if j < pos + bs.length then bs.getD (j - pos) 0
      else file.getD j 0 := by
  have hl : (file.take pos).length = pos := by rw [List.length_take]; exact Nat.min_eq_left hpos
  simp only [overwrite, List.getD_eq_getElem?_getD]
  by_cases h1 : j < pos
  · rw [if_pos h1, List.append_assoc, List.getElem?_append_left (hl.symm ▸ h1), List.getElem?_take_of_lt h1]
  · rw [if_neg h1, List.append_assoc, List.getElem?_append_right (hl.symm ▸ Nat.le_of_not_lt h1), hl]
    by_cases h2 : j < pos + bs.length
    · rw [if_pos h2, List.getElem?_append_left (Nat.sub_lt_left_of_lt_add (Nat.le_of_not_lt h1) h2)]
    · rw [if_neg h2, List.getElem?_append_right (Nat.le_sub_of_add_le' (Nat.le_of_not_lt h2)),
        List.getElem?_drop, Nat.sub_sub, Nat.add_sub_cancel' (Nat.le_of_not_lt h2)]

theorem overwrite_overwrite (file : Bytes) (pos : Nat) (a b : Bytes) (hpos : pos ≤ file.length) :
    overwrite (overwrite file pos a) (pos + a.length) b = overwrite file pos (a ++ b) := by
  have hl : (file.take pos ++ a).length = pos + a.length := by
    rw [List.length_append, List.length_take, Nat.min_eq_left hpos]
  have hd : (overwrite file pos a).drop (pos + a.length + b.length) = file.drop (pos + (a ++ b).length) := by
    rw [overwrite, ← List.drop_drop, List.drop_left' hl, List.drop_drop, List.length_append, Nat.add_assoc]
  rw [overwrite, take_overwrite _ _ _ hpos, hd, overwrite]
  simp only [List.append_assoc]

theorem bufWrite_eq (d : DWState) (p : Bytes) :
    d.bufWrite p =
      { d with w := (d.w.write p).1,
               file := (applyChunks d.file d.pos d.events (d.w.write p).2).1,
               pos := (applyChunks d.file d.pos d.events (d.w.write p).2).2.1,
               events := (applyChunks d.file d.pos d.events (d.w.write p).2).2.2 } := by
  rw [DWState.bufWrite]

theorem bufFlush_eq (d : DWState) :
    d.bufFlush =
      { d with w := d.w.flush.1,
               file := (applyChunks d.file d.pos d.events d.w.flush.2).1,
               pos := (applyChunks d.file d.pos d.events d.w.flush.2).2.1,
               events := (applyChunks d.file d.pos d.events d.w.flush.2).2.2 } := by
  rw [DWState.bufFlush]

/-- the events are all block aligned: offset a multiple of `n`, length `n` -/
def EventsAligned (n : Nat) (evs : List (Nat × Nat)) : Prop := ∀ e ∈ evs, e.1 % n = 0 ∧ e.2 = n

theorem EventsAligned.snoc {n : Nat} {evs : List (Nat × Nat)} (h : EventsAligned n evs) {pos : Nat}
    (hp : pos % n = 0) : EventsAligned n (evs ++ [(pos, n)]) := by
  intro e he
  rcases List.mem_append.mp he with he | he
  · exact h e he
  · rw [List.mem_singleton.mp he]; exact ⟨hp, rfl⟩

structure BufOk (n : Nat) (w : BufW) : Prop where
  size : w.size = n
  aligned : w.aligned = true
  le : w.buf.length ≤ n

/-- no seek so far: the file is a sequence of whole blocks and the file offset is at its end -/
structure Blocks (n : Nat) (d : DWState) : Prop where
  pos : d.pos % n = 0
  len : d.file.length = d.pos
  evs : EventsAligned n d.events

theorem applyChunks_eq (chs : List Bytes) (file : Bytes) (pos : Nat) (evs : List (Nat × Nat))
    (hpos : pos ≤ file.length) :
    (applyChunks file pos evs chs).1 = overwrite file pos chs.flatten ∧
    (applyChunks file pos evs chs).2.1 = pos + chs.flatten.length := by
  induction chs generalizing file pos evs with
  | nil => simp [applyChunks, overwrite]
  | cons ch chs ih =>
    have hle : pos + ch.length ≤ (overwrite file pos ch).length := by
      rw [length_overwrite _ _ _ hpos]; exact Nat.le_max_right _ _
    obtain ⟨i1, i2⟩ := ih _ _ (evs ++ [(pos, ch.length)]) hle
    rw [applyChunks, i1, i2, overwrite_overwrite _ _ _ _ hpos, List.flatten_cons, List.length_append, Nat.add_assoc]
    exact ⟨rfl, rfl⟩

theorem applyChunks_blocks (n : Nat) (chs : List Bytes) (hch : ∀ ch ∈ chs, ch.length = n) (file : Bytes) (pos : Nat)
    (evs : List (Nat × Nat)) (h1 : pos % n = 0) (h2 : file.length = pos) (h3 : EventsAligned n evs) :
    (applyChunks file pos evs chs).2.1 % n = 0 ∧
    (applyChunks file pos evs chs).1.length = (applyChunks file pos evs chs).2.1 ∧
    EventsAligned n (applyChunks file pos evs chs).2.2 := by
  induction chs generalizing file pos evs with
  | nil => exact ⟨h1, h2, h3⟩
  | cons ch chs ih =>
    have hc := hch ch List.mem_cons_self
    rw [applyChunks]
    apply ih (fun c hc' => hch c (List.mem_cons_of_mem _ hc'))
    · rw [hc, Nat.add_mod_right]; exact h1
    · rw [length_overwrite _ _ _ (Nat.le_of_eq h2.symm), h2]; exact Nat.max_eq_right (Nat.le_add_right _ _)
    · rw [hc]; exact h3.snoc h1

structure StepPost (n : Nat) (d d' : DWState) (p : Bytes) : Prop where
  buf : BufOk n d'.w
  adv : d'.pos + d'.w.buf.length = d.pos + d.w.buf.length + p.length
  inb : d'.pos ≤ d'.file.length
  data : d'.file.take d'.pos ++ d'.w.buf = d.file.take d.pos ++ d.w.buf ++ p
  far : ∀ j, d.pos + d.w.buf.length + p.length ≤ j → d'.file.getD j 0 = d.file.getD j 0
  cur : d'.cur = d.cur
  largest : d'.largest = d.largest
  blocks : Blocks n d → Blocks n d'

theorem bufWrite_spec (n : Nat) (d : DWState) (p : Bytes) (hw : BufOk n d.w) (hp : p.length ≤ n)
    (hpos : d.pos ≤ d.file.length) : StepPost n d (d.bufWrite p) p := by
  obtain ⟨hs, ha, hb⟩ := hw
  have ht := write_transp d.w p
  have hlen := congrArg List.length ht
  obtain ⟨e1, e2⟩ := applyChunks_eq (d.w.write p).2 d.file d.pos d.events hpos
  have hfl := length_overwrite d.file d.pos (d.w.write p).2.flatten hpos
  rw [List.length_append, List.length_append] at hlen
  rw [bufWrite_eq]
  refine ⟨⟨(write_size _ _).trans hs, (write_aligned _ _).trans ha, hs ▸ write_buf_le d.w p (hs ▸ hb)⟩,
    ?_, ?_, ?_, ?_, rfl, rfl, ?_⟩
  · simp only [e2]; rw [Nat.add_assoc, hlen, Nat.add_assoc]
  · simp only [e1, e2, hfl]; exact Nat.le_max_right _ _
  · simp only [e1, e2]
    rw [take_overwrite _ _ _ hpos, List.append_assoc, ht, List.append_assoc]
  · intro j hj
    have hj' : d.pos + (d.w.write p).2.flatten.length ≤ j := by
      refine Nat.le_trans ?_ hj
      rw [Nat.add_assoc, ← hlen]; exact Nat.add_le_add_left (Nat.le_add_right _ _) _
    simp only [e1]
    rw [getD_overwrite _ _ _ _ hpos, if_neg (Nat.not_lt.mpr (Nat.le_trans (Nat.le_add_right _ _) hj')),
      if_neg (Nat.not_lt.mpr hj')]
  · intro ⟨b1, b2, b3⟩
    obtain ⟨a1, a2, a3⟩ := applyChunks_blocks n (d.w.write p).2
      (fun ch hch => (write_chunk_len d.w p (hs ▸ hb) (hs ▸ hp) ch hch).trans hs) d.file d.pos d.events b1 b2 b3
    exact ⟨a1, a2, a3⟩

structure FlushPost (n : Nat) (d d' : DWState) : Prop where
  buf : BufOk n d'.w
  empty : d'.w.buf = []
  reach : d.pos + d.w.buf.length ≤ d'.file.length
  data : d'.file.take (d.pos + d.w.buf.length) = d.file.take d.pos ++ d.w.buf
  zero : ∀ j, d.pos + d.w.buf.length ≤ j → d.file.getD j 0 = 0 → d'.file.getD j 0 = 0
  cur : d'.cur = d.cur
  largest : d'.largest = d.largest
  blocks : Blocks n d → EventsAligned n d'.events ∧
    d'.file = d.file ++ (if d.w.buf = [] then [] else d.w.buf ++ List.replicate (n - d.w.buf.length) 0)

theorem bufFlush_spec (n : Nat) (d : DWState) (hw : BufOk n d.w) (hpos : d.pos ≤ d.file.length) :
    FlushPost n d d.bufFlush := by
  obtain ⟨hs, ha, hb⟩ := hw
  obtain ⟨e1, e2⟩ := applyChunks_eq d.w.flush.2 d.file d.pos d.events hpos
  have hF := flush_out_aligned d.w ha
  obtain ⟨k, hk⟩ : ∃ k, d.w.flush.2.flatten = d.w.buf ++ List.replicate k 0 := by
    rw [hF]; split
    · rename_i h0; exact ⟨0, by rw [h0]; rfl⟩
    · exact ⟨_, rfl⟩
  have hfl := length_overwrite d.file d.pos d.w.flush.2.flatten hpos
  have htk := take_overwrite d.file d.pos d.w.flush.2.flatten hpos
  rw [hk, List.length_append, List.length_replicate, ← Nat.add_assoc] at hfl htk
  have hle : d.pos + d.w.buf.length ≤ d.pos + d.w.buf.length + k := Nat.le_add_right _ _
  rw [bufFlush_eq]
  refine ⟨⟨(flush_size _).trans hs, (flush_aligned _).trans ha, by rw [flush_buf]; exact Nat.zero_le _⟩,
    flush_buf _, ?_, ?_, ?_, rfl, rfl, ?_⟩
  · simp only [e1, hk, hfl]; exact Nat.le_trans hle (Nat.le_max_right _ _)
  · simp only [e1, hk]
    rw [← Nat.min_eq_left hle, ← List.take_take, htk, ← List.append_assoc]
    exact List.take_left' (by rw [List.length_append, List.length_take, Nat.min_eq_left hpos])
  · intro j hj hz
    simp only [e1, hk]
    rw [getD_overwrite _ _ _ _ hpos, if_neg (Nat.not_lt.mpr (Nat.le_trans (Nat.le_add_right _ _) hj))]
    split
    · rw [List.getD_eq_getElem?_getD, List.getElem?_append_right (Nat.le_sub_of_add_le' hj),
        List.getElem?_replicate]
      split <;> rfl
    · exact hz
  · intro ⟨b1, b2, b3⟩
    refine ⟨(applyChunks_blocks n d.w.flush.2 (fun ch hch => (flush_aligned_len d.w ha (hs ▸ hb) ch hch).trans hs)
      d.file d.pos d.events b1 b2 b3).2.2, ?_⟩
    simp only [e1]
    rw [hF, hs, overwrite, ← b2, List.take_length, List.drop_of_length_le (Nat.le_add_right _ _), List.append_nil]

/-- the direct-I/O writer `d` simulates the plain writer `w`: they agree on the offsets and on the logical content
(`d`: file up to the file offset, then the buffer), and beyond everything ever written `d`'s file holds zeros.
Nothing here speaks of records: what is known of `w` carries over to `d`. -/
structure Sim (n : Nat) (d : DWState) (w : WState) : Prop where
  buf : BufOk n d.w
  cur : d.cur = w.cur
  largest : d.largest = w.largest
  adv : d.pos + d.w.buf.length = d.cur
  inb : d.pos ≤ d.file.length
  data : d.file.take d.pos ++ d.w.buf = w.file.take w.cur
  wle : w.cur ≤ w.file.length
  zero : ∀ j, max d.largest d.cur ≤ j → d.file.getD j 0 = 0

/-- no seek so far -/
structure NInv (n : Nat) (d : DWState) : Prop where
  blocks : Blocks n d
  nolarger : d.largest ≤ d.cur

theorem open_eq (n ct : Nat) (hn : fileHeaderSize ≤ n) :
    DWState.open n ct =
      { w := { size := n, aligned := true, buf := fileHeader currentVersion ct }, file := [], pos := 0,
        cur := fileHeaderSize, largest := fileHeaderSize, events := [] } := by
  have hfit : (fileHeader currentVersion ct).length ≤ (BufW.init n true).avail := hn
  rcases write_cases (BufW.init n true) (fileHeader currentVersion ct) with ⟨-, e⟩ | ⟨h, -⟩
  · simp only [DWState.open, DWState.bufWrite, e, applyChunks]; rfl
  · exact absurd hfit h

theorem Sim_open (n ct : Nat) (hn : fileHeaderSize ≤ n) :
    Sim n (DWState.open n ct) (WState.init ct) ∧ NInv n (DWState.open n ct) := by
  rw [open_eq n ct hn]
  exact ⟨⟨⟨rfl, rfl, hn⟩, rfl, rfl, rfl, Nat.le_refl _, rfl, Nat.le_refl _, fun _ _ => rfl⟩,
    ⟨Nat.zero_mod n, rfl, fun _ h => nomatch h⟩, Nat.le_refl _⟩

theorem StepPost.trans {n : Nat} {d d' d'' : DWState} {p q : Bytes} (h : StepPost n d d' p)
    (h' : StepPost n d' d'' q) : StepPost n d d'' (p ++ q) where
  buf := h'.buf
  adv := by rw [h'.adv, h.adv, List.length_append, Nat.add_assoc]
  inb := h'.inb
  data := by rw [h'.data, h.data, List.append_assoc]
  far j hj := by
    rw [List.length_append, ← Nat.add_assoc] at hj
    rw [h'.far j (h.adv ▸ hj), h.far j (Nat.le_trans (Nat.le_add_right _ _) hj)]
  cur := h'.cur.trans h.cur
  largest := h'.largest.trans h.largest
  blocks b := h'.blocks (h.blocks b)

theorem write_off (c : Compression) (d : DWState) (r : GoBytes) : (d.write c r).2 = d.cur := by
  cases r <;> rfl

/-- `Write` is a buffered write of the record's bytes, then the bookkeeping of `cur` and `largest` -/
theorem write_spec (c : Compression) (n : Nat) (d : DWState) (r : GoBytes) (hw : BufOk n d.w)
    (hfit : RecFitsBuf c n r) (hpos : d.pos ≤ d.file.length) :
    ∃ d1, StepPost n d d1 (encRecord c r) ∧
      (d.write c r).1 = { d1 with
        cur := d.cur + (encRecord c r).length
        largest := if r.isNone then d.largest else max d.largest (d.cur + (encRecord c r).length) } := by
  cases r with
  | none =>
    have sp := bufWrite_spec n d _ hw hfit hpos
    -- stated through `sp.largest`, `rfl` need not look into `bufWrite`
    exact ⟨_, sp, by rw [← sp.largest]; rfl⟩
  | some p =>
    have sp := bufWrite_spec n d _ hw hfit.1 hpos
    refine ⟨_, sp.trans (bufWrite_spec n _ _ sp.buf hfit.2 sp.inb), ?_⟩
    simp only [DWState.write, encRecord, List.length_append, Nat.add_assoc, Option.isNone_some, Bool.false_eq_true,
      if_false]

theorem write_cur' (c : Compression) (d : DWState) (r : GoBytes) :
    (d.write c r).1.cur = d.cur + (encRecord c r).length := by
  cases r with
  | none => rfl
  | some p => simp only [DWState.write, encRecord, List.length_append, Nat.add_assoc]

theorem Sim_write (c : Compression) (n : Nat) (d : DWState) (w : WState) (r : GoBytes) (h : Sim n d w)
    (hfit : RecFitsBuf c n r) :
    Sim n (d.write c r).1 (w.write c r).1 ∧ (d.write c r).2 = (w.write c r).2 ∧
      (NInv n d → NInv n (d.write c r).1) := by
  obtain ⟨wf, wc, wl⟩ := w
  obtain ⟨h1, h2, h3, h4, h5, h6, h7, h8⟩ := h
  subst h2 h3
  obtain ⟨d1, ⟨s1, s2, s3, s4, s5, -, -, s8⟩, e⟩ := write_spec c n d r h1 hfit h5
  rw [e]
  have hcur : d.cur ≤ d.cur + (encRecord c r).length := Nat.le_add_right _ _
  have hL : d.largest ≤ if r.isNone then d.largest else max d.largest (d.cur + (encRecord c r).length) := by
    split
    · exact Nat.le_refl _
    · exact Nat.le_max_left _ _
  refine ⟨⟨s1, rfl, rfl, s2.trans (congrArg (· + _) h4), s3,
      s4.trans ((congrArg (· ++ _) h6).trans (take_overwrite _ _ _ h7).symm),
      Nat.le_trans (Nat.le_max_right _ _) (Nat.le_of_eq (length_overwrite _ _ _ h7).symm), ?_⟩, write_off c d r,
    fun hn => ⟨⟨(s8 hn.1).1, (s8 hn.1).2, (s8 hn.1).3⟩, ?_⟩⟩
  · intro j hj
    show d1.file.getD j 0 = 0
    have hj' : d.cur + (encRecord c r).length ≤ j := Nat.le_trans (Nat.le_max_right _ _) hj
    rw [s5 j (h4 ▸ hj')]
    exact h8 j (Nat.max_le.mpr ⟨Nat.le_trans hL (Nat.le_trans (Nat.le_max_left _ _) hj), Nat.le_trans hcur hj'⟩)
  · show (if r.isNone then d.largest else max d.largest (d.cur + _)) ≤ d.cur + _
    split
    · exact Nat.le_trans hn.2 hcur
    · exact Nat.max_le.mpr ⟨Nat.le_trans hn.2 hcur, Nat.le_refl _⟩

/-- `Seek` is accepted by both or rejected by both -/
theorem Sim_seek (n : Nat) (d : DWState) (w : WState) (off : Nat) (h : Sim n d w) :
    (∃ d' w', d.seek off = .ok d' ∧ w.seek off = .ok w' ∧ Sim n d' w') ∨
    (d.seek off = .error .rejected ∧ w.seek off = .error .rejected) := by
  obtain ⟨wf, wc, wl⟩ := w
  obtain ⟨h1, h2, h3, h4, h5, h6, h7, h8⟩ := h
  subst h2 h3
  unfold DWState.seek WState.seek
  by_cases ha : off < fileHeaderSize
  · rw [if_pos ha, if_pos ha]; exact Or.inr ⟨rfl, rfl⟩
  rw [if_neg ha, if_neg ha]
  by_cases hb : off > d.cur
  · rw [if_pos hb, if_pos hb]; exact Or.inr ⟨rfl, rfl⟩
  rw [if_neg hb, if_neg hb]
  have hoc : off ≤ d.cur := Nat.le_of_not_lt hb
  obtain ⟨s1, s2, s3, s4, s5, -, -, -⟩ := bufFlush_spec n d h1 h5
  rw [h4] at s3 s4 s5
  refine Or.inl ⟨_, _, rfl, rfl, s1, rfl, rfl, ?_, Nat.le_trans hoc s3, ?_, Nat.le_trans hoc h7, ?_⟩
  · show off + d.bufFlush.w.buf.length = off; rw [s2]; rfl
  · show d.bufFlush.file.take off ++ d.bufFlush.w.buf = wf.take off
    rw [s2, List.append_nil, ← Nat.min_eq_left hoc, ← List.take_take, s4, h6, List.take_take]
  · intro j hj
    have hj' : max d.largest d.cur ≤ j := Nat.le_trans (Nat.le_max_left _ _) hj
    exact s5 j (Nat.le_trans (Nat.le_max_right _ _) hj') (h8 j hj')

/-- the closed direct-I/O file is the plain writer's logical content and a zero tail; as long as there was no seek
the tail pads to the next block boundary and `Close` too writes whole blocks only -/
theorem Sim_close (n : Nat) (d : DWState) (w : WState) (h : Sim n d w) :
    (∃ k, d.close = w.file.take w.cur ++ List.replicate k 0) ∧
    (NInv n d → d.close = w.file.take w.cur ++ List.replicate ((n - d.cur % n) % n) 0 ∧
      EventsAligned n d.closeEvents) := by
  obtain ⟨h1, -, -, h3, h4, h5, -, h6⟩ := h
  obtain ⟨s1, s2, s3, s4, s5, s6, s7, s8⟩ := bufFlush_spec n d h1 h4
  rw [h3, h5] at s4
  rw [h3] at s3 s5
  unfold DWState.close
  simp only []
  constructor
  · split
    · exact ⟨0, by rw [s4]; simp⟩
    · rename_i hl
      refine ⟨d.bufFlush.file.length - d.cur, ?_⟩
      rw [← s4, ← drop_eq_replicate d.bufFlush.file d.cur
        (fun j hj => s5 j hj (h6 j (Nat.max_le.mpr ⟨Nat.le_trans (Nat.le_of_not_lt hl) hj, hj⟩))),
        List.take_append_drop]
  · intro hn
    obtain ⟨⟨b1, b2, b3⟩, hl⟩ := hn
    obtain ⟨e1, e2⟩ := s8 ⟨b1, b2, b3⟩
    refine ⟨?_, e1⟩
    rw [if_neg (Nat.not_lt.mpr hl), e2]
    have hf : d.file = d.file.take d.pos := by rw [← b2, List.take_length]
    have hbn := h1.le
    by_cases h0 : d.w.buf = []
    · rw [if_pos h0, List.append_nil]
      rw [h0] at h5 h3
      simp only [List.append_nil, List.length_nil, Nat.add_zero] at h5 h3
      rw [hf, h5, ← h3, b1, Nat.sub_zero, Nat.mod_self, List.replicate_zero, List.append_nil]
    · rw [if_neg h0]
      have hpos : 0 < d.w.buf.length := List.length_pos_iff.mpr h0
      have hmod : d.cur % n = d.w.buf.length % n := by
        rw [← h3, Nat.add_mod, b1, Nat.zero_add, Nat.mod_mod]
      have hk : (n - d.cur % n) % n = n - d.w.buf.length := by
        rw [hmod]
        by_cases hfull : d.w.buf.length = n
        · rw [hfull, Nat.mod_self, Nat.sub_zero, Nat.mod_self, Nat.sub_self]
        · rw [Nat.mod_eq_of_lt (Nat.lt_of_le_of_ne hbn hfull),
            Nat.mod_eq_of_lt (Nat.sub_lt (Nat.lt_of_lt_of_le hpos hbn) hpos)]
      rw [hk, ← List.append_assoc, ← h5]
      conv => lhs; rw [hf]

def AOpFitsBuf (c : Compression) (n : Nat) : AOp → Prop
  | .write r => RecFitsBuf c n r
  | .cut _ => True

theorem runDirect_write_fst (c : Compression) (d : DWState) (r : GoBytes) (ops : List WOp) :
    (runDirect c d (.write r :: ops)).1 = (runDirect c (d.write c r).1 ops).1 := rfl

theorem runDirect_write_snd (c : Compression) (d : DWState) (r : GoBytes) (ops : List WOp) :
    (runDirect c d (.write r :: ops)).2 = (d.write c r).2 :: (runDirect c (d.write c r).1 ops).2 := rfl

/-- every program of writes and seeks: the same reports and related final states; a program without seeks keeps
`NInv` -/
theorem Sim_run (c : Compression) (n : Nat) (ops : List WOp) :
    ∀ (d : DWState) (w : WState), Sim n d w → (∀ r, WOp.write r ∈ ops → RecFitsBuf c n r) →
      Sim n (runDirect c d ops).1 (runWriter c w ops).1 ∧ (runDirect c d ops).2 = (runWriter c w ops).2 ∧
      ((∀ off, WOp.seek off ∉ ops) → NInv n d → NInv n (runDirect c d ops).1) := by
  induction ops with
  | nil => intro d w h _; exact ⟨h, rfl, fun _ hn => hn⟩
  | cons op ops ih =>
    intro d w h hfit
    have hfit' : ∀ r, WOp.write r ∈ ops → RecFitsBuf c n r := fun r hr => hfit r (List.mem_cons_of_mem _ hr)
    cases op with
    | write r =>
      obtain ⟨a1, a2, a3⟩ := Sim_write c n d w r h (hfit r List.mem_cons_self)
      obtain ⟨b1, b2, b3⟩ := ih _ _ a1 hfit'
      exact ⟨b1, by rw [runDirect_write_snd, a2, b2]; rfl,
        fun hns hn => b3 (fun off ho => hns off (List.mem_cons_of_mem _ ho)) (a3 hn)⟩
    | seek off =>
      rcases Sim_seek n d w off h with ⟨d', w', e1, e2, hs⟩ | ⟨e1, e2⟩
      · obtain ⟨b1, b2, -⟩ := ih _ _ hs hfit'
        simp only [runDirect, runWriter, e1, e2]
        exact ⟨b1, by rw [b2], fun hns => absurd List.mem_cons_self (hns off)⟩
      · obtain ⟨b1, b2, -⟩ := ih _ _ h hfit'
        simp only [runDirect, runWriter, e1, e2]
        exact ⟨b1, by rw [b2], fun hns => absurd List.mem_cons_self (hns off)⟩

/-- the size precondition in terms of the payload only: record headers are at most 36 bytes -/
theorem recFitsBuf_of_fits (c : Compression) (n : Nat) (r : GoBytes) (hf : FitsRec c r)
    (hn : recordHeaderMax ≤ n) (hp : ∀ p, r = some p → (stored c p).length ≤ n) : RecFitsBuf c n r := by
  cases r with
  | none => exact Nat.le_trans (encHeader_length_le true 0 _ (by decide) hf) hn
  | some p => exact ⟨Nat.le_trans (encHeader_length_le false _ _ hf.1 hf.2) hn, hp p rfl⟩

theorem direct_close_exact (c : Compression) (ct n : Nat) (rs : List GoBytes)
    (hn : fileHeaderSize ≤ n) (hfit : ∀ r ∈ rs, RecFitsBuf c n r) :
    let run := runDirect c (DWState.open n ct) (rs.map WOp.write)
    let len := fileHeaderSize + (encAll c rs).length
    run.1.close = fileHeader currentVersion ct ++ encAll c rs ++ List.replicate ((n - len % n) % n) 0 ∧
    run.1.cur = len ∧
    run.2 = (List.range rs.length).map (offsetOf c rs) ∧
    EventsAligned n run.1.closeEvents := by
  obtain ⟨s0, n0⟩ := Sim_open n ct hn
  obtain ⟨s1, o1, n1⟩ := Sim_run c n (rs.map .write) _ _ s0 (fun r hr => hfit r (by simpa using hr))
  have w1 := WInv_run_writes c ct rs [] _ (WInv_init c ct)
  obtain ⟨e1, e2⟩ := (Sim_close n _ _ s1).2 (n1 (by simp) n0)
  have hcur := s1.cur.trans w1.cur
  exact ⟨by rw [e1, w1.pre, hcur]; rfl, hcur, o1.trans (write_offsets c ct rs), e2⟩

/-- `Close` of the direct-I/O writer after any program of writes and cuts (a cut may name any index, as in
`close_exact_any`) leaves the file header and the surviving records followed by zeros only, the cursor at the
logical end. -/
theorem direct_close_exact_seeks_any (c : Compression) (ct n : Nat) (ops : List AOp)
    (hn : fileHeaderSize ≤ n) (hfit : ∀ op ∈ ops, AOpFitsBuf c n op) :
    let d := (runDirect c (DWState.open n ct) (concretize c [] ops)).1
    (∃ k, d.close = fileHeader currentVersion ct ++ encAll c (survivors [] ops) ++ List.replicate k 0) ∧
    d.cur = fileHeaderSize + (encAll c (survivors [] ops)).length := by
  obtain ⟨s1, -, -⟩ := Sim_run c n (concretize c [] ops) _ _ (Sim_open n ct hn).1
    (fun r hr => hfit (.write r) (write_mem_concretize c r ops [] hr))
  have w1 := WInv_run c ct ops [] _ (WInv_init c ct)
  obtain ⟨k, hk⟩ := (Sim_close n _ _ s1).1
  exact ⟨⟨k, by rw [hk, w1.pre]⟩, s1.cur.trans w1.cur⟩

theorem direct_close_exact_seeks (c : Compression) (ct n : Nat) (ops : List AOp)
    (hn : fileHeaderSize ≤ n) (hc : CutsOk [] ops) (hfit : ∀ op ∈ ops, AOpFitsBuf c n op) :
    let d := (runDirect c (DWState.open n ct) (concretize c [] ops)).1
    (∃ k, d.close = fileHeader currentVersion ct ++ encAll c (survivors [] ops) ++ List.replicate k 0) ∧
    d.cur = fileHeaderSize + (encAll c (survivors [] ops)).length := by
  have _ := hc  -- not used, as in `close_exact`
  exact direct_close_exact_seeks_any c ct n ops hn hfit

/-- the sequential reader on the closed direct-I/O file, after any program of writes and cuts, returns exactly the
survivors (the trailing zeros read as end of file) -/
theorem direct_seq_roundtrip_seeks_any (c : Compression) (ct n : Nat) (ops : List AOp)
    (hn : fileHeaderSize ≤ n) (hfit : ∀ op ∈ ops, AOpFitsBuf c n op)
    (hl : LawfulC c) (hf : ∀ r ∈ survivors [] ops, FitsRec c r) :
    readAll c (runDirect c (DWState.open n ct) (concretize c [] ops)).1.close = (survivors [] ops, .eof) := by
  obtain ⟨⟨k, hk⟩, _⟩ := direct_close_exact_seeks_any c ct n ops hn hfit
  rw [hk]
  exact readAll_zero_tail c ct _ k hl hf

end SST.Proofs.Direct
