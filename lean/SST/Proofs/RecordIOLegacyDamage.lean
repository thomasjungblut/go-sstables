/-
C12 for all file versions: a file cut at any length reads as exactly the records completely contained in what is
left, then EOF or unexpected EOF (`legacy_truncate_prefix_err`); random access returns a record iff all of it is
left (`legacy_truncate_readAt`).  Both are the cut theorems of `Proofs/FileFraming` at `isFramingL`.
-/
import SST.Proofs.RecordIOLegacy
namespace SST.Proofs.Legacy
open SST Generated SST.Legacy SST.Buf

/-- a PROPER prefix of one encoded record never reads as a record: the reader fails with EOF or unexpected EOF,
nothing else — in particular never with the magic-number mismatch that triggers the zero-tail rule of
`readNextV2/V3`. -/
theorem readNextL_trunc_kind (en : Bool) (v : Nat) (hv : IsVersion v) (c : Compression) (r : GoBytes)
    (hf : FitsL c r) (m : Nat) (hm : m < (encRecordL v c r).length) :
    RanOut (readNextL en v c ((encRecordL v c r).take m)) :=
  (isFramingL en hv c).next_cut r m hf hm

theorem readNextL_trunc (en : Bool) (v : Nat) (hv : IsLegacy v) (c : Compression) (r : GoBytes)
    (hf : FitsL c r) (m : Nat) (hm : m < (encRecordL v c r).length) :
    ∃ e, readNextL en v c ((encRecordL v c r).take m) = .error e :=
  RanOut.error (readNextL_trunc_kind en v (isVersion_of_legacy hv) c r hf m hm)

namespace Dmg

theorem readBodyS_error (c : Compression) (s : Bytes) (e : Err) :
    ∃ e', readBodyS c s (.error e) = .error e' :=
  Proofs.readBodyS_error c s e

theorem encAllL_nil (v : Nat) (c : Compression) : encAllL v c [] = [] := rfl

end Dmg

theorem wholeInAuxL_eq (v : Nat) (c : Compression) :
    ∀ rs b, wholeInAuxL v c rs b = wholeG (encRecordL v c) rs b := by
  intro rs
  induction rs with
  | nil => intro b; rfl
  | cons r rs ih => intro b; simp only [wholeInAuxL, wholeG, ih]

theorem openReadAllL_short (en : Bool) (comps : Nat → Compression) (f : Bytes) (h : f.length < fileHeaderSize) :
    ∃ e, (e = .eof ∨ e = .unexpectedEof) ∧ openReadAllL en comps f = ([], e) := by
  unfold openReadAllL
  rcases parseFileHeader_short f h with he | he
  · rw [he]; exact ⟨_, Or.inl rfl, rfl⟩
  · rw [he]; exact ⟨_, Or.inr rfl, rfl⟩

/-- C12 for every file version, sequential reader, with the error kind: a file cut at ANY length reads as exactly
the records completely contained in the remaining bytes (as the version hands them back), in order, then EOF or
unexpected EOF -/
theorem legacy_truncate_prefix_err (en : Bool) (comps : Nat → Compression) (v : Nat) (hv : IsVersion v)
    (c : Compression) (ct : Nat) (rs : List GoBytes) (hl : LawfulC c) (hf : ∀ r ∈ rs, FitsL c r)
    (hc : comps ct = c) (hct : ct ≤ maxCompression) (n : Nat) :
    ∃ e, (e = .eof ∨ e = .unexpectedEof) ∧ openReadAllL en comps ((encFileL v c ct rs).take n) =
      ((rs.take (wholeInL v c rs n)).map (backL en v c), e) := by
  rw [wholeInL, wholeInAuxL_eq]
  exact (isFramingL en hv c).open_take hl _ (fileHeader v ct) (openReadAllL_short en comps)
    (openReadAllL_hdr en comps v ct c hv hct hc) rs hf n

/-- C12 for the legacy file versions, sequential reader: a file cut at ANY length reads as exactly the records
completely contained in the remaining bytes (as the version hands them back), in order, then an error -/
theorem legacy_truncate_prefix (en : Bool) (comps : Nat → Compression) (v : Nat) (hv : IsLegacy v)
    (c : Compression) (ct : Nat) (rs : List GoBytes) (hl : LawfulC c) (hf : ∀ r ∈ rs, FitsL c r)
    (hc : comps ct = c) (hct : ct ≤ maxCompression) (n : Nat) :
    ∃ e, openReadAllL en comps ((encFileL v c ct rs).take n) =
      ((rs.take (wholeInL v c rs n)).map (backL en v c), e) := by
  obtain ⟨e, _, he⟩ := legacy_truncate_prefix_err en comps v (isVersion_of_legacy hv) c ct rs hl hf hc hct n
  exact ⟨e, he⟩

/-- C12 for every file version, random access: on a file cut at ANY length, record `k` is returned iff it is
completely contained in what is left -/
theorem legacy_truncate_readAt (en : Bool) (v : Nat) (hv : IsVersion v) (c : Compression) (ct : Nat)
    (rs : List GoBytes) (k : Nat) (hk : k < rs.length) (hl : LawfulC c) (hf : ∀ r ∈ rs, FitsL c r) (n : Nat) :
    (offsetOfL v c rs (k + 1) ≤ n →
      readAtL en v c ((encFileL v c ct rs).take n) (offsetOfL v c rs k) = .ok (backL en v c rs[k])) ∧
    (n < offsetOfL v c rs (k + 1) →
      ∃ e, readAtL en v c ((encFileL v c ct rs).take n) (offsetOfL v c rs k) = .error e) :=
  (isFramingL en hv c).at_offs_take hl (fileHeader v ct) rs k hk hf n

end SST.Proofs.Legacy
