/-
The counting wrapper, `io.ReadFull`, `io.ReadAll` and sequences of calls refine the raw stream (`CRd.Rep`).  The
loops of `ReadFull` and `ReadAll` end because every `Read` delivers a byte, reports EOF or uses up a schedule
entry (the last clause of `crd_read_spec`): the measure is the bytes still wanted (`ReadFull`) or still in the stream
(`ReadAll`) plus the schedule entries left.  A freshly constructed stack meets `CRd.Rep` (`rep_make`).
`readFull_uncounted_reset` is the one case in which the count is not claimed: data that arrives together with EOF.
-/
import SST.Proofs.BufReader
import SST.Proofs.RecordFraming
namespace SST.Buf
open SST Generated

/-- the counting reader `c` stands for the raw stream `s` with `k` bytes consumed so far.
The count is only claimed for underlying readers that never return data together with an error (`ed = false`). -/
structure CRd.Rep (cap : Nat) (ed : Bool) (c : CRd) (s : Bytes) (k : Nat) : Prop where
  inv : c.rd.Inv cap ed
  stream : c.rd.stream = s
  count : ed = false → c.count = k

def CRd.schedLen (c : CRd) : Nat := c.rd.under.sched.length

/-- a freshly constructed stack stands for the whole data of its underlying reader -/
theorem rep_fresh (cap : Nat) (u : Under) (hcap : 0 < cap) (hns : NoStall u.sched) (aligned : Bool := false) :
    ({ rd := Rd.reset cap u aligned, count := 0 } : CRd).Rep cap u.eofData u.rem 0 :=
  ⟨{ cap_eq := rfl, cap_pos := hcap, ed_eq := rfl, noStall := hns, err_ok := Or.inl rfl },
   by simp [Rd.stream, Rd.reset], fun _ => rfl⟩

/-- the stack as constructed (`NewCountingByteReader(NewReaderBuf(u, make([]byte, cap)))`, ANY `cap`) stands for
the whole data of its underlying reader -/
theorem rep_new (cap : Nat) (u : Under) (hns : NoStall u.sched) :
    ({ rd := Rd.new cap u, count := 0 } : CRd).Rep (effCap cap) u.eofData u.rem 0 :=
  rep_fresh (effCap cap) u (effCap_pos cap) hns

/-- the same for either constructor (`NewReaderBuf` / `NewAlignedReaderBuf`) -/
theorem rep_make (aligned : Bool) (cap : Nat) (u : Under) (hns : NoStall u.sched) :
    ({ rd := Rd.make aligned cap u, count := 0 } : CRd).Rep (effCap cap) u.eofData u.rem 0 :=
  rep_fresh (effCap cap) u (effCap_pos cap) hns aligned

/-- `ReadByte` through the counting wrapper: the count moves iff a byte came -/
theorem crd_readByte_spec {cap : Nat} {ed : Bool} {c : CRd} {s : Bytes} {k : Nat} (h : c.Rep cap ed s k) :
    ∃ c', c.readByte = ((specByte s).1, c') ∧ c'.Rep cap ed (specByte s).2 (k + if s.isEmpty then 0 else 1) := by
  obtain ⟨b', h1, h2, h3⟩ := rd_readByte_spec cap ed c.rd h.inv
  rw [h.stream] at h1 h3
  cases s with
  | nil => exact ⟨{ rd := b', count := c.count }, by simp [CRd.readByte, h1, specByte], ⟨h2, h3, h.count⟩⟩
  | cons x t =>
    exact ⟨{ rd := b', count := c.count + 1 }, by simp [CRd.readByte, h1, specByte],
      ⟨h2, h3, fun he => by simp [h.count he]⟩⟩

theorem crd_readByte_cons {cap : Nat} {ed : Bool} {c : CRd} {x : UInt8} {t : Bytes} {k : Nat}
    (h : c.Rep cap ed (x :: t) k) : ∃ c', c.readByte = (.ok x, c') ∧ c'.Rep cap ed t (k + 1) :=
  crd_readByte_spec h

theorem crd_readByte_nil {cap : Nat} {ed : Bool} {c : CRd} {k : Nat} (h : c.Rep cap ed [] k) :
    ∃ c', c.readByte = (.error (.e .eof), c') ∧ c'.Rep cap ed [] k :=
  crd_readByte_spec h

theorem crd_read_spec {cap : Nat} {ed : Bool} {c : CRd} {s : Bytes} {k : Nat} (n : Nat) (hn : 0 < n)
    (h : c.Rep cap ed s k) :
    ∃ d e c' s', c.read n = ⟨d, e, c'⟩ ∧ s = d ++ s' ∧ c'.Rep cap ed s' (k + d.length) ∧ d.length ≤ n ∧
      (e = none ∨ (e = some (.e .eof) ∧ s' = [])) ∧ (e = none → c'.schedLen < d.length + c.schedLen) := by
  obtain ⟨d, e, b', h1, h2, h3, h4, h5, h6⟩ := rd_read_spec cap ed c.rd n hn h.inv
  refine ⟨d, e, { rd := b', count := if e.isNone then c.count + d.length else c.count }, b'.stream, ?_, ?_,
    ⟨h2, rfl, ?_⟩, h4, ?_, h6⟩
  · simp [CRd.read, h1]
  · rw [← h.stream, h3]
  · intro hed
    rcases h5 with rfl | ⟨rfl, _, hd | hd⟩
    · simp [h.count hed]
    · subst hd; simp [h.count hed]
    · rw [hed] at hd; cases hd
  · rcases h5 with rfl | ⟨rfl, hs, _⟩
    · exact Or.inl rfl
    · exact Or.inr ⟨rfl, hs⟩

/-- the loop of `ReadFull(n)` on the stream `t`, with `acc` read already and `s` left (`k0`: the count when the
call began).  Every pass reads a byte or uses up a schedule entry, so `n + schedLen + 1` passes suffice. -/
theorem readFullLoop_spec (cap : Nat) (ed : Bool) (n k0 : Nat) (t : Bytes) : ∀ (f : Nat) (c : CRd) (acc s : Bytes),
    acc ++ s = t → c.Rep cap ed s (k0 + acc.length) → acc.length ≤ n → n + c.schedLen + 1 ≤ f + acc.length →
    ∃ c', c.readFullLoop f n acc = ⟨(specFull t n).1, (specFull t n).2.1, c'⟩ ∧
      c'.Rep cap ed (specFull t n).2.2 (k0 + (specFull t n).1.length) := by
  intro f
  induction f with
  | zero => intro c acc s _ _ _ h; omega
  | succ f ih =>
    intro c acc s ht hrep hacc hf
    by_cases hlt : acc.length < n
    · obtain ⟨d, e, c', s', h1, rfl, h3, h4, h5, h6⟩ := crd_read_spec (n - acc.length) (Nat.sub_pos_of_lt hlt) hrep
      have hacc' : (acc ++ d).length ≤ n := by
        rw [List.length_append, Nat.add_comm]
        exact Nat.add_le_of_le_sub (Nat.le_of_lt hlt) h4
      clear h4
      have hrep' : c'.Rep cap ed s' (k0 + (acc ++ d).length) := by
        rw [List.length_append, ← Nat.add_assoc]; exact h3
      rcases h5 with rfl | ⟨rfl, rfl⟩
      · -- no error: go round again
        have hfuel : n + c'.schedLen + 1 ≤ f + (acc ++ d).length := by
          have := h6 rfl
          rw [List.length_append]; omega
        obtain ⟨c'', g1, g2⟩ := ih c' (acc ++ d) s' (by rw [List.append_assoc, ht]) hrep' hacc' hfuel
        refine ⟨c'', ?_, g2⟩
        simp only [CRd.readFullLoop, if_pos hlt, h1]; exact g1
      · -- EOF from the reader: the loop ends with everything there was
        rw [List.append_nil] at ht
        rw [ht] at hacc' hrep'
        by_cases hge : t.length ≥ n
        · refine ⟨c', ?_, ?_⟩
          · simp only [CRd.readFullLoop, if_pos hlt, h1, finishFull, ht]
            rw [if_pos hge, specFull_le hge, List.take_of_length_le hacc']
          · rw [specFull_le hge, List.take_of_length_le hacc', List.drop_of_length_le hacc']
            exact hrep'
        · refine ⟨c', ?_, ?_⟩
          · simp only [CRd.readFullLoop, if_pos hlt, h1, finishFull, ht]
            rw [if_neg hge, specFull_gt (Nat.lt_of_not_ge hge)]
            by_cases h0 : t.length = 0
            · rw [if_neg (fun h => Nat.ne_of_gt h.1 h0), if_pos h0]
            · rw [if_pos ⟨Nat.pos_of_ne_zero h0, trivial⟩, if_neg h0]
          · rw [specFull_gt (Nat.lt_of_not_ge hge)]; exact hrep'
    · have hacc' : acc.length = n := Nat.le_antisymm hacc (Nat.le_of_not_lt hlt)
      have hta : t.take n = acc := by rw [← ht, ← hacc', List.take_left']; rfl
      have hts : t.drop n = s := by rw [← ht, ← hacc', List.drop_left']; rfl
      rw [specFull_le (by rw [← ht, List.length_append, hacc']; exact Nat.le_add_right _ _), hta, hts]
      refine ⟨c, ?_, hrep⟩
      simp only [CRd.readFullLoop, if_neg hlt, finishFull]
      rw [if_pos (Nat.le_of_eq hacc'.symm)]

/-- `io.ReadFull` over the stack = the next `n` bytes of the raw stream -/
theorem readFull_spec {cap : Nat} {ed : Bool} {c : CRd} {s : Bytes} {k : Nat} (n : Nat) (h : c.Rep cap ed s k) :
    ∃ c', c.readFull n = ⟨(specFull s n).1, (specFull s n).2.1, c'⟩ ∧
      c'.Rep cap ed (specFull s n).2.2 (k + (specFull s n).1.length) :=
  readFullLoop_spec cap ed n k s _ c [] s rfl h (Nat.zero_le _) (Nat.le_refl _)

theorem readAllLoop_spec (cap : Nat) (ed : Bool) (grow : Nat → Nat) (hg : ∀ x, x < grow x) :
    ∀ (f : Nat) (c : CRd) (s : Bytes) (k : Nat) (bcap : Nat) (acc : Bytes), c.Rep cap ed s k →
    acc.length < bcap → s.length + c.schedLen + 1 ≤ f →
    ∃ c', c.readAllLoop grow f bcap acc = ⟨acc ++ s, none, c'⟩ ∧ c'.Rep cap ed [] (k + s.length) := by
  intro f
  induction f with
  | zero => intro c s k bcap acc _ _ h; omega
  | succ f ih =>
    intro c s k bcap acc hrep hacc hf
    obtain ⟨d, e, c', s', h1, rfl, h3, h4, h5, h6⟩ :=
      crd_read_spec (bcap - acc.length) (Nat.sub_pos_of_lt hacc) hrep
    have h4' : acc.length + d.length ≤ bcap := by
      rw [Nat.add_comm]
      exact Nat.add_le_of_le_sub (Nat.le_of_lt hacc) h4
    clear h4
    rw [List.length_append] at hf
    rcases h5 with rfl | ⟨rfl, rfl⟩
    · have hfuel : s'.length + c'.schedLen + 1 ≤ f := by
        have := h6 rfl
        omega
      have hacc' : (acc ++ d).length < (if (acc ++ d).length = bcap then grow bcap else bcap) := by
        by_cases heq : (acc ++ d).length = bcap
        · rw [if_pos heq, heq]; exact hg bcap
        · rw [if_neg heq]
          exact Nat.lt_of_le_of_ne (by rw [List.length_append]; exact h4') heq
      obtain ⟨c'', g1, g2⟩ := ih c' s' (k + d.length) _ (acc ++ d) h3 hacc' hfuel
      refine ⟨c'', ?_, ?_⟩
      · simp only [CRd.readAllLoop, h1]; rw [g1, List.append_assoc]
      · rw [List.length_append, ← Nat.add_assoc]; exact g2
    · refine ⟨c', ?_, ?_⟩
      · simp only [CRd.readAllLoop, h1, if_true, List.append_nil]
      · rw [List.length_append, ← Nat.add_assoc]; exact h3

/-- `io.ReadAll` over the stack = everything that is left, no error -/
theorem readAll_spec {cap : Nat} {ed : Bool} {c : CRd} {s : Bytes} {k : Nat} (grow : Nat → Nat)
    (hg : ∀ x, x < grow x) (h : c.Rep cap ed s k) :
    ∃ c', c.readAll grow = ⟨s, none, c'⟩ ∧ c'.Rep cap ed [] (k + s.length) := by
  have hlen : s.length = c.rd.pend.length + c.rd.under.rem.length := by
    rw [← h.stream]; simp [Rd.stream]
  obtain ⟨c', h1, h2⟩ := readAllLoop_spec cap ed grow hg
    (c.rd.pend.length + c.rd.under.rem.length + c.rd.under.sched.length + 2) c s k 512 [] h (by simp)
    (by simp [CRd.schedLen]; omega)
  exact ⟨c', by simpa [CRd.readAll] using h1, h2⟩

theorem specCalls_readByte (s : Bytes) (k : Nat) (cs : List Call) :
    specCalls s k (.readByte :: cs) = .byte (specByte s).1 (k + if s.isEmpty then 0 else 1) ::
      specCalls (specByte s).2 (k + if s.isEmpty then 0 else 1) cs := by
  cases s <;> rfl

theorem runCalls_spec (cap : Nat) (ed : Bool) : ∀ (calls : List Call) (c : CRd) (s : Bytes) (k : Nat),
    c.Rep cap ed s k →
    (runCalls c calls).map CallRes.erase = (specCalls s k calls).map CallRes.erase ∧
    (ed = false → runCalls c calls = specCalls s k calls) := by
  intro calls
  induction calls with
  | nil => intro c s k _; simp [runCalls, specCalls]
  | cons call calls ih =>
    intro c s k hrep
    cases call with
    | readByte =>
      obtain ⟨c', h1, h2⟩ := crd_readByte_spec hrep
      have := ih c' _ _ h2
      refine ⟨?_, fun hed => ?_⟩
      · simp only [runCalls, h1, specCalls_readByte, List.map_cons, this.1, CallRes.erase]
      · simp only [runCalls, h1, specCalls_readByte, this.2 hed, h2.count hed]
    | readFull n =>
      obtain ⟨c', h1, h2⟩ := readFull_spec n hrep
      have := ih c' _ _ h2
      refine ⟨?_, fun hed => ?_⟩
      · simp only [runCalls, h1, specCalls, List.map_cons, this.1, CallRes.erase]
      · simp only [runCalls, h1, specCalls, this.2 hed, h2.count hed]

/-- data handed out together with EOF by a large read is returned by `ReadFull` — and never counted -/
theorem readFull_uncounted_reset (cap k : Nat) (d : Bytes) (hcap : cap ≤ d.length) :
    let c : CRd := { rd := Rd.reset cap { rem := d, sched := [], eofData := true }, count := k }
    (c.readFull d.length).data = d ∧ (c.readFull d.length).err = none ∧ (c.readFull d.length).st.count = k := by
  intro c
  cases d with
  | nil => exact ⟨rfl, rfl, rfl⟩  -- nothing asked for, no read
  | cons x xs =>
    have hpos : 0 < (x :: xs).length := Nat.succ_pos _
    have hn0 : (x :: xs).length ≠ 0 := Nat.succ_ne_zero _
    have hcap' : cap ≤ xs.length + 1 := hcap
    have hread : (c.read ((x :: xs).length)).data = x :: xs ∧ (c.read ((x :: xs).length)).err = some (.e .eof) ∧
        (c.read ((x :: xs).length)).st.count = k := by
      simp only [CRd.read, Rd.read, if_neg hn0]
      simp [c, Rd.reset, Under.read, Under.readCore, Under.logged, Under.deliver, hcap']
    cases hr : c.read ((x :: xs).length) with
    | mk d e st =>
      rw [hr] at hread
      obtain ⟨rfl, rfl, hk⟩ := hread
      have : c.readFull (x :: xs).length = ⟨x :: xs, none, st⟩ := by
        simp only [CRd.readFull]
        have hf : (x :: xs).length + c.rd.under.sched.length + 1 = ((x :: xs).length + 0) + 1 := by
          simp [c, Rd.reset]
        rw [hf]
        simp only [CRd.readFullLoop, List.length_nil, hpos, if_true, Nat.sub_zero, hr, finishFull, List.nil_append,
          ge_iff_le, Nat.le_refl]
      rw [this]; exact ⟨rfl, rfl, hk⟩

end SST.Buf
