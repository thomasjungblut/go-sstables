/-
L7 with I/O faults (C11, system half): lemmas.  One notion, "the writing of a table reaches a fault" (`Hit`), and
one statement shape, `FaultSpec A x y`: the generalised operation `x` fails when `A` (a fault is reached) and is the
fault-free operation `y` otherwise.  `writeAndOpenF` has it against `writeAndOpen` (`wF_spec`: a fault attached to a
`WriteNext` call makes the byte-level writer answer something else than `ok`, C15 `call_results`; a `Close` error
stops before the table is loaded), hence the flush step against `flushStep` and the compaction cycle against the
cycle that has only its read faults; "fault ⇒ error", "success ⇒ it is the fault-free step" and "no faults = the
step of SST/Model/Stack.lean" are the projections.  A consumed read fault makes `MergeCompact`, hence the plan, fail (C11 merger
half); a plan that succeeds does not depend on the read faults.
-/
import SST.Model.StackFault
import SST.Proofs.StackCompact
import SST.Props.C11
namespace SST.Proofs.Stack
open SST SST.Stack SST.DBM Generated

/-- the writing of a table with `n` calls reaches a fault: one attached to a call, or a failing action of `Close` -/
def Hit (n : Nat) (faults : List Fault) (cf : CloseFault) : Prop :=
  (∃ i, i < n ∧ faults.getD i .none ≠ .none) ∨ closeErrs cf ≠ []

theorem not_hit_nil (n : Nat) : ¬ Hit n [] {} := by
  rintro (⟨i, _, h⟩ | h)
  · exact h rfl
  · exact h rfl

/-- `x` is `y` with faults: it fails when a fault is reached (`A`), and is `y` otherwise -/
structure FaultSpec {α : Type} (A : Prop) (x : Except FailF α) (y : Except Fail α) : Prop where
  fails : A → ∃ f, x = .error f
  same : ¬ A → x = liftFail y

/-- success under whatever faults: none was reached, the result is the fault-free one -/
theorem FaultSpec.ok {α : Type} {A : Prop} {x : Except FailF α} {y : Except Fail α} (h : FaultSpec A x y) {a : α}
    (hx : x = .ok a) : y = .ok a := by
  by_cases hA : A
  · obtain ⟨f, hf⟩ := h.fails hA
    rw [hf] at hx; cases hx
  · rw [h.same hA] at hx
    cases y with
    | ok b => cases hx; rfl
    | error f => cases hx

theorem attachFaults_hit (cs : List Call) : ∀ (fs : List Fault) (i : Nat), i < cs.length →
    fs.getD i .none ≠ .none → ∃ c ∈ attachFaults cs fs, c.fault ≠ .none := by
  induction cs with
  | nil => exact fun _ _ h => absurd h (Nat.not_lt_zero _)
  | cons c cs ih =>
    intro fs i h hf
    cases fs with
    | nil => exact absurd rfl hf
    | cons f fs =>
      cases i with
      | zero => exact ⟨{ c with fault := f }, List.mem_cons_self, hf⟩
      | succ i =>
        obtain ⟨c', hc, hne⟩ := ih fs i (Nat.lt_of_succ_lt_succ h) hf
        exact ⟨c', List.mem_cons_of_mem _ hc, hne⟩

theorem attachFaults_eq : ∀ (cs : List Call) (fs : List Fault), (∀ c ∈ cs, c.fault = .none) →
    (∀ i, i < cs.length → fs.getD i .none = .none) → attachFaults cs fs = cs
  | [], _, _, _ => rfl
  | _ :: _, [], _, _ => rfl
  | c :: cs, f :: fs, hc, hf => by
    obtain ⟨hc0, hc⟩ := List.forall_mem_cons.mp hc
    have h0 : f = .none := hf 0 (Nat.zero_lt_succ _)
    show { c with fault := f } :: attachFaults cs fs = c :: cs
    rw [attachFaults_eq cs fs hc fun i hi => hf (i + 1) (Nat.succ_lt_succ hi), h0, ← hc0]

theorem run_ok_no_fault (cfg : SstCfg) (cs : List Call)
    (h : ((SstW.open cfg).run cfg cs).2.find? (· ≠ .ok) = none) : ∀ c ∈ cs, c.fault = .none := by
  rw [Proofs.Sst.find_ne_ok_none_iff, C15.call_results] at h
  exact Proofs.Sst.specResults_ok_noFault cfg.cmp cs [] h

/-- the calls of a flush and of a compaction are `l.map f` for an `f` that attaches no fault -/
theorem wF_spec (P : Params) (gen : Nat) (faults : List Fault) (cf : CloseFault) (onW : WRes → Fail)
    (onC : List CloseErr → FailF) (onO : Err → Fail) {α : Type} {f : α → Call} (hf : ∀ a, (f a).fault = .none)
    (l : List α) :
    FaultSpec (Hit l.length faults cf) (writeAndOpenF P gen (l.map f) faults cf onW onC onO)
      (writeAndOpen P gen (l.map f) onW onO) where
  fails hit := by
    unfold writeAndOpenF
    cases hr : ((SstW.open P.cfg).run P.cfg (attachFaults (l.map f) faults)).2.find? (· ≠ .ok) with
    | some r => exact ⟨_, rfl⟩
    | none =>
      cases hce : closeErrs cf with
      | cons e es => exact ⟨_, rfl⟩
      | nil =>
        -- every call was answered `ok` and `Close` returned nil: no fault was reached
        rcases hit with ⟨i, hi, hne⟩ | hc
        · obtain ⟨c, hc, hne⟩ := attachFaults_hit (l.map f) faults i (by rw [List.length_map]; exact hi) hne
          exact absurd (run_ok_no_fault P.cfg _ hr c hc) hne
        · exact absurd hce hc
  same hn := by
    have hfs : ∀ i, i < (l.map f).length → faults.getD i .none = .none := fun i hi =>
      Decidable.byContradiction fun hne => hn (.inl ⟨i, by rw [← List.length_map f]; exact hi, hne⟩)
    have hc : closeErrs cf = [] := Decidable.byContradiction fun hne => hn (.inr hne)
    unfold writeAndOpenF writeAndOpen
    rw [attachFaults_eq (l.map f) faults (List.forall_mem_map.mpr fun a _ => hf a) hfs, hc]
    dsimp only
    cases ((SstW.open P.cfg).run P.cfg (l.map f)).2.find? (· ≠ .ok) <;> rfl

theorem flushF_spec (P : Params) (ff : FlushFaults) (c : Stack.State) :
    FaultSpec (c.flushPending = true ∧ c.r.sl.size ≠ 0 ∧
        Hit ((Mem.flushCalls c.r true).getD []).length ff.writes ff.close)
      (flushStepF P ff c) (Stack.flushStep P c) := by
  unfold flushStepF Stack.flushStep newWriter
  cases hp : c.flushPending with
  | false => exact ⟨fun h => absurd h.1 Bool.false_ne_true, fun _ => rfl⟩
  | true =>
    by_cases hz : c.r.sl.size = 0
    · simp only [hz, Bool.not_true, Bool.false_eq_true, if_false, if_true]
      exact ⟨fun h => absurd rfl h.2.1, fun _ => rfl⟩
    · simp only [hz, Bool.not_true, Bool.false_eq_true, if_false]
      cases hc : Mem.flushCalls c.r true with
      | none => exact ⟨fun _ => ⟨_, rfl⟩, fun _ => rfl⟩
      | some calls =>
        dsimp only
        have h := wF_spec P (c.gen + 1) ff.writes ff.close .flushWrite .flushClose .flushOpen (f := mkCall)
          (fun _ => rfl) calls
        -- the step continues after `writeAndOpenF` as the fault-free step does after `writeAndOpen`
        exact ⟨fun hA => by obtain ⟨f, hf⟩ := h.fails hA.2.2; rw [hf]; exact ⟨f, rfl⟩,
          fun hA => by rw [h.same fun hit => hA ⟨trivial, hz, hit⟩]; cases writeAndOpen P _ _ _ _ <;> rfl⟩

theorem attachReads_nil : ∀ scans : List ScanRes, attachReads scans [] = scans.map scanInput
  | [] => rfl
  | sr :: srs => by simp only [attachReads, List.map_cons, attachReads_nil srs]

theorem scanInput_items (sr : ScanRes) : (scanInput sr).items = sr.1 := by
  unfold scanInput
  cases sr.2 <;> rfl

theorem attachReads_items : ∀ (scans : List ScanRes) (reads : List (Option Nat)),
    (attachReads scans reads).map FInput.items = scans.map (·.1)
  | [], _ => rfl
  | sr :: srs, [] => by
    simp only [attachReads, List.map_cons, scanInput_items, attachReads_items srs []]
  | sr :: srs, r :: rs => by
    simp only [attachReads, List.map_cons, attachReads_items srs rs]
    congr 1
    cases r
    · exact scanInput_items sr
    · rfl

theorem compactPlanF_nil (P : Params) (c : Stack.State) : compactPlanF P [] c = compactPlan P c := by
  unfold compactPlanF compactSel compactPlan
  dsimp only
  generalize DBM.floodFill (c.tables.map fun t => candidateMd c.opts t.rd.md) = flags
  generalize (List.range c.tables.length).filter (fun i => flags.getD i false) = idx
  cases (idx.isEmpty || decide ((idx.length : Int) ≤ c.opts.threshold)) with
  | true => rfl
  | false =>
    cases idx with
    | nil => rfl
    | cons first rest =>
      generalize (first :: rest).filterMap (fun i => c.tables[i]?) = sel
      cases sel with
      | nil => rfl
      | cons t0 sel' =>
        generalize newWriter _ = nw
        cases nw with
        | error f => rfl
        | ok u =>
          generalize scanAll P (t0 :: sel') = sc
          cases sc with
          | error e => rfl
          | ok scans =>
            simp only [planOf, reducerOf, attachReads_nil, Bool.false_eq_true, if_false]
            generalize Merge.mergeCompact (scans.map scanInput) {} _ = mc
            obtain ⟨e, wr⟩ := mc
            cases e <;> rfl

/-- a consumed read fault makes the merge, hence the plan, fail (C11 merger half) -/
theorem planOf_read_fault (reads : List (Option Nat)) (si : SelInfo)
    (h : ∃ i ∈ attachReads si.scans reads, i.endErr ≠ none) : ∃ f, planOf reads si = .error f := by
  have := (C11.mergeCompact_fault_reported (attachReads si.scans reads) {} (reducerOf si.dropTombstones)).1 h
  unfold planOf
  generalize Merge.mergeCompact (attachReads si.scans reads) {} (reducerOf si.dropTombstones) = mc at this ⊢
  obtain ⟨e, wr⟩ := mc
  cases e with
  | none => exact absurd rfl this
  | some e => exact ⟨_, rfl⟩

/-- a plan that succeeds, under whatever read faults, holds the compaction of the complete merge of the scans -/
theorem planOf_ok {reads : List (Option Nat)} {si : SelInfo} {p : Plan} (hp : planOf reads si = .ok p) :
    p = { first := si.first, idx := si.idx, gens := si.gens, gen := si.gen,
          out := Merge.recordsOf (Merge.compactOf (reducerOf si.dropTombstones)
            (PQ.drain Merge.goCmp (si.scans.map (·.1)))) } := by
  unfold planOf at hp
  have hs := (C11.mergeCompact_fault_reported (attachReads si.scans reads) {} (reducerOf si.dropTombstones)).2.2
  generalize Merge.mergeCompact (attachReads si.scans reads) {} (reducerOf si.dropTombstones) = mc at hp hs
  obtain ⟨e, wr⟩ := mc
  cases e with
  | some e => cases hp
  | none =>
    obtain ⟨_, hout, _⟩ := hs rfl
    simp only at hp hout
    cases hp
    rw [hout]
    simp only [List.nil_append, Merge.mergedOf, attachReads_items]

theorem compactF_read_fault (P : Params) (cf : CompactFaults) (c : Stack.State) (si : SelInfo)
    (hsel : compactSel P c = .ok (some si))
    (h : ∃ i ∈ attachReads si.scans cf.reads, i.endErr ≠ none) :
    ∃ f, compactStepF P cf c = .error f := by
  obtain ⟨f, hf⟩ := planOf_read_fault cf.reads si h
  unfold compactStepF compactPlanF
  simp only [hsel, hf]
  exact ⟨_, rfl⟩

/-- `compactStep` as a function of the outcome of its plan: write the records of the plan, load the table, install it -/
def compactInstall (P : Params) (c : Stack.State) : Except Fail (Option Plan) → Except Fail (Stack.State × List Nat)
  | .error f => .error f
  | .ok none => .ok (c, [])
  | .ok (some pl) =>
    match writeAndOpen P pl.gen (pl.out.map kvCall) .compactWrite .compactLoad with
    | .error f => .error f
    | .ok merged => .ok ({ c with tables := reflect c.tables pl merged }, pl.gens)

theorem compactStep_eq (P : Params) (c : Stack.State) :
    Stack.compactStep P c = compactInstall P c (compactPlan P c) := rfl

/-- the write and `Close` faults of a cycle, on top of its read faults -/
theorem compactF_spec (P : Params) (cf : CompactFaults) (c : Stack.State) :
    FaultSpec (∃ pl, compactPlanF P cf.reads c = .ok (some pl) ∧ Hit pl.out.length cf.writes cf.close)
      (compactStepF P cf c) (compactInstall P c (compactPlanF P cf.reads c)) := by
  unfold compactStepF compactInstall
  cases compactPlanF P cf.reads c with
  | error f => exact ⟨fun ⟨_, h, _⟩ => (nomatch h), fun _ => rfl⟩
  | ok o =>
    cases o with
    | none => exact ⟨fun ⟨_, h, _⟩ => (nomatch h), fun _ => rfl⟩
    | some pl =>
      dsimp only
      have h := wF_spec P pl.gen cf.writes cf.close .compactWrite .compactClose .compactLoad (f := kvCall)
        (fun _ => rfl) pl.out
      exact ⟨fun ⟨_, hpl, hA⟩ => by cases hpl; obtain ⟨f, hf⟩ := h.fails hA; rw [hf]; exact ⟨f, rfl⟩,
        fun hA => by rw [h.same fun hit => hA ⟨pl, rfl, hit⟩]; cases writeAndOpen P _ _ _ _ <;> rfl⟩

/-- a plan that succeeds does not depend on the read faults: it is the one `planOf_ok` determines -/
theorem compactPlanF_det {P : Params} {c : Stack.State} {reads reads' : List (Option Nat)} {o o' : Option Plan}
    (h : compactPlanF P reads c = .ok o) (h' : compactPlanF P reads' c = .ok o') : o = o' := by
  unfold compactPlanF at h h'
  cases hsel : compactSel P c with
  | error f => rw [hsel] at h; cases h
  | ok osi =>
    rw [hsel] at h h'
    cases osi with
    | none => cases h; cases h'; rfl
    | some si =>
      simp only at h h'
      cases hp : planOf reads si with
      | error f => rw [hp] at h; cases h
      | ok pl =>
        cases hp' : planOf reads' si with
        | error f => rw [hp'] at h'; cases h'
        | ok pl' =>
          rw [hp] at h; rw [hp'] at h'
          cases h; cases h'
          rw [planOf_ok hp, planOf_ok hp']

/-- in related states the fault-free plan exists (`compactPlan_spec`): the one use of `Rel` on the fault side -/
theorem compactPlanF_ok {P : Params} {c : Stack.State} {s : DBM.State} (h : Rel P c s) {reads : List (Option Nat)}
    {o : Option Plan} (hF : compactPlanF P reads c = .ok o) : compactPlan P c = .ok o := by
  rcases compactPlan_spec h with ⟨h1, _⟩ | ⟨_, _, _, h1, _⟩ <;>
    rw [h1, compactPlanF_det hF ((compactPlanF_nil P c).trans h1)]

/-- a generalised cycle that reports success consumed no fault: it is the fault-free cycle, result included.  `Rel`
is needed: `scanInputF` with an injected fault drops the scanner's own ending, so in an unrelated state, where a
scanner may end in an error, an unreached injected fault lets the plan succeed where `compactPlan` fails. -/
theorem compactF_ok_eq {P : Params} {c : Stack.State} {s : DBM.State} (h : Rel P c s) (cf : CompactFaults)
    (r : Stack.State × List Nat) (hok : compactStepF P cf c = .ok r) : Stack.compactStep P c = .ok r := by
  have hr := (compactF_spec P cf c).ok hok
  cases hF : compactPlanF P cf.reads c with
  | error f => rw [hF] at hr; cases hr
  | ok o => rw [compactStep_eq, compactPlanF_ok h hF, ← hF]; exact hr

end SST.Proofs.Stack
