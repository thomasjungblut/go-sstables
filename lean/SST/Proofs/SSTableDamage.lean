/-
Proofs for C09: what the checksum verification of the table reader guarantees on a damaged data file.
-/
import SST.Proofs.SSTableWriter
import SST.Proofs.SSTableServe
import SST.Proofs.RecordIODamage
import SST.Proofs.Crc
namespace SST.Proofs.Sst
open SST Generated SST.Proofs

/-- a verified read that succeeds: the bytes read (what the unverified read returns) carry the stored CRC-64,
or the stored one is the bypass value 0 -/
theorem verified_get_ok (dc : Compression) (data : Bytes) (iv : IndexVal) (v : GoBytes)
    (h : getValueAtOffset dc data iv false = .ok v) :
    getValueAtOffset dc data iv true = .ok v ∧ (valueSum v = iv.sum ∨ iv.sum = 0) := by
  rw [getValueAtOffset_eq] at h ⊢
  cases hr : rawAt dc data iv.off with
  | error e => rw [hr] at h; cases h
  | ok v0 =>
    rw [hr] at h
    obtain ⟨rfl, h2⟩ := gate_ok_iff.1 h
    exact ⟨rfl, h2.resolve_left (by simp)⟩

theorem verified_get_sound (dc : Compression) (data : Bytes) (iv : IndexVal) (v' : GoBytes)
    (h : getValueAtOffset dc data iv false = .ok v') : valueSum v' = iv.sum ∨ iv.sum = 0 :=
  (verified_get_ok dc data iv v' h).2

/-- every pair a verified index scan delivers carries a value whose CRC-64 is the stored one (or the stored
one is 0) -/
theorem scanWith_sound (dc : Compression) (data : Bytes) : ∀ (es : List IEntry) (fin : IterEnd),
    ∀ p ∈ (scanWith dc data false es fin).1, ∃ e ∈ es, p.1 = e.1 ∧ (valueSum p.2 = e.2.sum ∨ e.2.sum = 0) := by
  intro es
  induction es with
  | nil => intro fin p hp; simp [scanWith] at hp
  | cons e es ih =>
    intro fin p hp
    simp only [scanWith] at hp
    cases hg : getValueAtOffset dc data e.2 false with
    | error err => rw [hg] at hp; simp at hp
    | ok v =>
      rw [hg] at hp
      simp only [List.mem_cons] at hp
      rcases hp with rfl | hp
      · exact ⟨e, by simp, rfl, verified_get_sound dc data e.2 v hg⟩
      · obtain ⟨e', he', h1, h2⟩ := ih fin p hp
        exact ⟨e', by simp [he'], h1, h2⟩

/-- `scanWith_sound` for the full scan (index iterator paired with the sequential reader) -/
theorem fullScanS_sound (c : Compression) : ∀ (es : List IEntry) (fin : IterEnd) (s : Bytes),
    ∀ p ∈ (fullScanS c false es fin s).1, ∃ e ∈ es, p.1 = e.1 ∧ (valueSum p.2 = e.2.sum ∨ e.2.sum = 0) := by
  intro es
  induction es with
  | nil => intro fin s p hp; simp [fullScanS] at hp
  | cons e es ih =>
    intro fin s p hp
    simp only [fullScanS] at hp
    cases hr : readNextS c s with
    | error err => rw [hr] at hp; simp at hp
    | ok vn =>
      obtain ⟨v, n⟩ := vn
      rw [hr] at hp
      simp only at hp
      -- `fullScanS` spells out the decision of `gate`: the sums differ and the stored one is not 0
      by_cases hbad : (!false && decide (valueSum v ≠ e.2.sum) && decide (e.2.sum ≠ 0)) = true
      · rw [if_pos hbad] at hp; simp at hp
      · rw [if_neg hbad] at hp
        simp only [List.mem_cons] at hp
        rcases hp with rfl | hp
        · refine ⟨e, by simp, rfl, ?_⟩
          simp only [Bool.not_false, Bool.true_and, Bool.and_eq_true, decide_eq_true_eq, not_and,
            Decidable.not_not] at hbad
          by_cases hs : valueSum v = e.2.sum
          · exact Or.inl hs
          · exact Or.inr (hbad hs)
        · obtain ⟨e', he', h1, h2⟩ := ih fin (s.drop n) p hp
          exact ⟨e', by simp [he'], h1, h2⟩

/-- verify on load: if `validateDataFile` passes, every indexed value re-reads (verified) successfully -/
theorem validate_all (dc : Compression) (data : Bytes) : ∀ (es : List IEntry) (fin : IterEnd),
    validateData dc data (es, fin) = .ok () →
    ∀ e ∈ es, ∃ v, getValueAtOffset dc data e.2 false = .ok v := by
  intro es
  induction es with
  | nil => intro fin _ e he; cases he
  | cons e0 es ih =>
    intro fin h e he
    unfold validateData at h ih
    simp only [scanWith] at h
    cases hg : getValueAtOffset dc data e0.2 false with
    | error err => rw [hg] at h; cases h
    | ok v =>
      rw [hg] at h
      rcases List.mem_cons.1 he with rfl | he
      · exact ⟨v, hg⟩
      · refine ih fin ?_ e he
        revert h
        cases scanWith dc data false es fin with
        | mk l f => cases f <;> exact id

theorem set_in_record (pre hdr v rest : Bytes) (j : Nat) (hj : j < v.length) (x : UInt8) :
    (pre ++ (hdr ++ v) ++ rest).set (pre.length + hdr.length + j) x = pre ++ (hdr ++ v.set j x) ++ rest := by
  rw [← List.append_assoc pre, ← List.append_assoc pre, ← List.length_append, List.append_assoc _ v,
    List.set_append_right _ _ (Nat.le_add_right _ _), Nat.add_sub_cancel_left, List.set_append_left _ _ hj,
    List.append_assoc _ (v.set j x)]

theorem getValue_plain (pre rest b : Bytes) (hfit : b.length < 2 ^ 64) (sum : Nat) :
    getValueAtOffset none (pre ++ encRecord none (some b) ++ rest) ⟨pre.length, sum⟩ false =
      gate false sum (some b) := by
  have hread := readAt_enc none pre (some b) rest trivial (by simp [FitsRec, clenOf, hfit])
  have hpos := encRecord_pos none (some b)
  rw [getValueAtOffset_eq, rawAt, List.append_assoc, if_neg (by simp only [List.length_append]; omega), hread]
  rfl

/-- Compression none, value `v` whose stored CRC-64 is not the bypass value 0: any single-byte change
inside the payload of its record makes the verified read at its offset fail with a checksum error. -/
theorem payload_alteration_detected (pre rest v : Bytes) (j : Nat) (hj : j < v.length) (x : UInt8)
    (hx : x ≠ v[j]) (hfit : v.length < 2 ^ 64) (hz : valueSum (some v) ≠ 0) :
    getValueAtOffset none
      ((pre ++ encRecord none (some v) ++ rest).set (pre.length + (encHeader false v.length 0).length + j) x)
      ⟨pre.length, valueSum (some v)⟩ false = .error .checksum := by
  have henc : encRecord none (some v) = encHeader false v.length 0 ++ v := rfl
  have henc' : encRecord none (some (v.set j x)) = encHeader false v.length 0 ++ v.set j x := by
    simp [encRecord, clenOf, stored]
  have hne : valueSum (some (v.set j x)) ≠ valueSum (some v) :=
    fun h => crc64_single_byte v j hj x hx (UInt64.toNat_inj.mp h)
  rw [henc, set_in_record pre _ v rest j hj x, ← henc',
    getValue_plain pre rest (v.set j x) (by rw [List.length_set]; exact hfit)]
  exact gate_bad hne hz

/-- Any shortening of `data.rio` (cut at ANY length `n`): the verified read of key `i` returns the original
value or an error, provided the stored checksum is not the bypass value 0. -/
theorem truncation_detected (cfg : SstCfg) (kvs : List KV) (hl : LawfulC cfg.dc)
    (hf : ∀ p ∈ kvs, FitsRec cfg.dc p.2) (i : Nat) (hi : i < kvs.length) (hz : valueSum kvs[i].2 ≠ 0) (n : Nat) :
    let iv : IndexVal := ⟨offsetOf cfg.dc (kvs.map (·.2)) i, valueSum kvs[i].2⟩
    getValueAtOffset cfg.dc ((dataFileOf cfg kvs).take n) iv false = .ok kvs[i].2 ∨
    ∃ e, getValueAtOffset cfg.dc ((dataFileOf cfg kvs).take n) iv false = .error e := by
  intro iv
  have hi' : i < (kvs.map (·.2)).length := by simpa using hi
  obtain ⟨h1, h2⟩ := truncate_readAt cfg.dc cfg.dct (kvs.map (·.2)) i hi' hl (List.forall_mem_map.2 hf) n
  rw [List.getElem_map] at h1
  rw [getValueAtOffset_eq, rawAt]
  split
  · -- the bare EOF is swallowed: the value is nil, whose CRC-64 is 0, not the stored one
    exact .inr ⟨_, gate_bad (v := none) (fun h => hz h.symm) hz⟩
  · rcases Nat.lt_or_ge n (offsetOf cfg.dc (kvs.map (·.2)) (i + 1)) with hn | hn
    · obtain ⟨e, he⟩ := h2 hn
      exact .inr ⟨e, by rw [show readAt cfg.dc ((dataFileOf cfg kvs).take n) iv.off = _ from he]; rfl⟩
    · exact .inl (by
        rw [show readAt cfg.dc ((dataFileOf cfg kvs).take n) iv.off = _ from h1 hn]; exact gate_self false _)

/-- whatever happened to the data file: a verified read that succeeds returns a value with the stored
CRC-64 (when that is not the bypass value) -/
theorem damage_sound (dc : Compression) (data' : Bytes) (v : GoBytes) (off : Nat) (v' : GoBytes)
    (hz : valueSum v ≠ 0)
    (h : getValueAtOffset dc data' ⟨off, valueSum v⟩ false = .ok v') :
    v' = v ∨ (v' ≠ v ∧ valueSum v' = valueSum v) := by
  rcases verified_get_sound dc data' _ v' h with h1 | h1
  · by_cases hv : v' = v
    · exact Or.inl hv
    · exact Or.inr ⟨hv, h1⟩
  · exact absurd h1 hz

/-- the legacy bypass: a value whose CRC-64 is 0 is NOT protected — any bytes of the same length in its
payload are returned by the verified read without an error -/
theorem zero_checksum_unprotected (pre rest v v' : Bytes) (hlen : v'.length = v.length) (hfit : v.length < 2 ^ 64)
    (hz : valueSum (some v) = 0) :
    getValueAtOffset none (pre ++ encRecord none (some v') ++ rest) ⟨pre.length, valueSum (some v)⟩ false = .ok (some v') := by
  rw [getValue_plain pre rest v' (hlen ▸ hfit), hz]
  exact gate_zero false _

/-- if `NewSSTableReader` succeeds with verification on load, the data file it keeps has passed
`validateDataFile` against the loaded index -/
theorem openTable_validated (comps : Nat → Compression) (k : LoaderKind) (o : ReadOpts) (t : Table)
    (bloom : Option (Bytes → Bool)) (r : Reader) (idx : Index) (hv : o.skipHashOnLoad = false)
    (h : openTable comps k o t bloom = .ok (r, idx)) :
    validateData r.dc r.data idx.all = .ok () := by
  -- every failing step of `NewSSTableReader` contradicts `h`
  unfold openTable at h
  simp only [hv, Bool.false_eq_true, if_false] at h
  split at h
  · cases h
  · split at h
    · cases h
    · split at h
      · cases h
      · split at h
        · cases h
        · split at h
          · cases h
          · rename_i hval
            cases h
            exact hval

/-- verification on load (the default; whatever the read option): once the table has opened, every `Get` /
index-scan step on an indexed entry succeeds with a value whose CRC-64 is the stored one (or the stored one
is the bypass value 0) — whatever was done to the files before opening -/
theorem load_verified_sound (comps : Nat → Compression) (k : LoaderKind) (o : ReadOpts) (t : Table)
    (bloom : Option (Bytes → Bool)) (r : Reader) (idx : Index) (hv : o.skipHashOnLoad = false)
    (h : openTable comps k o t bloom = .ok (r, idx)) :
    ∀ e ∈ idx.all.1, ∃ v, r.getWith (.ok e.2) = .ok v ∧ (valueSum v = e.2.sum ∨ e.2.sum = 0) := by
  have hval := openTable_validated comps k o t bloom r idx hv h
  intro e he
  obtain ⟨v, hg⟩ := validate_all r.dc r.data idx.all.1 idx.all.2 hval e he
  refine ⟨v, ?_, verified_get_sound _ _ _ _ hg⟩
  unfold Reader.getWith
  cases hs : r.skipHashOnRead with
  | true => exact (verified_get_ok _ _ _ _ hg).1
  | false => exact hg

end SST.Proofs.Sst
