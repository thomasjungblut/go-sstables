/-
recordio, current file version.  One record: the sequential reader is the common body reader behind the header
parser of its window (`Buf.readNextS_eq`), the random-access reader the common `readAtW` behind the parser of the 36
bytes it fetched (`readAt_eq`), and a written record is an `IsRec` of either parser (`isRec_v4`); so it reads back
sequentially, by `SkipNext` and by random access, and on a cut record both readers run out or fail.  With these
facts the format is a record framing (`isFraming_v4`), and the file-level statements — round trip, also with zeros
(direct-I/O padding) behind the records, random access at the record offsets — are instances of `Proofs/FileFraming`.
The writer reports the record offsets (`write_offsets`) and, across seeks back to a record offset, closes on exactly
the surviving records (`WInv`).
-/
import SST.Spec.RecordIO
import SST.Proofs.RecordIOHeader
import SST.Proofs.FileFraming
import SST.Proofs.RecordFraming
namespace SST.Buf
open SST Generated

/-- the payload cases of `readNextS`, as `payloadS` -/
theorem payload_cascade (cmp : Compression) (avail : Bytes) (hlen n : Nat) :
    (if n = 0 then (decodePayload cmp []).map (fun r => (some r, hlen))
     else if avail.length = 0 then .error .eof
     else if avail.length < n then .error .unexpectedEof
     else (decodePayload cmp (avail.take n)).map (fun r => (some r, hlen + n))) = payloadS cmp avail hlen n := by
  unfold payloadS specFull
  by_cases h0 : n = 0
  · subst h0; simp
  · rw [if_neg h0]
    by_cases h1 : avail.length = 0
    · rw [if_pos h1, if_neg (fun h => h0 (Nat.le_zero.mp (h1 ▸ h))), if_pos h1]
    · rw [if_neg h1]
      by_cases h2 : avail.length < n
      · rw [if_pos h2, if_neg (Nat.not_le_of_lt h2), if_neg h1]
      · have h3 : n ≤ avail.length := Nat.le_of_not_lt h2
        rw [if_neg h2, if_pos h3]
        simp only [List.length_take_of_le h3]

theorem readNextS_eq (cmp : Compression) (s : Bytes) :
    readNextS cmp s = readBodyS cmp s (readHeader (fileWin s)) := by
  unfold readNextS
  cases hh : readHeader (fileWin s) with
  | error e =>
    by_cases hm : e = .magic
    · subst hm
      obtain ⟨v, c1, hw, hs⟩ := readHeader_magic_inv hh
      simp only [readBodyS, hw, hs]
    · rw [readBodyS_error_ne_magic cmp s hm]
      cases e <;> first | exact absurd rfl hm | rfl
  | ok h =>
    simp only [readBodyS]
    split
    · rfl
    · exact payload_cascade cmp _ _ _

theorem skipNextS_eq (cmp : Compression) (s : Bytes) :
    skipNextS cmp s = (readHeader (fileWin s)).map fun h => h.hlen + skipLen cmp h := by
  unfold skipNextS
  cases readHeader (fileWin s) <;> rfl

end SST.Buf

namespace SST.Proofs
open SST Generated

theorem expectedLen_enc (c : Compression) (nf : Bool) (r : Bytes) (hl : Nat) :
    expectedLen c { ulen := r.length, clen := clenOf c r, isNil := nf, hlen := hl } = (stored c r).length := by
  cases c <;> rfl

theorem encRecord_pos (c : Compression) (r : GoBytes) : 0 < (encRecord c r).length := by
  cases r with
  | none => exact encHeader_pos _ _ _
  | some r => simp only [encRecord, List.length_append]; have := encHeader_pos false r.length (clenOf c r); omega

theorem encRecord_marker (c : Compression) (r : GoBytes) : ∃ X, encRecord c r = magicBytes ++ X := by
  cases r with
  | none => simp only [encRecord, encHeader, headerBody, List.append_assoc]; exact ⟨_, rfl⟩
  | some r => simp only [encRecord, encHeader, headerBody, List.append_assoc]; exact ⟨_, rfl⟩

/-- the header parser of the sequential reader, on the stream -/
abbrev rhS4 (s : Bytes) : Except Err RecHeader := readHeader (fileWin s)

/-- the header parser of the random-access reader, on the bytes of its window -/
abbrev rhA4 (s : Bytes) : Except Err RecHeader := readHeader (eofWin s)

theorem isHdr_rhS4 (nf : Bool) (u cl : Nat) (hu : u < 2 ^ 64) (hc : cl < 2 ^ 64) :
    IsHdr rhS4 (encHeader nf u cl) { ulen := u, clen := cl, isNil := nf, hlen := (encHeader nf u cl).length } where
  ok t := readHeader_fileWin nf u cl t hu hc
  cut := readHeader_cut nf u cl hu hc
  len := rfl

theorem isHdr_rhA4 (nf : Bool) (u cl : Nat) (hu : u < 2 ^ 64) (hc : cl < 2 ^ 64) :
    IsHdr rhA4 (encHeader nf u cl) { ulen := u, clen := cl, isNil := nf, hlen := (encHeader nf u cl).length } :=
  IsHdr.of_frontToBack readHeader_frontToBack (fun t => readHeader_enc _ nf u cl t hu hc rfl) rfl

theorem isRec_v4 (rh : Bytes → Except Err RecHeader)
    (hrh : ∀ nf u cl, u < 2 ^ 64 → cl < 2 ^ 64 →
      IsHdr rh (encHeader nf u cl) { ulen := u, clen := cl, isNil := nf, hlen := (encHeader nf u cl).length })
    (c : Compression) (r : GoBytes) (hf : FitsRec c r) : IsRec rh recordHeaderMax c (encRecord c r) r := by
  cases r with
  | none =>
    exact ⟨_, _, hrh true 0 _ (by decide) hf, encHeader_pos _ _ _, encHeader_length_le _ _ _ (by decide) hf,
      rfl, rfl⟩
  | some r =>
    exact ⟨_, _, hrh false _ _ hf.1 hf.2, encHeader_pos _ _ _, encHeader_length_le _ _ _ hf.1 hf.2, rfl, rfl,
      expectedLen_enc c false r _⟩

/-- the test `off + h.hlen > file.length` of `readAt` (the offset check of the payload's `mmapReader.ReadAt` in the
version 4 branch of `ReadNextAt`) never fires: an accepted header lies inside the window -/
theorem readAt_eq (c : Compression) (file : Bytes) (off : Nat) :
    readAt c file off = readAtW rhA4 recordHeaderMax c file off := by
  unfold readAt readAtW
  by_cases h1 : off > file.length
  · rw [if_pos h1, if_pos h1]
  rw [if_neg h1, if_neg h1]
  by_cases h2 : off = file.length
  · rw [if_pos h2, if_pos h2]
  rw [if_neg h2, if_neg h2]
  simp only [mmapWin_eq, rhA4]
  cases hh : readHeader (eofWin ((file.drop off).take recordHeaderMax)) with
  | error e => rfl
  | ok h =>
    have hl := (readHeader_frontToBack.ok_ext hh).1
    rw [List.length_take, List.length_drop] at hl
    simp only []
    split
    · rfl
    · rw [if_neg (Nat.not_lt.mpr (Nat.add_comm _ _ ▸
        Nat.add_le_of_le_sub (Nat.le_of_not_gt h1) (Nat.le_trans hl (Nat.min_le_right _ _))))]

theorem readNextS_of_header_error (c : Compression) (s : Bytes)
    (h : ∃ e, readHeader (fileWin s) = .error e) : ∃ e, readNextS c s = .error e := by
  obtain ⟨e, he⟩ := h
  rw [Buf.readNextS_eq, he]
  exact readBodyS_error c s e

theorem readAt_of_header_error (c : Compression) (pre s : Bytes) (hs : s ≠ []) {e : Err}
    (h : readHeader (mmapWin s) = .error e) : readAt c (pre ++ s) pre.length = .error e := by
  rw [readAt_eq, readAtW_append _ _ _ _ _ (List.length_pos_iff.mpr hs)]
  show (match readHeader (mmapWin s) with | .error e => _ | .ok h => _) = _
  rw [h]

theorem zero_tail_is_eof (c : Compression) (n : Nat) :
    readNextS c (List.replicate n 0) = .error .eof := by
  cases n with
  | zero =>
    simp [readNextS, fileWin, recordHeaderMax, readHeader_eq, canonDec_eq, uvarintDec, uvarintDecAux, Win.map]
  | succ n =>
    obtain ⟨l, hl⟩ := fileWin_zero n
    unfold readNextS
    rw [readHeader_zero _ l hl, hl, uvarintDec_zero]
    simp

theorem readNextS_nil (c : Compression) : readNextS c [] = .error .eof :=
  zero_tail_is_eof c 0

@[simp] theorem encAll_nil (c : Compression) : encAll c [] = [] := rfl

@[simp] theorem encAll_cons (c : Compression) (r : GoBytes) (rs : List GoBytes) :
    encAll c (r :: rs) = encRecord c r ++ encAll c rs := rfl

theorem encAll_append (c : Compression) (xs ys : List GoBytes) :
    encAll c (xs ++ ys) = encAll c xs ++ encAll c ys :=
  catRecs_append xs ys

theorem fileHeader_length (v ct : Nat) : (fileHeader v ct).length = 8 := rfl

theorem fileHeader_ne : fileHeader currentVersion 0 ≠ [] :=
  fun h0 => by have := fileHeader_length currentVersion 0; rw [h0] at this; cases this

theorem drop_fileHeader (v ct : Nat) (rest : Bytes) : (fileHeader v ct ++ rest).drop fileHeaderSize = rest :=
  List.drop_left' (fileHeader_length _ _)

theorem parseFileHeader_le32 (v ct : Nat) (rest : Bytes) (hv : v < 2 ^ 32) (hc : ct < 2 ^ 32) :
    parseFileHeader (le32 v ++ le32 ct ++ rest) =
      if v > currentVersion ∨ v < minVersion then .error .rejected
      else if ct > maxCompression then .error .rejected
      else .ok (v, ct) := by
  have h1 : (le32 v ++ le32 ct ++ rest).take 4 = le32 v := by
    rw [List.append_assoc, List.take_left' (le32_length v)]
  have h2 : ((le32 v ++ le32 ct ++ rest).drop 4).take 4 = le32 ct := by
    rw [List.append_assoc, List.drop_left' (le32_length v), List.take_left' (le32_length ct)]
  have h3 : ¬ (le32 v ++ le32 ct ++ rest).length < fileHeaderSize := by
    simp only [List.length_append, le32_length, fileHeaderSize]; omega
  unfold parseFileHeader
  rw [if_neg h3, h1, h2, le32Dec_le32 v hv, le32Dec_le32 ct hc]

theorem file_header_accepted (v ct : Nat) (rest : Bytes)
    (hv : minVersion ≤ v ∧ v ≤ currentVersion) (hc : ct ≤ maxCompression) :
    parseFileHeader (le32 v ++ le32 ct ++ rest) = .ok (v, ct) := by
  have h1 : currentVersion = 4 := rfl
  have h2 : maxCompression = 3 := rfl
  rw [parseFileHeader_le32 v ct rest (by omega) (by omega)]
  rw [if_neg (by omega), if_neg (by omega)]

theorem file_header_rejected (v ct : Nat) (rest : Bytes) (hv : v < 2 ^ 32) (hc : ct < 2 ^ 32)
    (hbad : v > currentVersion ∨ v < minVersion ∨ ct > maxCompression) :
    parseFileHeader (le32 v ++ le32 ct ++ rest) = .error .rejected := by
  rw [parseFileHeader_le32 v ct rest hv hc]
  by_cases h : v > currentVersion ∨ v < minVersion
  · rw [if_pos h]
  · rw [if_neg h, if_pos (by omega)]

theorem parseFileHeader_short (f : Bytes) (h : f.length < fileHeaderSize) : RanOut (parseFileHeader f) := by
  unfold parseFileHeader
  rw [if_pos h]
  split
  · exact Or.inl rfl
  · exact Or.inr rfl

/-- the current version is a record framing, under the side condition `fits` of one's choice (`FitsRec c`, or
the stronger `FitsL c` of the legacy dispatchers) -/
theorem isFraming_v4 (c : Compression) {fits : GoBytes → Prop} (hfit : ∀ r, fits r → FitsRec c r) :
    IsFraming (LawfulC c) (encRecord c) (fun r => r) fits (readNextS c) (skipNextS c) (readAt c) := by
  have := isFraming_of_isRec (fits := fits) rhS4 rhA4 recordHeaderMax c
    (fun r hf => isRec_v4 rhS4 isHdr_rhS4 c r (hfit r hf)) (fun r hf => isRec_v4 rhA4 isHdr_rhA4 c r (hfit r hf))
    (encRecord_pos c) (by rw [← Buf.readNextS_eq]; exact readNextS_nil c)
  rwa [← funext (Buf.readNextS_eq c), ← funext (Buf.skipNextS_eq c),
    ← funext fun f => funext (readAt_eq c f)] at this

theorem readNextS_enc (c : Compression) (r : GoBytes) (rest : Bytes)
    (hl : LawfulC c) (hf : FitsRec c r) :
    readNextS c (encRecord c r ++ rest) = .ok (r, (encRecord c r).length) :=
  (isFraming_v4 c fun _ h => h).next_enc hl r rest hf

theorem skip_eq_read_discard (c : Compression) (r : GoBytes) (rest : Bytes)
    (hl : LawfulC c) (hf : FitsRec c r) :
    skipNextS c (encRecord c r ++ rest) = .ok (encRecord c r).length ∧
    readNextS c (encRecord c r ++ rest) = .ok (r, (encRecord c r).length) :=
  ⟨(isFraming_v4 c fun _ h => h).skip_enc r rest hf, readNextS_enc c r rest hl hf⟩

theorem readNextS_trunc_err (c : Compression) (r : GoBytes) (hf : FitsRec c r) (m : Nat)
    (hm : m < (encRecord c r).length) : RanOut (readNextS c ((encRecord c r).take m)) :=
  (isFraming_v4 c fun _ h => h).next_cut r m hf hm

theorem readAt_enc (c : Compression) (pre : Bytes) (r : GoBytes) (rest : Bytes)
    (hl : LawfulC c) (hf : FitsRec c r) :
    readAt c (pre ++ (encRecord c r ++ rest)) pre.length = .ok r :=
  (isFraming_v4 c fun _ h => h).at_enc hl pre r rest hf

theorem readAllS_eq (c : Compression) : ∀ fuel s, readAllS c fuel s = readAllG (readNextS c) fuel s := by
  intro fuel
  induction fuel with
  | zero => intro s; rfl
  | succ f ih => intro s; unfold readAllS readAllG; simp only [ih]; rfl

theorem readAll_hdr (c : Compression) (ct : Nat) (rest : Bytes) :
    readAll c (fileHeader currentVersion ct ++ rest) =
      readAllG (readNextS c) ((fileHeader currentVersion ct ++ rest).length + 1) rest := by
  rw [readAll, drop_fileHeader, readAllS_eq]

theorem length_le_encAll (c : Compression) (rs : List GoBytes) : rs.length ≤ (encAll c rs).length :=
  length_le_catRecs (encRecord_pos c) rs

theorem offsetOf_lt (c : Compression) (rs : List GoBytes) (j : Nat) :
    ∀ k, j < k → k ≤ rs.length → offsetOf c rs j < offsetOf c rs k :=
  offs_lt (encRecord_pos c) _ rs j

theorem readAll_zero_tail (c : Compression) (ct : Nat) (rs : List GoBytes) (k : Nat)
    (hl : LawfulC c) (hf : ∀ r ∈ rs, FitsRec c r) :
    readAll c (fileHeader currentVersion ct ++ encAll c rs ++ List.replicate k 0) = (rs, .eof) := by
  have := (isFraming_v4 c fun _ h => h).open_append hl _ _ (readAll_hdr c ct) (zero_tail_is_eof c k) rs hf
  rwa [List.map_id', ← List.append_assoc] at this

theorem seq_roundtrip (c : Compression) (ct : Nat) (rs : List GoBytes)
    (hl : LawfulC c) (hf : ∀ r ∈ rs, FitsRec c r) :
    readAll c (fileHeader currentVersion ct ++ encAll c rs) = (rs, .eof) := by
  simpa using readAll_zero_tail c ct rs 0 hl hf

theorem readAt_zero_tail (c : Compression) (ct : Nat) (rs : List GoBytes) (z : Nat) (k : Nat)
    (hk : k < rs.length) (hl : LawfulC c) (hf : ∀ r ∈ rs, FitsRec c r) :
    readAt c (fileHeader currentVersion ct ++ encAll c rs ++ List.replicate z 0) (offsetOf c rs k) =
      .ok rs[k] :=
  (isFraming_v4 c fun _ h => h).at_offs hl (fileHeader currentVersion ct) rs _ k hk hf

theorem readAt_offset (c : Compression) (ct : Nat) (rs : List GoBytes) (k : Nat) (hk : k < rs.length)
    (hl : LawfulC c) (hf : ∀ r ∈ rs, FitsRec c r) :
    readAt c (fileHeader currentVersion ct ++ encAll c rs) (offsetOf c rs k) = .ok rs[k] := by
  simpa using readAt_zero_tail c ct rs 0 k hk hl hf

theorem runWriter_write_snd (c : Compression) (w : WState) (r : GoBytes) (ops : List WOp) :
    (runWriter c w (.write r :: ops)).2 = w.cur :: (runWriter c (w.write c r).1 ops).2 := rfl

theorem runWriter_write_fst (c : Compression) (w : WState) (r : GoBytes) (ops : List WOp) :
    (runWriter c w (.write r :: ops)).1 = (runWriter c (w.write c r).1 ops).1 := rfl

theorem write_cur (c : Compression) (w : WState) (r : GoBytes) :
    (w.write c r).1.cur = w.cur + (encRecord c r).length := rfl

theorem offsets_cons (c : Compression) (pre : List GoBytes) (r : GoBytes) (rs : List GoBytes) :
    (List.range (r :: rs).length).map (fun i => offsetOf c (pre ++ r :: rs) (pre.length + i)) =
      (fileHeaderSize + (encAll c pre).length) ::
        (List.range rs.length).map (fun i => offsetOf c (pre ++ [r] ++ rs) ((pre ++ [r]).length + i)) := by
  rw [List.length_cons, List.range_succ_eq_map, List.map_cons, List.map_map]
  congr 1
  · simp [offsetOf]
  · apply List.map_congr_left
    intro i _
    simp only [Function.comp, List.append_assoc, List.singleton_append, List.length_append,
      List.length_singleton]
    congr 1; omega

theorem encAll_snoc_length (c : Compression) (rs : List GoBytes) (r : GoBytes) :
    (encAll c (rs ++ [r])).length = (encAll c rs).length + (encRecord c r).length := by
  simp [encAll_append]

/-- the writer reports its current size before each record and grows by the record's length: it reports the
record offsets -/
theorem runWriter_offsets (c : Compression) (rs : List GoBytes) :
    ∀ (pre : List GoBytes) (w : WState), w.cur = fileHeaderSize + (encAll c pre).length →
      (runWriter c w (rs.map WOp.write)).2 =
        (List.range rs.length).map (fun i => offsetOf c (pre ++ rs) (pre.length + i)) := by
  induction rs with
  | nil => intro pre w _; rfl
  | cons r rs ih =>
    intro pre w hs
    have h' : (w.write c r).1.cur = fileHeaderSize + (encAll c (pre ++ [r])).length := by
      rw [write_cur, hs, encAll_snoc_length, Nat.add_assoc]
    rw [List.map_cons, runWriter_write_snd, ih (pre ++ [r]) _ h', offsets_cons, hs]

theorem write_offsets (c : Compression) (ct : Nat) (rs : List GoBytes) :
    (runWriter c (WState.init ct) (rs.map WOp.write)).2 = (List.range rs.length).map (offsetOf c rs) := by
  simpa using runWriter_offsets c rs [] (WState.init ct) (by simp [WState.init])

theorem length_overwrite (file : Bytes) (pos : Nat) (bs : Bytes) (hpos : pos ≤ file.length) :
    (overwrite file pos bs).length = max file.length (pos + bs.length) := by
  rw [overwrite, List.length_append, List.length_append, List.length_take, List.length_drop,
    Nat.min_eq_left hpos, Nat.add_comm _ (_ - _), Nat.sub_add_eq_max]

theorem take_overwrite (file : Bytes) (pos : Nat) (bs : Bytes) (hpos : pos ≤ file.length) :
    (overwrite file pos bs).take (pos + bs.length) = file.take pos ++ bs := by
  rw [overwrite]
  exact List.take_left' (by rw [List.length_append, List.length_take]; omega)

/-- writer invariant: the first `cur` bytes of the file are the header and the surviving records -/
structure WInv (c : Compression) (ct : Nat) (rs : List GoBytes) (w : WState) : Prop where
  cur : w.cur = fileHeaderSize + (encAll c rs).length
  pre : w.file.take w.cur = fileHeader currentVersion ct ++ encAll c rs
  le : w.cur ≤ w.file.length
  big : w.file.length ≤ max w.largest w.cur

theorem WInv_init (c : Compression) (ct : Nat) : WInv c ct [] (WState.init ct) := by
  constructor
  · simp [WState.init]
  · exact List.take_of_length_le (by simp [WState.init, fileHeader_length, fileHeaderSize])
  · simp [WState.init, fileHeader_length, fileHeaderSize]
  · simp [WState.init, fileHeader_length, fileHeaderSize]

theorem WInv_write (c : Compression) (ct : Nat) (rs : List GoBytes) (w : WState) (r : GoBytes)
    (h : WInv c ct rs w) : WInv c ct (rs ++ [r]) (w.write c r).1 := by
  obtain ⟨h1, h2, h3, h4⟩ := h
  have hflen := length_overwrite w.file w.cur (encRecord c r) h3
  constructor
  · rw [write_cur, h1, encAll_snoc_length, Nat.add_assoc]
  · show (overwrite w.file w.cur (encRecord c r)).take (w.cur + (encRecord c r).length) = _
    rw [take_overwrite _ _ _ h3, h2, encAll_append, encAll_cons, encAll_nil, List.append_nil,
      List.append_assoc]
  · show w.cur + (encRecord c r).length ≤ (overwrite w.file w.cur (encRecord c r)).length
    exact hflen ▸ Nat.le_max_right _ _
  · show (overwrite w.file w.cur (encRecord c r)).length ≤
      max (if r.isNone then w.largest else max w.largest (w.cur + (encRecord c r).length))
        (w.cur + (encRecord c r).length)
    have hL : w.largest ≤
        if r.isNone then w.largest else max w.largest (w.cur + (encRecord c r).length) := by
      split
      · exact Nat.le_refl _
      · exact Nat.le_max_left _ _
    rw [hflen]
    exact Nat.max_le.mpr ⟨Nat.le_trans h4 (Nat.max_le.mpr ⟨Nat.le_trans hL (Nat.le_max_left _ _),
      Nat.le_trans (Nat.le_add_right _ _) (Nat.le_max_right _ _)⟩), Nat.le_max_right _ _⟩

theorem encAll_take_le (c : Compression) (rs : List GoBytes) (k : Nat) :
    (encAll c (rs.take k)).length ≤ (encAll c rs).length :=
  catRecs_take_le rs k

theorem offsetOf_le_file (c : Compression) (ct : Nat) (rs : List GoBytes) (k : Nat) :
    offsetOf c rs k ≤ (fileHeader currentVersion ct ++ encAll c rs).length := by
  have := encAll_take_le c rs k
  simp only [offsetOf, List.length_append, fileHeader_length, fileHeaderSize]; omega

theorem take_offsetOf (c : Compression) (ct : Nat) (rs : List GoBytes) (k : Nat) :
    (fileHeader currentVersion ct ++ encAll c rs).take (offsetOf c rs k) =
      fileHeader currentVersion ct ++ encAll c (rs.take k) := by
  have hsp : encAll c rs = encAll c (rs.take k) ++ encAll c (rs.drop k) := by
    rw [← encAll_append, List.take_append_drop]
  rw [hsp, ← List.append_assoc]
  exact List.take_left' (by simp [offsetOf, fileHeader_length, fileHeaderSize])

theorem WInv_seek (c : Compression) (ct : Nat) (rs : List GoBytes) (w : WState) (k : Nat)
    (h : WInv c ct rs w) :
    ∃ w', w.seek (offsetOf c rs k) = .ok w' ∧ WInv c ct (rs.take k) w' := by
  obtain ⟨h1, h2, h3, h4⟩ := h
  have hoc : offsetOf c rs k ≤ w.cur := h1 ▸ Nat.add_le_add_left (encAll_take_le c rs k) _
  have ha : ¬ offsetOf c rs k < fileHeaderSize := by simp [offsetOf]
  have hb : ¬ offsetOf c rs k > w.cur := Nat.not_lt.mpr hoc
  refine ⟨{ w with largest := max w.largest w.cur, cur := offsetOf c rs k }, by simp [WState.seek, ha, hb], ?_⟩
  constructor
  · rfl
  · show w.file.take (offsetOf c rs k) = _
    rw [← take_offsetOf, ← h2, List.take_take, Nat.min_eq_left hoc]
  · exact Nat.le_trans hoc h3
  · exact Nat.le_trans h4 (Nat.le_max_left _ _)

theorem WInv_run (c : Compression) (ct : Nat) (ops : List AOp) :
    ∀ (rs : List GoBytes) (w : WState), WInv c ct rs w →
      WInv c ct (survivors rs ops) (runWriter c w (concretize c rs ops)).1 := by
  induction ops with
  | nil => intro rs w h; exact h
  | cons op ops ih =>
    intro rs w h
    cases op with
    | write r =>
      simp only [concretize, survivors, runWriter_write_fst]
      exact ih _ _ (WInv_write c ct rs w r h)
    | cut k =>
      obtain ⟨w', hs, hi⟩ := WInv_seek c ct rs w k h
      simp only [concretize, survivors, runWriter, hs]
      exact ih _ _ hi

theorem WInv_run_writes (c : Compression) (ct : Nat) (ws : List GoBytes) :
    ∀ (rs : List GoBytes) (w : WState), WInv c ct rs w →
      WInv c ct (rs ++ ws) (runWriter c w (ws.map WOp.write)).1 := by
  induction ws with
  | nil => intro rs w h; rw [List.append_nil]; exact h
  | cons r ws ih =>
    intro rs w h
    rw [List.map_cons, runWriter_write_fst, List.append_cons]
    exact ih _ _ (WInv_write c ct rs w r h)

theorem write_mem_concretize (c : Compression) (r : GoBytes) (ops : List AOp) :
    ∀ rs, WOp.write r ∈ concretize c rs ops → AOp.write r ∈ ops := by
  induction ops with
  | nil => intro rs h; cases h
  | cons op ops ih =>
    intro rs h
    cases op with
    | write r' =>
      rcases List.mem_cons.mp h with h | h
      · cases h; exact List.mem_cons_self
      · exact List.mem_cons_of_mem _ (ih _ h)
    | cut k =>
      rcases List.mem_cons.mp h with h | h
      · cases h
      · exact List.mem_cons_of_mem _ (ih _ h)

theorem WInv_close (c : Compression) (ct : Nat) (rs : List GoBytes) (w : WState) (h : WInv c ct rs w) :
    w.close = fileHeader currentVersion ct ++ encAll c rs ∧ w.cur = w.close.length := by
  obtain ⟨h1, h2, h3, h4⟩ := h
  have hc : w.close = w.file.take w.cur := by
    unfold WState.close
    split
    · rfl
    · rename_i hl
      exact (List.take_of_length_le
        (Nat.le_trans h4 (Nat.max_le.mpr ⟨Nat.le_of_not_lt hl, Nat.le_refl _⟩))).symm
  rw [hc, h2]
  refine ⟨rfl, ?_⟩
  rw [← h2, List.length_take, Nat.min_eq_left h3]

/-- `Close` after any program of writes and cuts leaves the file header and the surviving records, the
cursor at the end; a `cut k` need not name an existing record: `offsetOf c rs k` is a record boundary for
every `k` (the end, from `rs.length` on). -/
theorem close_exact_any (c : Compression) (ct : Nat) (ops : List AOp) :
    let w := (runWriter c (WState.init ct) (concretize c [] ops)).1
    w.close = fileHeader currentVersion ct ++ encAll c (survivors [] ops) ∧ w.cur = w.close.length :=
  WInv_close c ct _ _ (WInv_run c ct ops [] _ (WInv_init c ct))

theorem close_exact (c : Compression) (ct : Nat) (ops : List AOp) (hc : CutsOk [] ops) :
    let w := (runWriter c (WState.init ct) (concretize c [] ops)).1
    w.close = fileHeader currentVersion ct ++ encAll c (survivors [] ops) ∧ w.cur = w.close.length := by
  have _ := hc  -- not used: `offsetOf c rs k` is a record boundary for every `k`
  exact close_exact_any c ct ops

end SST.Proofs
