/-
C12 on the current recordio format: cut files.
A cut file reads as the records wholly inside it, then EOF or unexpected EOF, and random access returns a record iff
all of it is left: the cut theorems of `Proofs/FileFraming` at `isFraming_v4`.  The number of records wholly inside
a cut (`wholeIn`) is bounded by the records and the bytes and grows with the cut (`wholeIn_mono`).
-/
import SST.Spec.RecordIODamage
import SST.Proofs.RecordIO
namespace SST.Proofs
open SST Generated

theorem fileWin_take (R : Bytes) (m : Nat) :
    ∃ j, j ≤ m ∧ (fileWin (R.take m)).bytes = R.take j :=
  ⟨min recordHeaderMax m, Nat.min_le_right _ _, by rw [Buf.fileWin_bytes_eq, List.take_take]⟩

theorem wholeInAux_eq (c : Compression) : ∀ rs b, wholeInAux c rs b = wholeG (encRecord c) rs b := by
  intro rs
  induction rs with
  | nil => intro b; rfl
  | cons r rs ih => intro b; simp only [wholeInAux, wholeG, ih]

theorem wholeInAux_le_budget (c : Compression) (rs : List GoBytes) (b : Nat) : wholeInAux c rs b ≤ b := by
  rw [wholeInAux_eq]
  exact Nat.le_trans (wholeG_le (encRecord_pos c) rs b).1 (List.length_take_le _ _)

theorem wholeInAux_le_length (c : Compression) (rs : List GoBytes) (b : Nat) : wholeInAux c rs b ≤ rs.length := by
  rw [wholeInAux_eq]
  exact (wholeG_le (encRecord_pos c) rs b).2

theorem wholeIn_small (c : Compression) (rs : List GoBytes) (n : Nat) (h : n < fileHeaderSize) :
    wholeIn c rs n = 0 := by
  rw [wholeIn, Nat.sub_eq_zero_of_le (Nat.le_of_lt h)]
  exact Nat.le_zero.mp (wholeInAux_le_budget c rs 0)

theorem wholeInAux_mono (c : Compression) (rs : List GoBytes) (b b' : Nat) (h : b ≤ b') :
    wholeInAux c rs b ≤ wholeInAux c rs b' := by
  induction rs generalizing b b' with
  | nil => simp [wholeInAux]
  | cons r rs ih =>
    simp only [wholeInAux]
    by_cases h1 : (encRecord c r).length ≤ b
    · rw [if_pos h1, if_pos (Nat.le_trans h1 h)]
      exact Nat.add_le_add_left (ih _ _ (Nat.sub_le_sub_right h _)) 1
    · rw [if_neg h1]; exact Nat.zero_le _

theorem wholeInAux_all (c : Compression) (rs : List GoBytes) (b : Nat) (h : (encAll c rs).length ≤ b) :
    wholeInAux c rs b = rs.length := by
  induction rs generalizing b with
  | nil => simp [wholeInAux]
  | cons r rs ih =>
    rw [encAll_cons, List.length_append] at h
    simp only [wholeInAux]
    rw [if_pos (Nat.le_trans (Nat.le_add_right _ _) h), ih _ (Nat.le_sub_of_add_le (Nat.add_comm _ _ ▸ h))]
    exact Nat.add_comm 1 _

theorem wholeIn_le_length (c : Compression) (rs : List GoBytes) (n : Nat) : wholeIn c rs n ≤ rs.length :=
  wholeInAux_le_length c rs _

theorem wholeIn_mono (c : Compression) (rs : List GoBytes) (n n' : Nat) (h : n ≤ n') :
    wholeIn c rs n ≤ wholeIn c rs n' :=
  wholeInAux_mono c rs _ _ (Nat.sub_le_sub_right h _)

/-- the first `b` bytes of the records: the whole records among them, then a stump at which the reader runs out -/
theorem encAll_take (c : Compression) (rs : List GoBytes) (hf : ∀ r ∈ rs, FitsRec c r) (b : Nat) :
    ∃ tail, (encAll c rs).take b = encAll c (rs.take (wholeInAux c rs b)) ++ tail ∧ RanOut (readNextS c tail) :=
  wholeInAux_eq c rs b ▸
    take_ranOut (readNextS_nil c) (fun r m hf hm => readNextS_trunc_err c r hf m hm) rs hf b

theorem openReadAll_of_ok (c : Compression) (f : Bytes) (p : Nat × Nat) (h : parseFileHeader f = .ok p) :
    openReadAll c f = readAll c f := by
  unfold openReadAll; rw [h]

theorem openReadAll_of_error (c : Compression) (f : Bytes) (e : Err) (h : parseFileHeader f = .error e) :
    openReadAll c f = ([], e) := by
  unfold openReadAll; rw [h]

theorem openReadAll_hdr (c : Compression) (ct : Nat) (hct : ct ≤ maxCompression) (rest : Bytes) :
    openReadAll c (fileHeader currentVersion ct ++ rest) =
      readAllG (readNextS c) ((fileHeader currentVersion ct ++ rest).length + 1) rest :=
  (openReadAll_of_ok c _ _ (file_header_accepted currentVersion ct rest ⟨by decide, Nat.le_refl _⟩ hct)).trans
    (readAll_hdr c ct rest)

theorem openReadAll_short (c : Compression) (f : Bytes) (h : f.length < fileHeaderSize) :
    ∃ e, (e = .eof ∨ e = .unexpectedEof) ∧ openReadAll c f = ([], e) := by
  rcases parseFileHeader_short f h with he | he
  · exact ⟨_, Or.inl rfl, openReadAll_of_error c f _ he⟩
  · exact ⟨_, Or.inr rfl, openReadAll_of_error c f _ he⟩

theorem truncate_readAt (c : Compression) (ct : Nat) (rs : List GoBytes) (k : Nat) (hk : k < rs.length)
    (hl : LawfulC c) (hf : ∀ r ∈ rs, FitsRec c r) (n : Nat) :
    (offsetOf c rs (k + 1) ≤ n →
      readAt c ((fileHeader currentVersion ct ++ encAll c rs).take n) (offsetOf c rs k) = .ok rs[k]) ∧
    (n < offsetOf c rs (k + 1) →
      ∃ e, readAt c ((fileHeader currentVersion ct ++ encAll c rs).take n) (offsetOf c rs k) = .error e) :=
  (isFraming_v4 c fun _ h => h).at_offs_take hl (fileHeader currentVersion ct) rs k hk hf n

/-- `truncate_prefix` with the error kind: a cut file ends with EOF or unexpected EOF, nothing else -/
theorem truncate_prefix_err (c : Compression) (ct : Nat) (rs : List GoBytes)
    (hl : LawfulC c) (hf : ∀ r ∈ rs, FitsRec c r) (hct : ct ≤ maxCompression) (n : Nat) :
    ∃ e, (e = .eof ∨ e = .unexpectedEof) ∧
      openReadAll c ((fileHeader currentVersion ct ++ encAll c rs).take n)
        = (rs.take (wholeIn c rs n), e) := by
  have := (isFraming_v4 c fun _ h => h).open_take hl _ (fileHeader currentVersion ct) (openReadAll_short c)
    (openReadAll_hdr c ct hct) rs hf n
  rw [wholeIn, wholeInAux_eq]
  rwa [List.map_id'] at this

theorem truncate_prefix (c : Compression) (ct : Nat) (rs : List GoBytes)
    (hl : LawfulC c) (hf : ∀ r ∈ rs, FitsRec c r) (hct : ct ≤ maxCompression) (n : Nat) :
    ∃ e, openReadAll c ((fileHeader currentVersion ct ++ encAll c rs).take n)
      = (rs.take (wholeIn c rs n), e) := by
  obtain ⟨e, _, he⟩ := truncate_prefix_err c ct rs hl hf hct n
  exact ⟨e, he⟩

end SST.Proofs
