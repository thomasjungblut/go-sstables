/-
Round trips of the protobuf wire encoding of the two messages in the sstable files:
`decIndexEntry ∘ encIndexEntry` and `decMeta ∘ encMeta` (up to nil/empty normalisation of keys).  Last, what the
single coders (`pbTag`, `pbVarint`, `pbBytesField`, `decMeta`) do on short or empty input, and `pbVarint` on any
varint.
-/
import SST.Model.Proto
import SST.Proofs.Varint
namespace SST.Proofs.Pb
open SST

/-- all numeric fields fit their wire types, key lengths fit 64 bits -/
def MetaFits (m : Meta) : Prop :=
  m.numRecords < 2^64 ∧ (m.minKey.getD []).length < 2^64 ∧ (m.maxKey.getD []).length < 2^64 ∧
  m.dataBytes < 2^64 ∧ m.indexBytes < 2^64 ∧ m.totalBytes < 2^64 ∧ m.version < 2^32 ∧
  m.skippedRecords < 2^64 ∧ m.nullValues < 2^64

theorem pbVarint_enc (n : Nat) (rest : Bytes) (hn : n < 2 ^ 64) :
    pbVarint (uvarintEnc n ++ rest) = .ok (n, (uvarintEnc n).length) := by
  simp [pbVarint, uvarintDec_enc n rest hn]

/-- the fields a varint / bytes field contributes to the decoded list -/
def optV (num v : Nat) : PbFields := if v = 0 then [] else [(num, .varint v)]
def optB (num : Nat) (b : Bytes) : PbFields := if b.length = 0 then [] else [(num, .bytes b)]

theorem aux_nil (sch : Nat → Option PbKind) (fuel : Nat) (acc : PbFields) (hf : 0 < fuel) :
    pbDecodeAux sch fuel [] acc = (acc, none) := by
  cases fuel with
  | zero => omega
  | succ f => simp [pbDecodeAux]

theorem aux_varint (sch : Nat → Option PbKind) (num v : Nat) (rest : Bytes) (acc : PbFields) (fuel : Nat)
    (hs : sch num = some .u64 ∧ v < 2 ^ 64 ∨ sch num = some .u32 ∧ v < 2 ^ 32)
    (h1 : 1 ≤ num) (h2 : num ≤ 536870911) :
    pbDecodeAux sch (fuel + 1) (pbTag num 0 ++ uvarintEnc v ++ rest) acc =
      pbDecodeAux sch fuel rest (acc ++ [(num, .varint v)]) := by
  have ht : (num * 8 + 0) / 8 = num := by omega
  have hw : (num * 8 + 0) % 8 = 0 := by omega
  have hne : ¬ (pbTag num 0 ++ (uvarintEnc v ++ rest)).length = 0 := by
    have := uvarintEnc_len_pos (num * 8 + 0)
    rw [List.length_append, pbTag]; omega
  have h3 : ¬ (num < 1 ∨ num > 536870911) := by omega
  rw [List.append_assoc, pbDecodeAux, if_neg hne, pbTag, pbVarint_enc _ _ (by omega)]
  simp only [ht, hw, List.drop_left, if_neg h3]
  rcases hs with ⟨hs, hv⟩ | ⟨hs, hv⟩
  · simp only [hs, pbVarint_enc _ _ hv, List.drop_left]
    rfl
  · simp only [hs, pbVarint_enc _ _ (Nat.lt_trans hv (by decide)), List.drop_left, Nat.mod_eq_of_lt hv]
    rfl

/-- one iteration on a `bytes` field whose length prefix may be anything -/
theorem aux_string (sch : Nat → Option PbKind) (num : Nat) (rest : Bytes) (acc : PbFields) (fuel : Nat)
    (hs : sch num = some .bytes) (h1 : 1 ≤ num) (h2 : num ≤ 536870911) :
    pbDecodeAux sch (fuel + 1) (pbTag num 2 ++ rest) acc =
      match pbVarint rest with
      | .error e => (acc, some e)
      | .ok (len, m) =>
        if len > rest.length - m then (acc, some .other)
        else pbDecodeAux sch fuel (rest.drop (m + len)) (acc ++ [(num, .bytes ((rest.drop m).take len))]) := by
  have ht : (num * 8 + 2) / 8 = num := by omega
  have hw : (num * 8 + 2) % 8 = 2 := by omega
  have hne : ¬ (pbTag num 2 ++ rest).length = 0 := by
    have := uvarintEnc_len_pos (num * 8 + 2)
    rw [List.length_append, pbTag]; omega
  have h3 : ¬ (num < 1 ∨ num > 536870911) := by omega
  rw [pbDecodeAux, if_neg hne, pbTag, pbVarint_enc _ _ (by omega)]
  simp only [ht, hw, hs, List.drop_left, if_neg h3]
  rfl

theorem aux_bytes (sch : Nat → Option PbKind) (num : Nat) (b rest : Bytes) (acc : PbFields) (fuel : Nat)
    (hs : sch num = some .bytes) (h1 : 1 ≤ num) (h2 : num ≤ 536870911) (hb : b.length < 2 ^ 64) :
    pbDecodeAux sch (fuel + 1) (pbTag num 2 ++ uvarintEnc b.length ++ b ++ rest) acc =
      pbDecodeAux sch fuel rest (acc ++ [(num, .bytes b)]) := by
  rw [List.append_assoc, List.append_assoc, aux_string sch num _ acc fuel hs h1 h2, pbVarint_enc _ _ hb]
  simp only []
  rw [List.length_append, Nat.add_sub_cancel_left, List.length_append,
    if_neg (Nat.not_lt.mpr (Nat.le_add_right _ _)), ← List.drop_drop, List.drop_left, List.drop_left, List.take_left]

/-- with enough fuel, decoding `b` on top of `acc` yields `r` -/
def Dec (sch : Nat → Option PbKind) (b : Bytes) (acc : PbFields) (r : PbFields × Option Err) : Prop :=
  ∀ fuel, b.length < fuel → pbDecodeAux sch fuel b acc = r

theorem dec_nil (sch : Nat → Option PbKind) (acc : PbFields) : Dec sch [] acc (acc, none) :=
  fun fuel hf => aux_nil sch fuel acc (by simpa using hf)

/-- what one iteration answers at once -/
theorem Dec.now {sch : Nat → Option PbKind} {b : Bytes} {acc : PbFields} {r : PbFields × Option Err}
    (h : ∀ fuel, pbDecodeAux sch (fuel + 1) b acc = r) : Dec sch b acc r := fun fuel hf => by
  cases fuel with
  | zero => exact absurd hf (Nat.not_lt_zero _)
  | succ f => exact h f

theorem Dec.next {sch : Nat → Option PbKind} {b rest : Bytes} {acc acc' : PbFields} {r : PbFields × Option Err}
    (hl : rest.length < b.length) (hstep : ∀ fuel, pbDecodeAux sch (fuel + 1) b acc = pbDecodeAux sch fuel rest acc')
    (h : Dec sch rest acc' r) : Dec sch b acc r := fun fuel hf => by
  cases fuel with
  | zero => exact absurd hf (Nat.not_lt_zero _)
  | succ f => rw [hstep f]; exact h f (Nat.lt_of_lt_of_le hl (Nat.le_of_lt_succ hf))

theorem Dec.step {sch : Nat → Option PbKind} {F rest : Bytes} {acc acc' : PbFields} {r : PbFields × Option Err}
    (hF : F ≠ []) (hstep : ∀ fuel, pbDecodeAux sch (fuel + 1) (F ++ rest) acc = pbDecodeAux sch fuel rest acc')
    (h : Dec sch rest acc' r) : Dec sch (F ++ rest) acc r :=
  Dec.next (by rw [List.length_append]; exact Nat.lt_add_of_pos_left (List.length_pos_iff.mpr hF)) hstep h

theorem dec_varint {sch : Nat → Option PbKind} {num v : Nat} {rest : Bytes} {acc : PbFields}
    {r : PbFields × Option Err}
    (hs : sch num = some .u64 ∧ v < 2 ^ 64 ∨ sch num = some .u32 ∧ v < 2 ^ 32)
    (h1 : 1 ≤ num) (h2 : num ≤ 536870911)
    (h : Dec sch rest (acc ++ optV num v) r) : Dec sch (pbVarintField num v ++ rest) acc r := by
  by_cases h0 : v = 0
  · simp only [pbVarintField, optV, h0, if_true, List.nil_append, List.append_nil] at h ⊢
    exact h
  · simp only [pbVarintField, optV, h0, if_false] at h ⊢
    exact Dec.step (by simp [uvarintEnc_ne_nil]) (fun f => aux_varint sch num v rest acc f hs h1 h2) h

/-- a length-delimited field that is written whatever its content (a member of a repeated field or of a oneof) -/
theorem dec_lenField {sch : Nat → Option PbKind} {num : Nat} {b rest : Bytes} {acc : PbFields}
    {r : PbFields × Option Err}
    (hs : sch num = some .bytes) (h1 : 1 ≤ num) (h2 : num ≤ 536870911) (hb : b.length < 2 ^ 64)
    (h : Dec sch rest (acc ++ [(num, .bytes b)]) r) :
    Dec sch (pbTag num 2 ++ uvarintEnc b.length ++ b ++ rest) acc r :=
  Dec.step (by simp [uvarintEnc_ne_nil]) (fun f => aux_bytes sch num b rest acc f hs h1 h2 hb) h

theorem dec_bytes {sch : Nat → Option PbKind} {num : Nat} {b rest : Bytes} {acc : PbFields}
    {r : PbFields × Option Err}
    (hs : sch num = some .bytes) (h1 : 1 ≤ num) (h2 : num ≤ 536870911) (hb : b.length < 2 ^ 64)
    (h : Dec sch rest (acc ++ optB num b) r) : Dec sch (pbBytesField num b ++ rest) acc r := by
  by_cases h0 : b.length = 0
  · simp only [pbBytesField, optB, h0, if_true, List.nil_append, List.append_nil] at h ⊢
    exact h
  · simp only [pbBytesField, optB, h0, if_false] at h ⊢
    exact dec_lenField hs h1 h2 hb h

theorem dec_pbDecode {sch : Nat → Option PbKind} {b : Bytes} {r : PbFields × Option Err}
    (h : Dec sch b [] r) : pbDecode sch b = r := h _ (Nat.lt_succ_self _)

/-- the last occurrence wins: a field list is searched from its end -/
theorem find_append_optV (fs : PbFields) (num v k : Nat) :
    (fs ++ optV num v).reverse.find? (·.1 == k) =
      if num = k ∧ v ≠ 0 then some (num, .varint v) else fs.reverse.find? (·.1 == k) := by
  by_cases h0 : v = 0 <;> by_cases hk : num = k <;> simp [optV, h0, hk]

theorem find_append_optB (fs : PbFields) (num : Nat) (b : Bytes) (k : Nat) :
    (fs ++ optB num b).reverse.find? (·.1 == k) =
      if num = k ∧ b.length ≠ 0 then some (num, .bytes b) else fs.reverse.find? (·.1 == k) := by
  by_cases h0 : b.length = 0 <;> by_cases hk : num = k <;> simp [optB, h0, hk]

theorem find_optB (num : Nat) (b : Bytes) (k : Nat) :
    (optB num b).reverse.find? (·.1 == k) =
      if num = k ∧ b.length ≠ 0 then some (num, .bytes b) else none :=
  find_append_optB [] num b k

theorem pbGetVarint_optV (fs : PbFields) (num v k : Nat) :
    pbGetVarint (fs ++ optV num v) k = if num = k ∧ v ≠ 0 then v else pbGetVarint fs k := by
  unfold pbGetVarint
  rw [find_append_optV]
  by_cases h : num = k ∧ v ≠ 0
  · rw [if_pos h, if_pos h]
  · rw [if_neg h, if_neg h]

theorem pbGetVarint_optB (fs : PbFields) (num : Nat) (b : Bytes) (k : Nat) (h : num ≠ k) :
    pbGetVarint (fs ++ optB num b) k = pbGetVarint fs k := by
  unfold pbGetVarint
  rw [find_append_optB, if_neg (fun h' => h h'.1)]

theorem pbGetBytes_optV (fs : PbFields) (num v k : Nat) (h : num ≠ k) :
    pbGetBytes (fs ++ optV num v) k = pbGetBytes fs k := by
  unfold pbGetBytes
  rw [find_append_optV, if_neg (fun h' => h h'.1)]

theorem pbGetBytes_optB (fs : PbFields) (num : Nat) (b : Bytes) (k : Nat) :
    pbGetBytes (fs ++ optB num b) k = if num = k ∧ b.length ≠ 0 then some b else pbGetBytes fs k := by
  unfold pbGetBytes
  rw [find_append_optB]
  by_cases h : num = k ∧ b.length ≠ 0
  · rw [if_pos h, if_pos h]; exact if_neg h.2
  · rw [if_neg h, if_neg h]

theorem pbGetVarint_nil (k : Nat) : pbGetVarint [] k = 0 := rfl

theorem pbGetBytes_nil (k : Nat) : pbGetBytes [] k = none := rfl

/-- an omitted zero reads back as zero -/
theorem ite_ne_zero (v : Nat) : (if ¬ v = 0 then v else 0) = v :=
  (ite_not ..).trans (ite_eq_right_iff.2 Eq.symm)

/-- an omitted empty key reads back as nil -/
theorem ite_length_ne_zero (b : Bytes) : (if ¬ b.length = 0 then some b else none) = normKey b :=
  ite_not ..

-- the leading `[] ++` gives every field the form `fs ++ opt…` that the `pbGet…_opt…` lemmas rewrite
def indexFields (key : Bytes) (off sum : Nat) : PbFields :=
  [] ++ optB 1 key ++ optV 2 off ++ optV 3 sum

theorem dec_encIndexEntry (key : Bytes) (off sum : Nat)
    (hk : key.length < 2^64) (ho : off < 2^64) (hs : sum < 2^64) :
    Dec indexEntrySchema (encIndexEntry key off sum) [] (indexFields key off sum, none) := by
  have e : encIndexEntry key off sum =
      pbBytesField 1 key ++ (pbVarintField 2 off ++ (pbVarintField 3 sum ++ [])) := by
    simp [encIndexEntry]
  rw [e]
  apply dec_bytes rfl (by omega) (by omega) hk
  apply dec_varint (.inl ⟨rfl, ho⟩) (by omega) (by omega)
  apply dec_varint (.inl ⟨rfl, hs⟩) (by omega) (by omega)
  exact dec_nil _ _

theorem decIndexEntry_enc (key : Bytes) (off sum : Nat)
    (hk : key.length < 2^64) (ho : off < 2^64) (hs : sum < 2^64) :
    decIndexEntry (encIndexEntry key off sum) =
      ({ key := normKey key, valueOffset := off, checksum := sum }, none) := by
  simp only [decIndexEntry, dec_pbDecode (dec_encIndexEntry key off sum hk ho hs), indexEntryOf, indexFields,
    pbGetVarint_optV, pbGetVarint_optB, pbGetBytes_optV, pbGetBytes_optB, pbGetVarint_nil, pbGetBytes_nil, ne_eq,
    Nat.reduceEqDiff, not_false_eq_true, false_and, true_and, if_false, ite_ne_zero, ite_length_ne_zero]

def metaFields (m : Meta) : PbFields :=
  [] ++ optV 1 m.numRecords ++ optB 2 (m.minKey.getD []) ++ optB 3 (m.maxKey.getD []) ++
  optV 4 m.dataBytes ++ optV 5 m.indexBytes ++ optV 6 m.totalBytes ++
  optV 7 m.version ++ optV 8 m.skippedRecords ++ optV 9 m.nullValues

theorem dec_encMeta (m : Meta) (h : MetaFits m) :
    Dec metaSchema (encMeta m) [] (metaFields m, none) := by
  obtain ⟨h1, h2, h3, h4, h5, h6, h7, h8, h9⟩ := h
  have e : encMeta m =
      pbVarintField 1 m.numRecords ++ (pbBytesField 2 (m.minKey.getD []) ++ (pbBytesField 3 (m.maxKey.getD []) ++
      (pbVarintField 4 m.dataBytes ++ (pbVarintField 5 m.indexBytes ++ (pbVarintField 6 m.totalBytes ++
      (pbVarintField 7 m.version ++ (pbVarintField 8 m.skippedRecords ++ (pbVarintField 9 m.nullValues ++ [])))))))) := by
    simp [encMeta]
  rw [e]
  apply dec_varint (.inl ⟨rfl, h1⟩) (by omega) (by omega)
  apply dec_bytes rfl (by omega) (by omega) h2
  apply dec_bytes rfl (by omega) (by omega) h3
  apply dec_varint (.inl ⟨rfl, h4⟩) (by omega) (by omega)
  apply dec_varint (.inl ⟨rfl, h5⟩) (by omega) (by omega)
  apply dec_varint (.inl ⟨rfl, h6⟩) (by omega) (by omega)
  apply dec_varint (.inr ⟨rfl, h7⟩) (by omega) (by omega)
  apply dec_varint (.inl ⟨rfl, h8⟩) (by omega) (by omega)
  apply dec_varint (.inl ⟨rfl, h9⟩) (by omega) (by omega)
  exact dec_nil _ _

/-- every field is found under its own number -/
theorem metaOfFields_metaFields (m : Meta) : metaOfFields (metaFields m) = m.norm := by
  simp only [metaOfFields, metaFields, pbGetVarint_optV, pbGetVarint_optB, pbGetBytes_optV, pbGetBytes_optB,
    pbGetVarint_nil, pbGetBytes_nil, ne_eq, Nat.reduceEqDiff, not_false_eq_true, false_and, true_and, if_false,
    ite_ne_zero, ite_length_ne_zero]
  rfl

theorem decMeta_enc (m : Meta) (h : MetaFits m) : decMeta (encMeta m) = .ok m.norm := by
  simp only [decMeta, dec_pbDecode (dec_encMeta m h), metaOfFields_metaFields]

theorem pbVarint_zero (l : Bytes) : pbVarint (0 :: l) = .ok (0, 1) := by
  simp [pbVarint, uvarintDec_zero]

theorem tag_len (num wt : Nat) (h : num * 8 + wt < 128) : (pbTag num wt).length = 1 := by
  simp [pbTag, uvarintEnc_lt _ h]

theorem pbBytesField_len_le (num : Nat) (b : Bytes) (hn : num * 8 + 2 < 128) (hb : b.length < 2 ^ 64) :
    (pbBytesField num b).length ≤ 11 + b.length := by
  unfold pbBytesField
  split
  · simp
  · have := uvarintEnc_len64 b.length hb
    simp only [List.length_append, tag_len num 2 hn]; omega

theorem decMeta_nil : decMeta [] = .ok {} := by
  simp [decMeta, pbDecode, pbDecodeAux, metaOfFields, pbGetVarint, pbGetBytes]

theorem ne_nil_of_decMeta {m : Bytes} {md : Meta} (h : decMeta m = .ok md) (hv : md.version ≠ 0) : m ≠ [] := by
  rintro rfl
  rw [decMeta_nil] at h
  exact hv (by rw [← Except.ok.inj h])

end SST.Proofs.Pb

namespace SST.Proofs.CompDir.Pad

/-- `protowire.ConsumeVarint` on the bytes of any varint, canonical or not -/
theorem pbVarint_isVar (V : Bytes) (hV : IsVar V) (rest : Bytes) :
    pbVarint (V ++ rest) = .error .other ∨ pbVarint (V ++ rest) = .ok (vval V, V.length) := by
  unfold pbVarint uvarintDec
  rcases uvarintDecAux_isVar V hV rest 0 0 0 with ⟨e, h⟩ | h
  · rw [h]; exact .inl rfl
  · rw [h]; simp

end SST.Proofs.CompDir.Pad
