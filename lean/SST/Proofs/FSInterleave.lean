/-
L6-fs, interleaved (client ∥ flusher ∥ compactor): the structural invariant `S` — the disk as a function of the
threads' progress — and what it implies: the disk is well-formed and serves the write store's durable part over the
store being flushed over the live tables.  An operation boundary `QW` of the sequential model, of an open database, is
`S` at a configuration, in both directions (`cfgOf`, `S_of_QW`, `QW.of_S`): that is what makes its disk well-formed and
says what it serves (`QW.diskOk`, `QW.serves`), where the interleaved runs start (`start_SG`), and how the blocks of a
sequential step become runs whose last configuration is the next boundary (FSSched.lean).  The boundary's side, from
`QW.of_S` on, is in the namespace of `QW`, `SST.Proofs.FS`.
-/
import SST.Model.FSInterleave
import SST.Proofs.FSSession
namespace SST.Proofs.FSI
open SST SST.DBM SST.FS SST.FSI SST.Proofs.DB SST.Proofs.FS

/-- the flusher's WAL file, until it is unlinked (its last call) -/
def fFile (c : Cfg) : List WalFile :=
  match c.fl with
  | some j => if j.stage ≤ 5 then [{ num := j.on, recs := j.ro }] else []
  | none => []

/-- the file the rotation in progress has created -/
def nextFile (c : Cfg) : List WalFile :=
  match c.pc with
  | .rot2 => [{ num := c.cur + 1, header := false }]
  | .rot3 => [{ num := c.cur + 1 }]
  | _ => []

/-- the flusher's table directory after `j.stage` of its calls (`flushCalls`) -/
def fDir (j : FJob) : List (Nat × TableDir) :=
  match j.stage with
  | 0 => []
  | 1 => [(j.g, .part false)]
  | 2 => [(j.g, .complete [])]
  | 3 => [(j.g, .part false)]
  | 4 => [(j.g, .part false)]
  | _ => [(j.g, .complete j.r)]

def fTables (c : Cfg) : List (Nat × TableDir) :=
  match c.fl with
  | some j => fDir j
  | none => []

def selState (sub : Nat) (J : Layer) (t : Tbl) : TableDir :=
  match sub with
  | 0 => .complete t.cells
  | 1 => .complete J
  | 2 => .part true
  | _ => .part false

/-- the inputs of a reflecting compaction that are still (partly) there -/
def selDirs (ins : List Tbl) (j sub : Nat) (J : Layer) : List (Nat × TableDir) :=
  match ins.drop j with
  | [] => []
  | t :: rest => (t.gen, selState sub J t) :: encT rest

/-- the directories of the live tables -/
def kTables (c : Cfg) : List (Nat × TableDir) :=
  match c.kj with
  | .reflecting npre nsel _ j sub J =>
    encT (c.tables.take npre) ++ selDirs (kIns c.tables npre nsel) j sub J ++ encT (c.tables.drop (npre + nsel))
  | _ => encT c.tables

def kComps (c : Cfg) : List CompDir :=
  match c.kj with
  | .idle => []
  | .merging npre nsel cells st =>
    (match st with
     | 0 => []
     | 1 => [{ id := kId }]
     | 2 => [{ id := kId }]
     | 3 => [{ id := kId, out := .complete cells }]
     | 4 => [{ id := kId, out := .complete cells }]
     | _ => [{ id := kId, out := .complete cells, flag := some (kMeta c.tables npre nsel) }])
  | .reflecting npre nsel cells _ _ _ => [{ id := kId, out := .complete cells, flag := some (kMeta c.tables npre nsel) }]

def curFile (c : Cfg) : WalFile := { num := c.cur, recs := c.rc, torn := c.tn }

/-- the store the flusher is writing (it is no longer the write store and not yet a table) -/
def fStore (c : Cfg) : Layer :=
  match c.fl with
  | some j => j.r
  | none => []

/-- the process memory as an L6 state (for `served`) -/
def memState (c : Cfg) : State := { w := c.w, r := fStore c, tables := c.tables, gen := c.gen, isOpen := true }

/-- well-formedness of the running compaction -/
def KWf (c : Cfg) : Prop :=
  match c.kj with
  | .idle => True
  | .merging npre nsel cells st =>
    npre + nsel ≤ c.tables.length ∧ 1 ≤ nsel ∧ st ≤ 5 ∧ cells = mergeRun (kIns c.tables npre nsel) (npre == 0)
  | .reflecting npre nsel cells j sub _ =>
    npre + nsel ≤ c.tables.length ∧ 1 ≤ nsel ∧ cells = mergeRun (kIns c.tables npre nsel) (npre == 0) ∧
      j ≤ nsel ∧ sub ≤ 3 ∧ (j = nsel → sub = 0) ∧ c.pc = .idle

/-- THE INVARIANT: the disk as a function of the three threads' progress, plus bookkeeping -/
structure S (c : Cfg) : Prop where
  tbl : c.d.tables = kTables c ++ fTables c
  comps : c.d.comps = kComps c
  walDir : c.d.walDir = true
  wal : c.d.wal = c.junk ++ fFile c ++ [curFile c] ++ nextFile c
  gensS : (c.tables.map (·.gen)).Pairwise (· < ·)
  gensLe : ∀ t ∈ c.tables, t.gen ≤ c.gen
  fwf : ∀ j, c.fl = some j → j.g = c.gen ∧ (∀ t ∈ c.tables, t.gen < j.g) ∧ applyMuts [] j.ro = j.r ∧ j.stage ≤ 6 ∧
    (∀ m ∈ j.ro, m.ok = true)
  jk : Junk c.junk
  nums : ((c.junk ++ fFile c ++ [curFile c]).map (·.num)).Pairwise (· < ·)
  rcOk : ∀ m ∈ c.rc, m.ok = true
  qOk : ∀ m ∈ c.queue, m.ok = true
  wq : applyMuts [] (c.rc ++ c.queue) = c.w
  tnq : c.tn = true → c.queue ≠ []
  pcq : (c.pc = .rot1 ∨ c.pc = .rot2 ∨ c.pc = .rot3) → c.queue = [] ∧ c.tn = false
  kwf : KWf c

/-- `S` does not look at the program or at the ghost fields -/
theorem S_ghost {c : Cfg} (h : S c) {P : List Op} {H : List Mutation} {a m : Nat} :
    S { c with prog := P, hist := H, acked := a, mark := m } :=
  ⟨h.tbl, h.comps, h.walDir, h.wal, h.gensS, h.gensLe, h.fwf, h.jk, h.nums, h.rcOk, h.qOk, h.wq, h.tnq, h.pcq, h.kwf⟩

theorem KWf.merging {c : Cfg} (h : KWf c) {npre nsel : Nat} {cells : Layer} {st : Nat}
    (hk : c.kj = .merging npre nsel cells st) :
    npre + nsel ≤ c.tables.length ∧ 1 ≤ nsel ∧ st ≤ 5 ∧ cells = mergeRun (kIns c.tables npre nsel) (npre == 0) := by
  unfold KWf at h
  rwa [hk] at h

theorem KWf.reflecting {c : Cfg} (h : KWf c) {npre nsel : Nat} {cells : Layer} {j sub : Nat} {J : Layer}
    (hk : c.kj = .reflecting npre nsel cells j sub J) :
    npre + nsel ≤ c.tables.length ∧ 1 ≤ nsel ∧ cells = mergeRun (kIns c.tables npre nsel) (npre == 0) ∧
      j ≤ nsel ∧ sub ≤ 3 ∧ (j = nsel → sub = 0) ∧ c.pc = .idle := by
  unfold KWf at h
  rwa [hk] at h

theorem split3 (ts : List Tbl) (a n : Nat) :
    ts = ts.take a ++ kIns ts a n ++ ts.drop (a + n) := by
  unfold kIns
  rw [List.append_assoc, ← List.drop_drop, List.take_append_drop, List.take_append_drop]

theorem kIns_length (ts : List Tbl) (a n : Nat) (h : a + n ≤ ts.length) : (kIns ts a n).length = n := by
  unfold kIns
  rw [List.length_take, List.length_drop]
  exact Nat.min_eq_left (Nat.le_sub_of_add_le' h)

theorem kIns_append (ts x : List Tbl) (a n : Nat) (h : a + n ≤ ts.length) : kIns (ts ++ x) a n = kIns ts a n := by
  unfold kIns
  rw [List.drop_append_of_le_length (Nat.le_trans (Nat.le_add_right a n) h),
    List.take_append_of_le_length (by rw [List.length_drop]; exact Nat.le_sub_of_add_le' h)]

theorem kMeta_append (ts x : List Tbl) (a n : Nat) (h : a + n ≤ ts.length) : kMeta (ts ++ x) a n = kMeta ts a n := by
  unfold kMeta; rw [kIns_append ts x a n h]

theorem gens_split {pre mid post : List Tbl} (h : ((pre ++ mid ++ post).map (·.gen)).Pairwise (· < ·)) :
    (∀ a ∈ pre, ∀ b ∈ mid, a.gen < b.gen) ∧ (∀ a ∈ pre ++ mid, ∀ b ∈ post, a.gen < b.gen) :=
  ⟨((sortedBy_append _).1 ((sortedBy_append _).1 h).1).2.2, ((sortedBy_append _).1 h).2.2⟩

theorem selDirs_zero (ins : List Tbl) (j : Nat) (J : Layer) : selDirs ins j 0 J = encT (ins.drop j) := by
  unfold selDirs
  cases ins.drop j with
  | nil => rfl
  | cons t rest => rfl

theorem selDirs_cons (ins : List Tbl) (j sub : Nat) (J : Layer) (t : Tbl) (ht : ins[j]? = some t) :
    selDirs ins j sub J = (t.gen, selState sub J t) :: encT (ins.drop (j + 1)) := by
  unfold selDirs
  rw [drop_getElem? ht]

theorem keys_selDirs (ins : List Tbl) (j sub : Nat) (J : Layer) :
    (selDirs ins j sub J).map (·.1) = (ins.drop j).map (·.gen) := by
  unfold selDirs
  cases ins.drop j with
  | nil => rfl
  | cons t rest => simp [keys_encT]

theorem keys_kTables_sub (c : Cfg) : ((kTables c).map (·.1)).Sublist (c.tables.map (·.gen)) := by
  unfold kTables
  cases hk : c.kj with
  | idle => simp only [keys_encT]; exact List.Sublist.refl _
  | merging => simp only [keys_encT]; exact List.Sublist.refl _
  | reflecting npre nsel cells j sub J =>
    simp only [List.map_append, keys_encT, keys_selDirs]
    conv => rhs; rw [split3 c.tables npre nsel]
    simp only [List.map_append]
    exact List.Sublist.append (List.Sublist.append (List.Sublist.refl _) (List.Sublist.map _ (List.drop_sublist _ _)))
      (List.Sublist.refl _)

/-- the flusher's table directory by stage: until its last write it shows nothing (unfinished, or the empty legacy
table the writer's first files make), from then on the store -/
theorem fDir_stage (j : FJob) :
    (j.stage < 5 ∧ (fDir j = [] ∨ fDir j = [(j.g, .part false)] ∨ fDir j = [(j.g, .complete [])])) ∨
      (5 ≤ j.stage ∧ fDir j = [(j.g, .complete j.r)]) := by
  unfold fDir
  rcases j.stage with _ | _ | _ | _ | _ | n
  · exact .inl ⟨by omega, .inl rfl⟩
  · exact .inl ⟨by omega, .inr (.inl rfl)⟩
  · exact .inl ⟨by omega, .inr (.inr rfl)⟩
  · exact .inl ⟨by omega, .inr (.inl rfl)⟩
  · exact .inl ⟨by omega, .inr (.inl rfl)⟩
  · exact .inr ⟨by omega, rfl⟩

theorem fTables_shape (c : Cfg) :
    fTables c = [] ∨ ∃ j st, c.fl = some j ∧ fTables c = [(j.g, st)] ∧ isPartMeta st = false := by
  unfold fTables
  cases c.fl with
  | none => exact .inl rfl
  | some j =>
    rcases fDir_stage j with ⟨_, h | h | h⟩ | ⟨_, h⟩
    · exact .inl h
    all_goals exact .inr ⟨j, _, rfl, h, rfl⟩

theorem fTables_gt {c : Cfg} (h : S c) : ∀ p ∈ fTables c, ∀ t ∈ c.tables, t.gen < p.1 := by
  intro p hp t ht
  rcases fTables_shape c with hf | ⟨j, st, hfl, hf, _⟩ <;> rw [hf] at hp
  · cases hp
  · rw [List.mem_singleton.1 hp]
    exact (h.fwf j hfl).2.1 t ht

theorem kTables_lt {c : Cfg} (h : S c) (j : FJob) (hfl : c.fl = some j) : ∀ p ∈ kTables c, p.1 < j.g := by
  intro p hp
  obtain ⟨t, ht, he⟩ := List.mem_map.1 ((keys_kTables_sub c).subset (List.mem_map.2 ⟨p, hp, rfl⟩))
  rw [← he]
  exact (h.fwf j hfl).2.1 t ht

/-- the flusher's WAL file, while it is there, is a closed file with the records of the store -/
theorem fFile_good {c : Cfg} (h : S c) :
    ∀ f ∈ fFile c, f.header = true ∧ f.torn = false ∧ ∀ m ∈ fileMuts f, m.ok = true := by
  intro f hf
  unfold fFile at hf
  cases hfl : c.fl with
  | none => rw [hfl] at hf; cases hf
  | some j =>
    rw [hfl] at hf
    simp only at hf
    split at hf
    · rw [List.mem_singleton.1 hf]
      exact ⟨rfl, rfl, (h.fwf j hfl).2.2.2.2⟩
    · cases hf

/-- what the flusher holds: its WAL file shows the store until it is unlinked, its table from the last table write
on; at every stage one of the two is there -/
theorem flusher_get {c : Cfg} (h : S c) (k : Key) :
    (Layer.get (applyMuts [] (walMuts (fFile c))) k).or (tablesGet (tblsOf (fTables c)) k) = Layer.get (fStore c) k := by
  unfold fFile fTables fStore
  cases hfl : c.fl with
  | none => rfl
  | some j =>
    obtain ⟨_, _, hro, _⟩ := h.fwf j hfl
    have hw : Layer.get (applyMuts [] (walMuts [({ num := j.on, recs := j.ro } : WalFile)])) k = Layer.get j.r k := by
      rw [← hro]
      exact congrArg (fun l => Layer.get (applyMuts [] l) k) (List.append_nil j.ro)
    simp only
    rcases fDir_stage j with ⟨h5, hd⟩ | ⟨h5, hd⟩
    · rw [if_pos (Nat.le_of_lt h5), hw]
      rcases hd with hd | hd | hd <;> rw [hd] <;> exact Option.or_none
    · rw [hd, tblsOf_cons_complete, tblsOf_nil, tablesGet_single]
      by_cases h6 : j.stage ≤ 5
      · rw [if_pos h6, hw]; exact Option.or_self
      · rw [if_neg h6]; rfl

/-! ## what recovery makes of the table directories -/

theorem kIns_cons {ts : List Tbl} {a n : Nat} (h : a + n ≤ ts.length) (hn : 1 ≤ n) :
    ∃ t0 rest, kIns ts a n = t0 :: rest := by
  have := kIns_length ts a n h
  cases hk : kIns ts a n with
  | nil => rw [hk] at this; exact absurd this.symm (Nat.ne_of_gt hn)
  | cons t0 rest => exact ⟨t0, rest, rfl⟩

theorem selDirs_key_mem {ins : List Tbl} {j sub : Nat} {J : Layer} {p : Nat × TableDir} (hp : p ∈ selDirs ins j sub J) :
    p.1 ∈ ins.map (·.gen) := by
  have : p.1 ∈ (selDirs ins j sub J).map (·.1) := List.mem_map.2 ⟨p, hp, rfl⟩
  rw [keys_selDirs] at this
  obtain ⟨t, ht, he⟩ := List.mem_map.1 this
  exact List.mem_map.2 ⟨t, List.mem_of_mem_drop ht, he⟩

/-- without a flagged compaction directory recovery loads the complete tables of the listing -/
theorem normT_unflagged {d : Disk} (hf : d.comps.filter isFlagged = []) : tblsOf (normT d) = tblsOf d.tables := by
  unfold normT
  rw [foldl_finishComp_flagged, hf, List.foldl_nil, tblsOf_filter_complete]

theorem kMeta_rep_mem {ts : List Tbl} {a n : Nat} (h : a + n ≤ ts.length) (hn : 1 ≤ n) :
    (kMeta ts a n).replacement ∈ (kMeta ts a n).inputs := by
  obtain ⟨t0, rest, hins⟩ := kIns_cons h hn
  unfold kMeta
  rw [hins]
  exact List.mem_cons_self

/-- compacting a run of the reader list does not change what the tables show -/
theorem vis_compacted (ts : List Tbl) (npre nsel : Nat) (g : Nat) (k : Key) :
    vis (tablesGet (ts.take npre ++ [{ gen := g, cells := mergeRun (kIns ts npre nsel) (npre == 0) }] ++
      ts.drop (npre + nsel)) k) = vis (tablesGet ts k) := by
  conv => rhs; rw [split3 ts npre nsel]
  exact vis_tablesGet_merge _ _ _ _ (npre == 0) (fun hd => by rw [show npre = 0 by simpa using hd]; rfl) k

/-- the compactor on the disk: its directory (if any) carries no flag and every live table has its directory; or it is
flagged, and the directories of its run are in some state of removal (`X`: all of them before reflect starts) -/
theorem kShape {c : Cfg} (h : KWf c) :
    (kTables c = encT c.tables ∧ (kComps c = [] ∨ ∃ x, kComps c = [x] ∧ x.flag = none)) ∨
    ∃ npre nsel cells X, npre + nsel ≤ c.tables.length ∧ 1 ≤ nsel ∧
      cells = mergeRun (kIns c.tables npre nsel) (npre == 0) ∧
      (∀ p ∈ X, p.1 ∈ (kIns c.tables npre nsel).map (·.gen)) ∧
      kTables c = encT (c.tables.take npre) ++ X ++ encT (c.tables.drop (npre + nsel)) ∧
      kComps c = [{ id := kId, out := .complete cells, flag := some (kMeta c.tables npre nsel) }] := by
  unfold KWf at h
  unfold kTables kComps
  cases hkj : c.kj with
  | idle => exact .inl ⟨rfl, .inl rfl⟩
  | merging npre nsel cells st =>
    rw [hkj] at h
    obtain ⟨h1, h2, h3, h4⟩ := h
    rcases st with _ | _ | _ | _ | _ | _ | n
    · exact .inl ⟨rfl, .inl rfl⟩
    iterate 4 exact .inl ⟨rfl, .inr ⟨_, rfl, rfl⟩⟩
    · refine .inr ⟨npre, nsel, cells, encT (kIns c.tables npre nsel), h1, h2, h4, fun p hp => ?_, ?_, rfl⟩
      · obtain ⟨t, ht, rfl⟩ := List.mem_map.1 hp
        exact List.mem_map.2 ⟨t, ht, rfl⟩
      · rw [← encT_append, ← encT_append, ← split3]
    · exact absurd h3 (by omega)
  | reflecting npre nsel cells j sub J =>
    rw [hkj] at h
    exact .inr ⟨npre, nsel, cells, _, h.1, h.2.1, h.2.2.1, fun p hp => selDirs_key_mem hp, rfl, rfl⟩

/-- the tables a recovery of this disk loads: the live tables, the run of a flagged compaction replaced by its
output (which shows the same), and the flusher's table if it loads -/
theorem normT_S {c : Cfg} (h : S c) :
    ∃ ts, tblsOf (normT c.d) = ts ++ tblsOf (fTables c) ∧ ∀ k, vis (tablesGet ts k) = vis (tablesGet c.tables k) := by
  rcases kShape h.kwf with ⟨hk, hc⟩ | ⟨npre, nsel, cells, X, h1, h2, h3, hX, hk, hc⟩
  · refine ⟨c.tables, ?_, fun _ => rfl⟩
    rw [normT_unflagged, h.tbl, hk, tblsOf_append, tblsOf_encT]
    rw [h.comps]
    rcases hc with hc | ⟨x, hc, hx⟩ <;> rw [hc]
    · rfl
    · exact List.filter_cons_of_neg (by rw [(not_isFlagged_iff x).2 hx]; nofun)
  · -- the run lies between the tables before it and the tables behind it, the flusher's directory last
    obtain ⟨hlo, hhi⟩ := gens_split (split3 c.tables npre nsel ▸ h.gensS)
    refine ⟨c.tables.take npre ++ [{ gen := (kMeta c.tables npre nsel).replacement, cells := cells }] ++
      c.tables.drop (npre + nsel), ?_, fun k => by rw [h3]; exact vis_compacted c.tables npre nsel _ k⟩
    unfold normT
    rw [h.comps, hc, h.tbl, hk, List.foldl_cons, List.foldl_nil, List.append_assoc (_ ++ X),
      finishComp_mid rfl (kMeta_rep_mem h1 h2) hX, tblsOf_filter_complete, tblsOf_append, tblsOf_cons_complete,
      tblsOf_append, tblsOf_encT, tblsOf_encT]
    · simp only [List.append_assoc, List.singleton_append]
      rfl
    · intro p hp g hg
      obtain ⟨x, hx, rfl⟩ := List.mem_map.1 hp
      obtain ⟨t, ht, rfl⟩ := List.mem_map.1 hg
      exact hlo x hx t ht
    · intro p hp g hg
      obtain ⟨t, ht, rfl⟩ := List.mem_map.1 hg
      rcases List.mem_append.1 hp with hp | hp
      · obtain ⟨x, hx, rfl⟩ := List.mem_map.1 hp
        exact hhi t (List.mem_append_right _ ht) x hx
      · exact fTables_gt h p hp t (List.mem_of_mem_drop (List.mem_of_mem_take ht))

/-- the file the rotation is creating comes after the current one and holds no record -/
theorem nextFile_cases (c : Cfg) : nextFile c = [] ∨
    ∃ x, nextFile c = [x] ∧ x.num = c.cur + 1 ∧ fileMuts x = [] ∧ (c.pc = .rot2 ∨ c.pc = .rot3) := by
  unfold nextFile
  cases c.pc
  case rot2 => exact .inr ⟨_, rfl, rfl, rfl, .inl rfl⟩
  case rot3 => exact .inr ⟨_, rfl, rfl, rfl, .inr rfl⟩
  all_goals exact .inl rfl

theorem nums_next {l : List WalFile} {x y : WalFile} (h : ((l ++ [x]).map (·.num)).Pairwise (· < ·))
    (hxy : x.num < y.num) : ((l ++ [x] ++ [y]).map (·.num)).Pairwise (· < ·) := by
  refine snoc_sorted WalFile.num h fun z hz => ?_
  rcases List.mem_append.1 hz with hz | hz
  · exact Nat.lt_trans (sorted_last h z hz) hxy
  · rw [List.mem_singleton.1 hz]; exact hxy

theorem walMuts_S {c : Cfg} (h : S c) : walMuts c.d.wal = walMuts (fFile c) ++ c.rc := by
  have hn : walMuts (nextFile c) = [] := by
    rcases nextFile_cases c with hn | ⟨x, hn, _, hx, _⟩ <;> rw [hn]
    · rfl
    · rw [walMuts_cons, hx]; rfl
  rw [h.wal, walMuts_append, walMuts_append, walMuts_append, junk_muts h.jk, hn]
  simp [walMuts, fileMuts, curFile]

theorem S.diskOk {c : Cfg} (h : S c) : DiskOk c.d := by
  have hgood : ∀ f ∈ c.junk ++ fFile c, f.header = true ∧ f.torn = false := by
    intro f hf
    rcases List.mem_append.1 hf with (hf | hf)
    · exact ⟨(h.jk f hf).1, (h.jk f hf).2.2⟩
    · exact ⟨(fFile_good h f hf).1, (fFile_good h f hf).2.1⟩
  -- the compactor's side: at most one directory, flagged only when complete; a directory that does not load belongs to
  -- the run of the flagged compaction
  have hk : (c.d.comps.map (·.id)).Pairwise (· ≠ ·) ∧ (c.d.comps.filter isFlagged).length ≤ 1 ∧
      (∀ x ∈ c.d.comps, isFlagged x = true → isComplete x.out = true) ∧
      ∀ p ∈ kTables c, isPartMeta p.2 = true → coveredBy c.d.comps p.1 = true := by
    have hnot : ∀ cs ts, ∀ p ∈ encT ts, isPartMeta p.2 = true → coveredBy cs p.1 = true :=
      fun cs ts p hp hpm => by rw [not_partMeta_of_complete (encT_complete ts p hp)] at hpm; cases hpm
    rw [h.comps]
    rcases kShape h.kwf with ⟨hk, hc | ⟨x, hc, hx⟩⟩ | ⟨npre, nsel, cells, X, _, _, _, hX, hk, hc⟩ <;> rw [hk, hc]
    · exact ⟨.nil, Nat.zero_le _, nofun, hnot _ _⟩
    · refine ⟨List.pairwise_singleton _ _, List.length_filter_le _ _, fun y hy hf => ?_, hnot _ _⟩
      rw [List.mem_singleton.1 hy, (not_isFlagged_iff x).2 hx] at hf; cases hf
    · refine ⟨List.pairwise_singleton _ _, List.length_filter_le _ _,
        fun y hy _ => by rw [List.mem_singleton.1 hy]; rfl, fun p hp hpm => ?_⟩
      rcases List.mem_append.1 hp with hp | hp
      · rcases List.mem_append.1 hp with hp | hp
        · exact hnot _ _ p hp hpm
        · exact (coveredBy_iff _ _).2 ⟨_, List.mem_singleton.2 rfl, kMeta c.tables npre nsel, rfl, Or.inl (hX p hp)⟩
      · exact hnot _ _ p hp hpm
  refine {
    tblSorted := ?_, walSorted := ?_, compIds := hk.1, walDirOk := ?_, walRead := ?_, putsOk := ?_,
    oneFlag := hk.2.1, flagOut := hk.2.2.1, covered := ?_ }
  · have hs := List.Pairwise.sublist (keys_kTables_sub c) h.gensS
    rw [h.tbl]
    rcases fTables_shape c with hf | ⟨j, st, hfl, hf, _⟩ <;> rw [hf]
    · rw [List.append_nil]; exact hs
    · exact snoc_sorted Prod.fst hs (kTables_lt h j hfl)
  · rw [h.wal]
    rcases nextFile_cases c with hn | ⟨x, hn, hx, _⟩ <;> rw [hn]
    · rw [List.append_nil]; exact h.nums
    · exact nums_next h.nums (by rw [hx]; exact Nat.lt_succ_self _)
  · intro hf; rw [h.walDir] at hf; cases hf
  · rw [h.wal]
    rcases nextFile_cases c with hn | ⟨x, hn, _, _, hpc⟩ <;> rw [hn]
    · rw [List.append_nil]; exact walReadable_good _ hgood _
    · refine walReadable_good _ (fun f hf => ?_) x
      rcases List.mem_append.1 hf with hf | hf
      · exact hgood f hf
      · rw [List.mem_singleton.1 hf]; exact ⟨rfl, (h.pcq (.inr hpc)).2⟩
  · intro m hm
    rw [walMuts_S h] at hm
    rcases List.mem_append.1 hm with (hm | hm)
    · obtain ⟨f, hf, hm⟩ := List.mem_flatMap.1 hm
      exact (fFile_good h f hf).2.2 m hm
    · exact h.rcOk m hm
  · intro p hp hpm
    rw [h.tbl] at hp
    rcases List.mem_append.1 hp with (hp | hp)
    · exact hk.2.2.2 p hp hpm
    · rcases fTables_shape c with hf | ⟨j, st, _, hf, hst⟩ <;> rw [hf] at hp
      · cases hp
      · rw [List.mem_singleton.1 hp, hst] at hpm; cases hpm

/-- at every moment the disk serves: the records that reached the current WAL file, over the store the flusher is
writing, over the live tables -/
theorem S.serves {c : Cfg} (h : S c) : logical c.d = served (memState c) c.rc := by
  funext k
  obtain ⟨ts, hn, hv⟩ := normT_S h
  rw [logical_eq, rd_eq_vis _ _ (fun k v hv => applyMuts_val_ok _ h.diskOk.putsOk k v hv) k,
    (effTables_eq c.d).trans hn, walMuts_S h, tablesGet_append, get_applyMuts_append, Option.or_assoc,
    -- the flusher's WAL file and its table are bracketed together: between them they show its store
    ← Option.or_assoc (o₂ := tablesGet (tblsOf (fTables c)) k), flusher_get h k]
  exact vis_or_congr _ (vis_or_congr _ (hv k))

/-! ## an operation boundary of the sequential model is a configuration -/

/-- an operation boundary `QW d v junk ro rc tn` of an open database as a configuration: the flusher at the start of
its job if a store is pending (also an empty one, which `executeFlush` will skip and the machine never hands over:
`S` does not mind), the compactor idle, no program; the history is what sits in the appender -/
def cfgOf (d : Disk) (v : Vol) (junk : List WalFile) (ro rc : List Mutation) (tn : Bool) (pc : Pc) : Cfg :=
  { d := d, tables := v.s.tables, gen := if v.s.flushPending then v.s.gen + 1 else v.s.gen, w := v.s.w, rc := rc,
    tn := tn, queue := v.queue, cur := v.walCur, junk := junk,
    fl := if v.s.flushPending then some { r := v.s.r, ro := ro, on := v.walOld.getD 0, g := v.s.gen + 1, stage := 0 }
      else none,
    pc := pc, hist := v.queue, acked := v.queue.length }

theorem fTables_cfgOf (d : Disk) (v : Vol) (junk : List WalFile) (ro rc : List Mutation) (tn : Bool) (pc : Pc) :
    fTables (cfgOf d v junk ro rc tn pc) = [] := by
  unfold fTables cfgOf
  cases v.s.flushPending <;> rfl

theorem nextFile_cfgOf {d : Disk} {v : Vol} {junk : List WalFile} {ro rc : List Mutation} {tn : Bool} {pc : Pc}
    (hpc : pc = .idle ∨ pc = .rot0) : nextFile (cfgOf d v junk ro rc tn pc) = [] := by
  rcases hpc with rfl | rfl <;> rfl

/-- the WAL listing of a boundary, thread by thread -/
theorem liveFiles_cfgOf (d : Disk) {v : Vol} (junk : List WalFile) (ro rc : List Mutation) (tn : Bool)
    (hu : usable v.s = true) {pc : Pc} (hpc : pc = .idle ∨ pc = .rot0) :
    junk ++ liveFiles v ro rc tn = junk ++ fFile (cfgOf d v junk ro rc tn pc) ++
      [curFile (cfgOf d v junk ro rc tn pc)] ++ nextFile (cfgOf d v junk ro rc tn pc) := by
  rw [nextFile_cfgOf hpc, List.append_nil, List.append_assoc]
  unfold liveFiles fFile cfgOf
  rw [if_pos hu]
  cases v.s.flushPending <;> rfl

theorem S_of_QW {d : Disk} {v : Vol} {junk : List WalFile} {ro rc : List Mutation} {tn : Bool}
    (h : QW d v junk ro rc tn) (hu : usable v.s = true) {pc : Pc} (hpc : pc = .idle ∨ pc = .rot0) :
    S (cfgOf d v junk ro rc tn pc) := by
  obtain ⟨hwd, hw, hpend⟩ := h.live hu
  have hwal := h.wal.trans (liveFiles_cfgOf d junk ro rc tn hu hpc)
  exact {
    tbl := by rw [fTables_cfgOf, List.append_nil]; exact h.tables
    comps := h.comps
    walDir := hwd
    wal := hwal
    gensS := h.inv.gens.1
    gensLe := fun t ht => by
      show t.gen ≤ if v.s.flushPending then v.s.gen + 1 else v.s.gen
      split
      · exact Nat.le_succ_of_le (h.inv.gens.2 t ht)
      · exact h.inv.gens.2 t ht
    fwf := by
      intro j hj
      cases hp : v.s.flushPending with
      | false => simp only [cfgOf, hp] at hj; cases hj
      | true =>
        simp only [cfgOf, hp, if_true, Option.some.injEq] at hj ⊢
        subst hj
        exact ⟨rfl, fun t ht => Nat.lt_succ_of_le (h.inv.gens.2 t ht), (hpend hp).1, Nat.zero_le _, h.rok⟩
    jk := h.jk
    nums := by
      have := h.walSorted
      rwa [hwal, nextFile_cfgOf hpc, List.append_nil] at this
    rcOk := h.cok
    qOk := h.qok
    wq := hw
    tnq := h.tnq
    pcq := by rintro (hx | hx | hx) <;> rcases hpc with rfl | rfl <;> cases hx
    kwf := trivial }

end SST.Proofs.FSI

namespace SST.Proofs.FS
open SST SST.DBM SST.FS SST.Proofs.DB SST.Proofs.FSI

/-- the converse of `S_of_QW`: what a move or a run does to a boundary is read off `S` at the configuration it ends in.
`hro`: `S` knows the flusher's records only while a store is pending; `hold`: `cfgOf` forgets whether `walOld` is set. -/
theorem QW.of_S {x : Disk} {v : Vol} {junk : List WalFile} {ro rc : List Mutation} {tn : Bool} {pc : SST.FSI.Pc}
    (hi : Inv v.s) (hu : usable v.s = true) (hpc : pc = .idle ∨ pc = .rot0) (hS : S (cfgOf x v junk ro rc tn pc))
    (hro : ∀ m ∈ ro, m.ok = true) (hold : v.s.flushPending = true → v.walOld.isSome = true) :
    QW x v junk ro rc tn where
  inv := hi
  tables := hS.tbl.trans ((congrArg _ (fTables_cfgOf x v junk ro rc tn pc)).trans (List.append_nil _))
  comps := hS.comps
  walSorted := hS.diskOk.walSorted
  qok := hS.qOk
  jk := hS.jk
  wal := hS.wal.trans (liveFiles_cfgOf x junk ro rc tn hu hpc).symm
  rok := hro
  cok := hS.rcOk
  tnq := hS.tnq
  live := fun _ => ⟨hS.walDir, hS.wq, fun hp => ⟨(hS.fwf _ (by simp only [cfgOf, hp]; rfl)).2.2.1, hold hp⟩⟩
  idle := fun hf => nomatch hu.symm.trans hf

/-- the disk of an operation boundary is well-formed: for an open database by `S`; a closed one has left only
header-only WAL files -/
theorem QW.diskOk {d : Disk} {v : Vol} {junk : List WalFile} {ro rc : List Mutation} {tn : Bool}
    (h : QW d v junk ro rc tn) : DiskOk d := by
  cases hu : usable v.s with
  | true => exact (S_of_QW h hu (pc := .idle) (.inl rfl)).diskOk
  | false =>
    have hw : d.wal = junk ++ [] := by rw [h.wal, liveFiles, hu]; rfl
    apply diskOk_plain d h.comps
    · rw [h.tables, keys_encT]; exact h.inv.gens.1
    · intro p hp
      rw [h.tables] at hp
      exact not_partMeta_of_complete (encT_complete _ p hp)
    · exact h.walSorted
    · exact (h.idle hu).2.2
    · rw [hw]; exact walReadable_good_append junk [] (fun f hf => ⟨(h.jk f hf).1, (h.jk f hf).2.2⟩) rfl
    · intro m hm
      rw [hw, walMuts_append, junk_muts h.jk] at hm
      cases hm

/-- at an operation boundary the disk serves: the records that reached the current file, over the handed-over
store, over the tables -/
theorem QW.served_eq {d : Disk} {v : Vol} {junk : List WalFile} {ro rc : List Mutation} {tn : Bool}
    (h : QW d v junk ro rc tn) : logical d = served v.s rc := by
  funext k
  cases hu : usable v.s with
  | false =>
    have hw : d.wal = junk ++ [] := by rw [h.wal, liveFiles, hu]; rfl
    rw [logical_plain d h.comps junk [] hw h.jk nofun k, h.tables, tblsOf_encT, (h.idle hu).2.1]
    exact h.inv.vis_cov (h.inv.idle hu).2 _ k
  | true =>
    rw [show logical d = _ from (S_of_QW h hu (pc := .idle) (.inl rfl)).serves]
    unfold served base memState fStore cfgOf
    cases hp : v.s.flushPending with
    | true => rfl
    | false => exact h.inv.vis_cov hp _ k

theorem QW.serves {d : Disk} {v : Vol} {junk : List WalFile} {ro rc : List Mutation} {tn : Bool}
    (h : QW d v junk ro rc tn) (k : Key) :
    logical d k = vis ((Layer.get (applyMuts [] rc) k).or (base v.s k)) := congrFun h.served_eq k

/-- synchronous WAL (empty buffer): the disk serves exactly what the process serves -/
theorem QW.serves_sync {d : Disk} {v : Vol} {junk : List WalFile} {ro rc : List Mutation} {tn : Bool}
    (h : QW d v junk ro rc tn) (hq : v.queue = []) : logical d = abs v.s := by
  funext k
  rw [h.serves k, abs_eq_stack _ h.inv, stack, base, Option.or_assoc]
  cases hu : usable v.s with
  | false =>
    have hi := h.inv.idle hu
    rw [(h.idle hu).2.1, hi.1]
    rfl
  | true =>
    have := (h.live hu).2.1
    rw [hq, List.append_nil] at this
    rw [this]

end SST.Proofs.FS
