/-
Memstore (L4b) against its reference map.  The reference-map side: the map law of the reference (`get` after `put`,
which justifies calling it "the reference map"), the byte count of `RefMap.put`, and the reference map `viewL` that a
sorted (key, pointer) list denotes under a valuation of the pointers, with what inserting a pair and reassigning
one pointer do to it.  The simulation between the memstore model (skip list of pointers + heap of slices) and the
reference map: the invariant `WF` of the model state (skip list invariant, every stored pointer allocated, no
pointer shared by two nodes, size estimate = byte sum) is kept by every call and every result is the reference's.
Of the skip list the simulation uses `Inv`, `insert_spec` and `get_spec` of SST/Proofs/SkipList.lean (`Contains` is
`Get … .isSome`); `Size` and the iterator are read off its node list.  Last, the iterator, `Size` and the two flush variants in terms
of the reference map.
-/
import SST.Spec.MemStore
import SST.Proofs.SkipList
import SST.Proofs.BytesOrd
namespace SST.Proofs.MemP
open SST SST.Mem

theorem bytesCmp_lawful : LawfulCmp bytesCmp := Proofs.bytesCmp_lawful

theorem goCmp_lawful : LawfulCmp goCmp := lawful_bytesCmp_on _

theorem goCmp_eq_iff (a b : GoBytes) : goCmp a b = .eq ↔ a.getD [] = b.getD [] := bytesCmp_eq_iff

theorem get_none_of_lt (k : Bytes) : ∀ r : RefMap, (∀ e ∈ r, bytesCmp k e.1 = .lt) → RefMap.get k r = none
  | [], _ => rfl
  | (k', c) :: rest, h => by
    have h1 := h (k', c) List.mem_cons_self
    simp only [RefMap.get, if_neg (ne_of_lt h1)]
    exact get_none_of_lt k rest fun e he => h e (List.mem_cons_of_mem _ he)

theorem bytes_put (k : Bytes) (c : Cell) : ∀ r : RefMap, StrictAsc bytesCmp r →
    RefMap.bytes (RefMap.put k c r) + (match RefMap.get k r with | none => 0 | some old => k.length + old.len) =
      k.length + c.len + RefMap.bytes r
  | [], _ => rfl
  | (k', c') :: rest, hs => by
    have hs' := List.pairwise_cons.1 hs
    rw [RefMap.put]
    cases hc : bytesCmp k k' with
    | lt =>
      rw [RefMap.get, if_neg (ne_of_lt hc),
        get_none_of_lt k rest fun e he => bytesCmp_trans_lt _ _ _ hc (hs'.1 e he)]
      rfl
    | eq =>
      cases bytesCmp_eq_iff.1 hc
      rw [RefMap.get, if_pos rfl]
      simp only [RefMap.bytes]
      rw [Nat.add_assoc, Nat.add_comm (RefMap.bytes rest)]
    | gt =>
      rw [RefMap.get, if_neg (ne_of_lt (bytesCmp_gt_iff.1 hc)).symm]
      simp only [RefMap.bytes]
      rw [Nat.add_assoc, bytes_put k c rest hs'.2, Nat.add_left_comm]

theorem ref_get_put (k k' : Bytes) (c : Cell) : ∀ r : RefMap,
    RefMap.get k' (RefMap.put k c r) = if k' = k then some c else RefMap.get k' r
  | [] => rfl
  | (k0, c0) :: rest => by
    rw [RefMap.put]
    cases hc : bytesCmp k k0 with
    | lt => rfl
    | eq =>
      cases bytesCmp_eq_iff.1 hc
      simp only [RefMap.get]
      by_cases h : k' = k
      · rw [if_pos h, if_pos h]
      · rw [if_neg h, if_neg h, if_neg h]
    | gt =>
      simp only [RefMap.get, ref_get_put k k' c rest]
      by_cases h : k' = k0
      · rw [if_pos h, if_pos h, if_neg (h ▸ ne_of_lt (bytesCmp_gt_iff.1 hc))]
      · rw [if_neg h, if_neg h]

def cellOf : GoBytes → Cell
  | none => .tomb
  | some v => .val v

/-- the reference map a (key, pointer) list denotes under a valuation `f` of the pointers -/
def viewL (f : Nat → Cell) (l : List (GoBytes × Nat)) : RefMap := l.map fun e => (e.1.getD [], f e.2)

theorem viewL_cons (f : Nat → Cell) (k : GoBytes) (p : Nat) (l : List (GoBytes × Nat)) :
    viewL f ((k, p) :: l) = (k.getD [], f p) :: viewL f l := rfl

theorem get_viewL (f : Nat → Cell) (k : GoBytes) : ∀ l : List (GoBytes × Nat),
    RefMap.get (k.getD []) (viewL f l) = (l.find? fun e => goCmp k e.1 == .eq).map fun e => f e.2
  | [] => rfl
  | (k', p) :: rest => by
    rw [viewL_cons, RefMap.get, List.find?_cons]
    by_cases h : k.getD [] = k'.getD []
    · rw [if_pos h, show goCmp k k' = .eq from bytesCmp_eq_iff.2 h]
      rfl
    · rw [if_neg h, get_viewL f k rest,
        show (goCmp k (k', p).1 == .eq) = false from beq_false_of_ne fun e => h (bytesCmp_eq_iff.1 e)]

theorem viewL_sortedInsert (f : Nat → Cell) (k : GoBytes) (p : Nat) : ∀ l : List (GoBytes × Nat),
    (∀ e ∈ l, goCmp k e.1 ≠ .eq) →
    viewL f (sortedInsert goCmp k p l) = RefMap.put (k.getD []) (f p) (viewL f l)
  | [], _ => rfl
  | (k', p') :: rest, h => by
    have ih := viewL_sortedInsert f k p rest fun e he => h e (List.mem_cons_of_mem _ he)
    rw [sortedInsert, viewL_cons, RefMap.put]
    cases hc : goCmp k k' with
    | lt => rw [show bytesCmp (k.getD []) (k'.getD []) = .lt from hc]; rfl
    | eq => exact absurd hc (h _ List.mem_cons_self)
    | gt => rw [show bytesCmp (k.getD []) (k'.getD []) = .gt from hc, ← ih]; rfl

theorem viewL_congr (f g : Nat → Cell) (l : List (GoBytes × Nat)) (h : ∀ e ∈ l, f e.2 = g e.2) :
    viewL f l = viewL g l := by
  unfold viewL
  apply List.map_congr_left
  intro e he
  rw [h e he]

theorem viewL_update (f : Nat → Cell) (p : Nat) (c : Cell) (kk : GoBytes) : ∀ l : List (GoBytes × Nat),
    l.Pairwise (fun a b => goCmp a.1 b.1 = .lt) → (l.map (·.2)).Nodup → (kk, p) ∈ l →
    viewL (fun q => if q = p then c else f q) l = RefMap.put (kk.getD []) c (viewL f l)
  | [], _, _, hm => nomatch hm
  | (k', p') :: rest, hs, hn, hm => by
    have hs' := List.pairwise_cons.1 hs
    have hn' := List.nodup_cons.1 (show (p' :: rest.map (·.2)).Nodup from hn)
    rw [viewL_cons, viewL_cons, RefMap.put]
    rcases List.mem_cons.1 hm with h | hm'
    · cases h
      -- the pointer of the head occurs nowhere in the tail
      rw [bytesCmp_refl, if_pos rfl, viewL_congr _ f rest fun e he =>
        if_neg fun h : e.2 = p => hn'.1 (h ▸ List.mem_map_of_mem (f := (·.2)) he)]
    · have hp : p' ≠ p := fun h => hn'.1 (h ▸ List.mem_map_of_mem (f := (·.2)) hm')
      rw [bytesCmp_gt_iff.2 (hs'.1 _ hm'), if_neg hp, viewL_update f p c kk rest hs'.2 hn'.2 hm']

open SkipList

/-- the (key, pointer) pairs of the skip list in level-0 order -/
def kv (m : MemStore) : List (GoBytes × Nat) := m.sl.nodes.map fun n => (n.key, n.val)

/-- the cell a pointer denotes (a tombstone for an unallocated pointer, which `WF.valid` rules out) -/
def cellAt (heap : List GoBytes) (p : Nat) : Cell := cellOf ((heap[p]?).getD none)

/-- abstraction function: the reference map a model state denotes -/
def view (m : MemStore) : RefMap := viewL (cellAt m.heap) (kv m)

structure WF (m : MemStore) : Prop where
  inv : Inv goCmp m.sl.nodes
  valid : ∀ e ∈ kv m, e.2 < m.heap.length
  nodup : ((kv m).map (·.2)).Nodup
  est : m.est = ((RefMap.bytes (view m) : Nat) : Int)

theorem wf_empty : WF MemStore.empty :=
  ⟨inv_empty goCmp, nofun, List.nodup_nil, rfl⟩

theorem view_empty : view MemStore.empty = [] := rfl

theorem kv_sorted {m : MemStore} (hw : WF m) : (kv m).Pairwise fun a b => goCmp a.1 b.1 = .lt := by
  unfold kv
  rw [List.pairwise_map]
  exact hw.inv.sorted

theorem view_sorted {m : MemStore} (hw : WF m) : StrictAsc bytesCmp (view m) := by
  unfold StrictAsc view viewL
  rw [List.pairwise_map]
  exact kv_sorted hw

theorem view_length (m : MemStore) : (view m).length = m.sl.size := by
  simp [view, viewL, kv, SkipList.size]

theorem cellOf_len (v : GoBytes) : ((cellOf v).len : Int) = goLen v := by
  cases v <;> rfl

theorem toGo_cellOf (v : GoBytes) : (cellOf v).toGo = v := by
  cases v <;> rfl

/-- `skipListMap.Contains` agrees with `Get` -/
theorem contains_eq {m : MemStore} (k : GoBytes) :
    SkipList.contains goCmp m.sl k = (SkipList.get goCmp m.sl k).isSome := rfl

/-- What `find` returns, in terms of the reference map: the key is absent from both, or its node holds
an allocated pointer `p` (under a key `kk` that is `k` up to nil = empty) whose variable is the
reference cell.  Never a wild pointer. -/
theorem find_cases {m : MemStore} (hw : WF m) (k : GoBytes) :
    (find m k = .absent ∧ RefMap.get (k.getD []) (view m) = none ∧
      SkipList.get goCmp m.sl k = none ∧ ∀ e ∈ kv m, goCmp k e.1 ≠ .eq) ∨
    ∃ p cur kk, find m k = .cell p cur ∧ RefMap.get (k.getD []) (view m) = some (cellOf cur) ∧
      SkipList.get goCmp m.sl k = some p ∧ (kk, p) ∈ kv m ∧ kk.getD [] = k.getD [] := by
  have hg : SkipList.get goCmp m.sl k = ((kv m).find? fun e => goCmp k e.1 == .eq).map (·.2) :=
    get_spec goCmp_lawful m.sl hw.inv k
  have hv : RefMap.get (k.getD []) (view m) = _ := get_viewL (cellAt m.heap) k (kv m)
  unfold find
  cases hf : (kv m).find? fun e => goCmp k e.1 == .eq with
  | none =>
    rw [hf] at hg hv
    rw [hg]
    exact Or.inl ⟨rfl, hv, rfl, fun e he => by simpa using List.find?_eq_none.1 hf e he⟩
  | some e =>
    rw [hf] at hg hv
    have hmem : e ∈ kv m := List.mem_of_find?_eq_some hf
    have heq : goCmp k e.1 = .eq := by simpa using List.find?_some hf
    have hlt : e.2 < m.heap.length := hw.valid e hmem
    have hcur : m.heap[e.2]? = some m.heap[e.2] := List.getElem?_eq_getElem hlt
    refine Or.inr ⟨e.2, m.heap[e.2], e.1, ?_, ?_, hg, hmem, ((goCmp_eq_iff _ _).1 heq).symm⟩
    · rw [hg]; simp only [Option.map_some, hcur]
    · rw [hv]; simp only [Option.map_some, cellAt, hcur, Option.getD_some]

/-- inserting a fresh key with a freshly allocated pointer = `put` on the reference map -/
theorem sim_alloc {m : MemStore} (hw : WF m) (k v : GoBytes) (h : Nat) (hh : 1 ≤ h) (delta : Int)
    (hne : ∀ e ∈ kv m, goCmp k e.1 ≠ .eq) (hget : RefMap.get (k.getD []) (view m) = none)
    (hd : delta = goLen k + goLen v) :
    ∃ m', alloc m k v h delta = some m' ∧ WF m' ∧
      view m' = RefMap.put (k.getD []) (cellOf v) (view m) := by
  obtain ⟨sl', hins, hi', hmap⟩ := insert_spec goCmp_lawful m.sl hw.inv k m.heap.length h hh hne
  let m' : MemStore := { sl := sl', heap := m.heap ++ [v], est := m.est + delta }
  have hkv : kv m' = sortedInsert goCmp k m.heap.length (kv m) := hmap
  have hperm : (kv m').Perm ((k, m.heap.length) :: kv m) := hkv ▸ sortedInsert_perm goCmp k _ (kv m)
  have hold : viewL (cellAt m'.heap) (kv m) = viewL (cellAt m.heap) (kv m) :=
    viewL_congr _ _ _ fun e he => by
      show cellAt (m.heap ++ [v]) e.2 = cellAt m.heap e.2
      rw [cellAt, List.getElem?_append_left (hw.valid e he)]; rfl
  have hnew : cellAt m'.heap m.heap.length = cellOf v := by
    show cellAt (m.heap ++ [v]) m.heap.length = cellOf v
    rw [cellAt, List.getElem?_concat_length]; rfl
  have hview : view m' = RefMap.put (k.getD []) (cellOf v) (view m) := by
    show viewL (cellAt m'.heap) (kv m') = _
    rw [hkv, viewL_sortedInsert _ _ _ _ hne, hnew, hold]
    rfl
  refine ⟨m', by simp only [alloc, hins]; rfl, ⟨hi', ?_, ?_, ?_⟩, hview⟩
  · intro e he
    show e.2 < (m.heap ++ [v]).length
    rw [List.length_append, List.length_singleton]
    rcases List.mem_cons.1 (hperm.mem_iff.1 he) with rfl | he
    · exact Nat.lt_succ_self _
    · exact Nat.lt_succ_of_lt (hw.valid e he)
  · rw [(hperm.map (·.2)).nodup_iff, List.map_cons, List.nodup_cons]
    refine ⟨fun hmem => ?_, hw.nodup⟩
    obtain ⟨e, he, hep⟩ := List.mem_map.1 hmem
    exact Nat.lt_irrefl _ (hep ▸ hw.valid e he)
  · have hb := bytes_put (k.getD []) (cellOf v) (view m) (view_sorted hw)
    rw [hget] at hb
    simp only at hb
    show m.est + delta = _
    rw [hview, hw.est, hd, ← cellOf_len v, show goLen k = (((k.getD []).length : Nat) : Int) from rfl]
    omega

/-- assigning through the pointer of a present key = `put` on the reference map -/
theorem sim_store {m : MemStore} (hw : WF m) (k : GoBytes) (p : Nat) (cur v : GoBytes) (delta : Int)
    (hget : RefMap.get (k.getD []) (view m) = some (cellOf cur))
    {kk : GoBytes} (hkk : (kk, p) ∈ kv m) (hkeq : kk.getD [] = k.getD [])
    (hd : delta = - goLen cur + goLen v) :
    WF (store m p v delta) ∧ view (store m p v delta) = RefMap.put (k.getD []) (cellOf v) (view m) := by
  have hlt : p < m.heap.length := hw.valid _ hkk
  have hcell : cellAt (m.heap.set p v) = fun q => if q = p then cellOf v else cellAt m.heap q := by
    funext q
    unfold cellAt
    by_cases hq : q = p
    · subst hq; simp [hlt]
    · have : p ≠ q := fun h => hq h.symm
      simp [hq, List.getElem?_set_ne this]
  have hview : view (store m p v delta) = RefMap.put (k.getD []) (cellOf v) (view m) := by
    show viewL (cellAt (m.heap.set p v)) (kv m) = _
    rw [hcell, viewL_update _ p _ kk (kv m) (kv_sorted hw) hw.nodup hkk, hkeq]
    rfl
  refine ⟨⟨hw.inv, ?_, hw.nodup, ?_⟩, hview⟩
  · intro e he
    show e.2 < (m.heap.set p v).length
    rw [List.length_set]
    exact hw.valid e he
  · have hb := bytes_put (k.getD []) (cellOf v) (view m) (view_sorted hw)
    rw [hget] at hb
    simp only at hb
    show m.est + delta = _
    rw [hview, hw.est, hd, ← cellOf_len v, ← cellOf_len cur]
    omega

theorem step_sim {m : MemStore} (hw : WF m) (op : Op) (h : Nat) (hh : 1 ≤ h) :
    (step m op h).1 = (refStep (view m) op).1 ∧ WF (step m op h).2 ∧
      view (step m op h).2 = (refStep (view m) op).2 := by
  -- every call but `Size` starts with `find`; a write then goes through `sim_alloc` or `sim_store`
  have hfind := find_cases hw
  cases op with
  | add k v | upsert k v =>
    cases k with
    | none => exact ⟨rfl, hw, rfl⟩
    | some kb =>
      cases v with
      | none => exact ⟨rfl, hw, rfl⟩
      | some vb =>
        rcases hfind (some kb) with ⟨hf, hg, _, hne⟩ | ⟨p, cur, kk, hf, hg, _, hkk, hkeq⟩
        · obtain ⟨m', ha, hw', hv'⟩ := sim_alloc hw (some kb) (some vb) h hh _ hne hg rfl
          simp only [step, upsertInternal, refStep, hf, ha, show RefMap.get kb (view m) = none from hg, true_and]
          exact ⟨hw', hv'⟩
        · -- `Add` refuses a key that holds a value and writes nothing; otherwise both assign through `p`
          obtain ⟨hws, hvs⟩ := sim_store hw (some kb) p cur (some vb) _ hg hkk hkeq rfl
          simp only [step, upsertInternal, refStep, hf, show RefMap.get kb (view m) = some (cellOf cur) from hg]
          cases cur <;> simp [cellOf, hws, hvs, hw]
  | delete k | deleteIfExists k =>
    rcases hfind k with ⟨hf, hg, _⟩ | ⟨p, cur, kk, hf, hg, _, hkk, hkeq⟩
    · simp only [step, deleteInternal, refStep, hf, hg]
      exact ⟨rfl, hw, rfl⟩
    · simp only [step, deleteInternal, refStep, hf, hg, true_and]
      exact sim_store hw k p cur none _ hg hkk hkeq (Int.add_zero _).symm
  | tombstone k =>
    rcases hfind k with ⟨hf, hg, _, hne⟩ | ⟨p, cur, kk, hf, hg, _, hkk, hkeq⟩
    · obtain ⟨m', ha, hw', hv'⟩ := sim_alloc hw k none h hh (goLen k) hne hg (Int.add_zero _).symm
      simp only [step, tombstone, refStep, hf, ha, true_and]
      exact ⟨hw', hv'⟩
    · simp only [step, tombstone, refStep, hf, true_and]
      exact sim_store hw k p cur none _ hg hkk hkeq (Int.add_zero _).symm
  | get k | contains k =>
    rcases hfind k with ⟨hf, hg, _⟩ | ⟨p, cur, kk, hf, hg, _⟩
    · simp only [step, Mem.get, Mem.contains, refStep, hf, hg, true_and, and_true]
      exact hw
    · simp only [step, Mem.get, Mem.contains, refStep, hf, hg]
      cases cur <;> exact ⟨rfl, hw, rfl⟩
  | isTombstoned k =>
    rcases hfind k with ⟨hf, hg, hs, _⟩ | ⟨p, cur, kk, hf, hg, hs, _⟩
    · simp only [step, Mem.isTombstoned, refStep, contains_eq, hf, hg, hs, and_true]
      exact ⟨rfl, hw⟩
    · simp only [step, Mem.isTombstoned, refStep, contains_eq, hf, hg, hs]
      cases cur <;> exact ⟨rfl, hw, rfl⟩
  | size => exact ⟨congrArg Res.size (view_length m).symm, hw, rfl⟩

theorem run_sim : ∀ (prog : List (Op × Nat)) (m : MemStore), WF m → (∀ x ∈ prog, 1 ≤ x.2) →
    (run m prog).1 = (refRun (view m) (prog.map (·.1))).1 ∧ WF (run m prog).2 ∧
      view (run m prog).2 = (refRun (view m) (prog.map (·.1))).2
  | [], m, hw, _ => ⟨rfl, hw, rfl⟩
  | (op, h) :: rest, m, hw, hh => by
    obtain ⟨h1, h2, h3⟩ := step_sim hw op h (hh _ List.mem_cons_self)
    obtain ⟨i1, i2, i3⟩ := run_sim rest (step m op h).2 h2 fun x hx => hh x (List.mem_cons_of_mem _ hx)
    simp only [run, List.map_cons, refRun]
    rw [h3] at i1 i3
    refine ⟨?_, i2, i3⟩
    rw [h1, i1]

/-- heights drawn by `randomHeight` are at least 1 -/
def HeightsOk (prog : List (Op × Nat)) : Prop := ∀ x ∈ prog, 1 ≤ x.2

/-- the model state after a program on a new memstore -/
def finalM (prog : List (Op × Nat)) : MemStore := (run MemStore.empty prog).2

/-- the reference map after the same calls -/
def finalR (prog : List (Op × Nat)) : RefMap := (refRun [] (prog.map (·.1))).2

theorem final_sim (prog : List (Op × Nat)) (hh : HeightsOk prog) :
    (run MemStore.empty prog).1 = (refRun [] (prog.map (·.1))).1 ∧ WF (finalM prog) ∧
      view (finalM prog) = finalR prog :=
  run_sim prog MemStore.empty wf_empty hh

theorem refStep_no_panic (r : RefMap) (op : Op) : (refStep r op).1 ≠ .panic := by
  cases op <;> simp only [refStep] <;> (repeat' split) <;> simp

theorem refRun_no_panic : ∀ (ops : List Op) (r : RefMap), Res.panic ∉ (refRun r ops).1
  | [], _ => by simp [refRun]
  | op :: rest, r => by
    simp only [refRun, List.mem_cons, not_or]
    exact ⟨fun h => refStep_no_panic r op h.symm, refRun_no_panic rest _⟩

theorem derefAll_valid (heap : List GoBytes) : ∀ l : List (GoBytes × Nat), (∀ e ∈ l, e.2 < heap.length) →
    derefAll heap l = some (l.map fun e => (e.1, (heap[e.2]?).getD none))
  | [], _ => rfl
  | (k, p) :: rest, h => by
    have hp : p < heap.length := h (k, p) List.mem_cons_self
    have ih := derefAll_valid heap rest fun e he => h e (List.mem_cons_of_mem _ he)
    simp only [derefAll, List.getElem?_eq_getElem hp, ih, List.map_cons, Option.getD_some]

/-- the drained `SStableIterator` of a well-formed state: the reference entries, strictly ascending -/
theorem iter_spec {m : MemStore} (hw : WF m) :
    ∃ l, iter m = some l ∧ l.map (fun e => (e.1.getD [], e.2)) = (view m).entries ∧ StrictAsc goCmp l := by
  have hit : iter m = derefAll m.heap (kv m) := rfl
  refine ⟨(kv m).map fun e => (e.1, (m.heap[e.2]?).getD none),
    hit.trans (derefAll_valid m.heap (kv m) hw.valid), ?_, ?_⟩
  · simp only [RefMap.entries, view, viewL, List.map_map]
    apply List.map_congr_left
    intro e _
    simp [cellAt, toGo_cellOf]
  · unfold StrictAsc
    rw [List.pairwise_map]
    exact kv_sorted hw

theorem length_eq_live_add_tomb (r : RefMap) : r.length = RefMap.liveCount r + RefMap.tombCount r := by
  unfold RefMap.liveCount RefMap.tombCount
  rw [← List.countP_eq_length_filter, ← List.countP_eq_length_filter,
    List.length_eq_countP_add_countP (fun e : Bytes × Cell => e.2 != .tomb)]
  congr 2
  funext e
  cases e.2 <;> rfl

/-- against the order-checking writer a strictly ascending call sequence is accepted call by call -/
theorem flushLoop_accepts (incl : Bool) : ∀ (l w : List (GoBytes × GoBytes)),
    StrictAsc goCmp l → (∀ a ∈ w, ∀ b ∈ l, goCmp a.1 b.1 = .lt) →
    flushLoop orderCheckingWriter incl w l
      = .ok ((l.filter fun e => incl || e.2.isSome).reverse ++ w)
  | [], w, _, _ => by simp [flushLoop]
  | (k, v) :: rest, w, hs, hw => by
    have hs' := List.pairwise_cons.1 hs
    have hacc : orderCheckingWriter w k v = .ok ((k, v) :: w) := by
      cases w with
      | nil => rfl
      | cons a w' =>
        have := hw a List.mem_cons_self (k, v) List.mem_cons_self
        simp only [orderCheckingWriter, this]
    have hnext : ∀ a ∈ (k, v) :: w, ∀ b ∈ rest, goCmp a.1 b.1 = .lt := by
      intro a ha b hb
      rcases List.mem_cons.1 ha with rfl | ha
      · exact hs'.1 b hb
      · exact hw a ha b (List.mem_cons_of_mem _ hb)
    have hskip : ∀ a ∈ w, ∀ b ∈ rest, goCmp a.1 b.1 = .lt :=
      fun a ha b hb => hw a ha b (List.mem_cons_of_mem _ hb)
    cases incl with
    | true =>
      simp only [flushLoop, if_true, hacc, flushLoop_accepts true rest _ hs'.2 hnext]
      simp
    | false =>
      cases v with
      | some vb =>
        simp only [flushLoop, Option.isSome_some, if_true, hacc,
          flushLoop_accepts false rest _ hs'.2 hnext]
        simp
      | none =>
        simp only [flushLoop, Option.isSome_none, flushLoop_accepts false rest _ hs'.2 hskip]
        simp

/-- both flush variants of a well-formed state -/
theorem flush_spec {m : MemStore} (hw : WF m) (incl : Bool) :
    ∃ calls, flushCalls m incl = some calls ∧ flush m incl = some (.ok calls) ∧
      calls.map (fun e => (e.1.getD [], e.2)) = ((view m).entries.filter fun e => incl || e.2.isSome) ∧
      StrictAsc goCmp calls := by
  obtain ⟨l, hl, hmap, hasc⟩ := iter_spec hw
  refine ⟨l.filter fun e => incl || e.2.isSome, ?_, ?_, ?_, ?_⟩
  · simp only [flushCalls, hl]
  · simp only [flush, hl, flushLoop_accepts incl l [] hasc (fun _ h => nomatch h)]
    simp
  · rw [← hmap, List.filter_map]
    rfl
  · exact List.Pairwise.sublist List.filter_sublist hasc

theorem final_flush_spec (prog : List (Op × Nat)) (hh : HeightsOk prog) (incl : Bool) :
    ∃ calls, flushCalls (finalM prog) incl = some calls ∧ flush (finalM prog) incl = some (.ok calls) ∧
      calls.map (fun e => (e.1.getD [], e.2)) = ((finalR prog).entries.filter fun e => incl || e.2.isSome) ∧
      StrictAsc goCmp calls := by
  obtain ⟨_, hw, hv⟩ := final_sim prog hh
  exact hv ▸ flush_spec hw incl

end SST.Proofs.MemP
