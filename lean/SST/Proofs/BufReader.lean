/-
The vendored bufio `Reader` refines the raw byte stream `Rd.stream`: `ReadByte` and `Read` hand out its next
bytes, for every capacity ≥ 1 and every schedule without 100 consecutive empty reads (`Rd.Inv`).  The refinement
uses of the underlying reader only what one `Read` call does (`under_read_step`).  The constructors give a capacity
≥ 1 (`effCap_pos`).  Outside the invariant: a stalling schedule (`fillLoop_stall`), capacity 0
(`readByte_cap0_panics`).
-/
import SST.Spec.BufReader
namespace SST.Buf
open SST Generated

theorem zeroRun_nil : zeroRun [] = 0 := rfl
theorem zeroRun_zero (t : List Nat) : zeroRun (0 :: t) = zeroRun t + 1 := by simp [zeroRun]
theorem zeroRun_pos (l : Nat) (t : List Nat) (h : l ≠ 0) : zeroRun (l :: t) = 0 := by simp [zeroRun, h]

theorem NoStall.drop {s : List Nat} (h : NoStall s) (n : Nat) : NoStall (s.drop n) := fun k => by
  have := h (n + k); rwa [← List.drop_drop] at this

theorem NoStall.head {s : List Nat} (h : NoStall s) : zeroRun s < maxConsecutiveEmptyReads := by
  have := h 0; simpa using this

theorem noStall_nil : NoStall [] := fun k => by simp [zeroRun, maxConsecutiveEmptyReads]

@[simp] theorem logged_rem (u : Under) (w : Nat) : (u.logged w).rem = u.rem := rfl
@[simp] theorem logged_sched (u : Under) (w : Nat) : (u.logged w).sched = u.sched := rfl
@[simp] theorem logged_eofData (u : Under) (w : Nat) : (u.logged w).eofData = u.eofData := rfl
@[simp] theorem logged_reqs (u : Under) (w : Nat) : (u.logged w).reqs = w :: u.reqs := rfl

/-- what one `Read(p)` of the underlying reader with a non-empty `p` (`len p = w`) does: it hands out a prefix
of what is left and uses up one schedule entry; an error is EOF with nothing left (with data only for the
`eofData` flavour); a read that yields neither data nor EOF is a scheduled empty read -/
structure Under.Step (u : Under) (w : Nat) (r : RR Under) : Prop where
  rem : u.rem = r.data ++ r.st.rem
  len : r.data.length ≤ w
  sched : r.st.sched = u.sched.drop 1
  ed : r.st.eofData = u.eofData
  err : r.err = none ∨ (r.err = some (.e .eof) ∧ r.st.rem = [] ∧ (r.data = [] ∨ u.eofData = true))
  progress : r.data ≠ [] ∨ r.err = some (.e .eof) ∨ u.sched = 0 :: r.st.sched

theorem under_read_step (u : Under) (w : Nat) (hw : 0 < w) : u.Step w (u.read w) := by
  have hdel : ∀ (v : Under) (n : Nat), 0 < n → n ≤ w → v.rem = u.rem → v.eofData = u.eofData →
      v.sched = u.sched.drop 1 → u.Step w (v.deliver n) := by
    intro v n hn hnw hrem hed hs
    unfold Under.deliver
    cases hr : v.rem with
    | nil => exact ⟨by simp [← hrem, hr], by simp, hs, hed, Or.inr ⟨rfl, hr, Or.inl rfl⟩, Or.inr (Or.inl rfl)⟩
    | cons x xs =>
      have hne : (x :: xs).take n ≠ [] := by
        obtain ⟨m, rfl⟩ := Nat.exists_eq_succ_of_ne_zero (Nat.ne_of_gt hn)
        simp
      refine ⟨by simp [← hrem, hr], Nat.le_trans (List.length_take_le _ _) hnw, hs, hed, ?_, Or.inl hne⟩
      by_cases hc : (v.eofData && ((x :: xs).drop n).isEmpty) = true
      · rw [if_pos hc]
        simp only [Bool.and_eq_true, List.isEmpty_iff] at hc
        exact Or.inr ⟨rfl, hc.2, Or.inr (hed ▸ hc.1)⟩
      · rw [if_neg hc]; exact Or.inl rfl
  cases hs : u.sched with
  | nil =>
    simp only [Under.read, Under.readCore, logged_sched, hs]
    exact hdel _ w hw (Nat.le_refl _) rfl rfl (by simp [hs])
  | cons l t =>
    by_cases hl : l = 0
    · subst hl
      simp only [Under.read, Under.readCore, logged_sched, hs, if_true]
      exact ⟨by simp, by simp, by simp [hs], rfl, Or.inl rfl, Or.inr (Or.inr hs)⟩
    · simp only [Under.read, Under.readCore, logged_sched, hs, if_neg hl]
      exact hdel _ (min l w) (Nat.lt_min.mpr ⟨Nat.pos_of_ne_zero hl, hw⟩) (Nat.min_le_right _ _) rfl rfl (by simp [hs])

def eofE : XErr := .e .eof

/-- the bytes the reader still has to hand out -/
def Rd.stream (b : Rd) : Bytes := b.pend ++ b.under.rem

/-- invariant of the buffered reader: capacity `cap ≥ 1`, a schedule that never stalls, the flavour `ed` of the
underlying reader, and a sticky error can only be the EOF of an exhausted underlying reader -/
structure Rd.Inv (cap : Nat) (ed : Bool) (b : Rd) : Prop where
  cap_eq : b.cap = cap
  cap_pos : 0 < cap
  ed_eq : b.under.eofData = ed
  noStall : NoStall b.under.sched
  err_ok : b.err = none ∨ (b.err = some (.e .eof) ∧ b.under.rem = [])

/-- a state that differs from one with the invariant only in the buffer, in a sticky error of the allowed kind
and in what the underlying reader has handed out -/
theorem Rd.Inv.step {cap : Nat} {ed : Bool} {b b' : Rd} (h : b.Inv cap ed) (k : Nat) (hc : b'.cap = b.cap)
    (hed : b'.under.eofData = b.under.eofData) (hs : b'.under.sched = b.under.sched.drop k)
    (he : b'.err = none ∨ (b'.err = some (.e .eof) ∧ b'.under.rem = [])) : b'.Inv cap ed :=
  { cap_eq := hc.trans h.cap_eq, cap_pos := h.cap_pos, ed_eq := hed.trans h.ed_eq,
    noStall := hs ▸ h.noStall.drop k, err_ok := he }

theorem sched_drop_le {u u' : Under} (h : u'.sched = u.sched.drop 1) : u'.sched.length ≤ u.sched.length := by
  rw [h, List.length_drop]
  exact Nat.sub_le _ _

/-- `fill` on an empty buffer without a pending error: it ends with data in the buffer, or with EOF -/
theorem fillLoop_spec (cap : Nat) (ed : Bool) : ∀ (i : Nat) (b : Rd), b.Inv cap ed → b.pend = [] → b.err = none →
    zeroRun b.under.sched < i →
    (b.fillLoop i).Inv cap ed ∧ (b.fillLoop i).stream = b.stream ∧
    ((b.fillLoop i).pend ≠ [] ∨ ((b.fillLoop i).pend = [] ∧ (b.fillLoop i).err = some (.e .eof))) := by
  intro i
  induction i with
  | zero => intro b _ _ _ h; omega
  | succ i ih =>
    intro b hinv hp he hz
    obtain ⟨s1, s2, s3, s4, s5, s6⟩ := under_read_step b.under (b.cap - b.pend.length)
      (by rw [hp, hinv.cap_eq]; simpa using hinv.cap_pos)
    rcases hr : b.under.read (b.cap - b.pend.length) with ⟨d, e, u'⟩
    simp only [hr] at s1 s2 s3 s4 s5 s6
    have hstream : b.pend ++ d ++ u'.rem = b.stream := by rw [List.append_assoc, ← s1]; rfl
    cases e with
    | some e =>
      obtain ⟨he', hrem, _⟩ := s5.resolve_left (by simp)
      have hfl : b.fillLoop (i + 1) = { b with pend := b.pend ++ d, under := u', err := some e } := by
        simp only [Rd.fillLoop, hr]
      rw [hfl]
      refine ⟨hinv.step 1 rfl s4 s3 (Or.inr ⟨he', hrem⟩), hstream, ?_⟩
      cases d <;> simp [hp, he']
    | none =>
      by_cases hd : d.length > 0
      · have hfl : b.fillLoop (i + 1) = { b with pend := b.pend ++ d, under := u' } := by
          simp only [Rd.fillLoop, hr, if_pos hd]
        rw [hfl]
        refine ⟨hinv.step 1 rfl s4 s3 (Or.inl he), hstream, Or.inl fun h => ?_⟩
        have : (b.pend ++ d).length = 0 := congrArg List.length h
        rw [List.length_append] at this; omega
      · -- an empty read: try again
        have hfl : b.fillLoop (i + 1) = Rd.fillLoop i { b with pend := b.pend ++ d, under := u' } := by
          simp only [Rd.fillLoop, hr, if_neg hd]
        have hs : b.under.sched = 0 :: u'.sched := by
          rcases s6 with h | h | h
          · exact absurd (List.length_pos_iff.mpr h) hd
          · cases h
          · exact h
        obtain ⟨g1, g2, g4⟩ := ih { b with pend := b.pend ++ d, under := u' }
          (hinv.step 1 rfl s4 s3 (Or.inl he)) (by simpa [hp] using hd) he
          (by rw [hs, zeroRun_zero] at hz; exact Nat.lt_of_succ_lt_succ hz)
        rw [hfl]
        exact ⟨g1, g2.trans hstream, g4⟩

/-- `ReadByte`: the next byte of the stream, EOF at its end -/
theorem rd_readByte_spec (cap : Nat) (ed : Bool) (b : Rd) (hinv : b.Inv cap ed) :
    ∃ b', b.readByte = ((specByte b.stream).1, b') ∧ b'.Inv cap ed ∧ b'.stream = (specByte b.stream).2 := by
  -- a state with a byte in the buffer, or with a sticky EOF, answers at once
  have hnow : ∀ (k : Nat) (a : Rd), a.Inv cap ed → (a.pend ≠ [] ∨ a.err ≠ none) →
      ∃ b', a.readByteLoop (k + 1) = ((specByte a.stream).1, b') ∧ b'.Inv cap ed ∧
        b'.stream = (specByte a.stream).2 := by
    intro k a ha hset
    unfold Rd.readByteLoop
    cases hp : a.pend with
    | cons c rest =>
      exact ⟨{ a with pend := rest }, by simp [Rd.stream, hp, specByte], ha.step 0 rfl rfl rfl ha.err_ok,
        by simp [Rd.stream, hp, specByte]⟩
    | nil =>
      obtain ⟨he, hrem⟩ := ha.err_ok.resolve_left (hset.resolve_left (by simp [hp]))
      exact ⟨{ a with err := none }, by simp [Rd.stream, hp, hrem, he, specByte],
        ha.step 0 rfl rfl rfl (Or.inl rfl), by simp [Rd.stream, hp, hrem, specByte]⟩
  by_cases hset : b.pend ≠ [] ∨ b.err ≠ none
  · exact hnow 2 b hinv hset
  · -- empty buffer, no sticky error: fill first
    have hp : b.pend = [] := Classical.byContradiction fun h => hset (Or.inl h)
    have he : b.err = none := Classical.byContradiction fun h => hset (Or.inr h)
    have hfill : b.fill = some (b.fillLoop maxConsecutiveEmptyReads) := by
      have := hinv.cap_pos
      simp only [Rd.fill, hp, List.length_nil, hinv.cap_eq]
      rw [if_neg (by omega)]
    obtain ⟨f1, f2, f4⟩ := fillLoop_spec cap ed maxConsecutiveEmptyReads b hinv hp he hinv.noStall.head
    obtain ⟨b', h1, h2, h3⟩ := hnow 1 _ f1 (f4.imp id fun h => by simp [h.2])
    rw [f2] at h1 h3
    refine ⟨b', ?_, h2, h3⟩
    simp only [Rd.readByte, Rd.readByteLoop, hp, he, hfill]
    exact h1

/-- one `Read(p)` with a non-empty `p`: a prefix of the stream; an error is EOF at the end of the stream; and a
call without error makes progress: it yields bytes or uses up a schedule entry (the measure of the loops of
`io.ReadFull` and `io.ReadAll`) -/
theorem rd_read_spec (cap : Nat) (ed : Bool) (b : Rd) (n : Nat) (hn : 0 < n) (hinv : b.Inv cap ed) :
    ∃ d e b', b.read n = ⟨d, e, b'⟩ ∧ b'.Inv cap ed ∧ d ++ b'.stream = b.stream ∧ d.length ≤ n ∧
      (e = none ∨ (e = some (.e .eof) ∧ b'.stream = [] ∧ (d = [] ∨ ed = true))) ∧
      (e = none → b'.under.sched.length < d.length + b.under.sched.length) := by
  have hn0 : n ≠ 0 := by omega
  -- the tail of `Read`: hand out what is in the (non-empty) buffer
  have hcopy : ∀ (a : Rd), a.Inv cap ed → a.pend ≠ [] →
      ∃ d b', a.copyOut n = ⟨d, none, b'⟩ ∧ b'.Inv cap ed ∧ d ++ b'.stream = a.stream ∧ d.length ≤ n ∧ d ≠ [] ∧
        b'.under.sched.length = a.under.sched.length := by
    intro a ha hne
    refine ⟨a.pend.take n, { a with pend := a.pend.drop n }, rfl, ha.step 0 rfl rfl rfl ha.err_ok, ?_, ?_, ?_, rfl⟩
    · simp [Rd.stream, ← List.append_assoc]
    · exact List.length_take_le _ _
    · cases hp : a.pend with
      | nil => exact absurd hp hne
      | cons c rest =>
        obtain ⟨m, rfl⟩ := Nat.exists_eq_succ_of_ne_zero hn0
        simp
  -- an empty buffer: what one read of the underlying reader yields is passed on as it is
  have hpass : ∀ (w : Nat) (r : RR Under) (b' : Rd), b' = { b with under := r.st } → b.pend = [] → b.err = none →
      b.under.Step w r → r.data.length ≤ n →
      b'.Inv cap ed ∧ r.data ++ b'.stream = b.stream ∧ r.data.length ≤ n ∧
      (r.err = none ∨ (r.err = some (.e .eof) ∧ b'.stream = [] ∧ (r.data = [] ∨ ed = true))) ∧
      (r.err = none → b'.under.sched.length < r.data.length + b.under.sched.length) := by
    rintro w r b' rfl hp he st hlen
    refine ⟨hinv.step 1 rfl st.ed st.sched (Or.inl he), by simp [Rd.stream, hp, st.rem], hlen, ?_, fun hn => ?_⟩
    · simpa [Rd.stream, hp, hinv.ed_eq] using st.err
    · rcases st.progress with h | h | h
      · exact Nat.lt_of_le_of_lt (sched_drop_le st.sched) (Nat.lt_add_of_pos_left (List.length_pos_iff.mpr h))
      · rw [hn] at h; cases h
      · rw [h, List.length_cons]; exact Nat.lt_add_left _ (Nat.lt_succ_self _)
  cases hp : b.pend with
  | cons c rest =>
    obtain ⟨d, b', h1, h2, h3, h4, h5, h6⟩ := hcopy b hinv (by rw [hp]; simp)
    refine ⟨d, none, b', ?_, h2, h3, h4, Or.inl rfl, fun _ => ?_⟩
    · simp only [Rd.read, if_neg hn0, hp]
      rw [← h1]
    · exact h6 ▸ Nat.lt_add_of_pos_left (List.length_pos_iff.mpr h5)
  | nil =>
    rcases hinv.err_ok with he | ⟨he, hrem⟩
    · by_cases hbig : n ≥ b.cap ∧ b.aligned = false
      · -- large read, empty buffer
        have st := under_read_step b.under n hn
        refine ⟨_, _, _, ?_, hpass n _ _ rfl hp he st st.len⟩
        simp only [Rd.read, if_neg hn0, hp, he, if_pos hbig]
      · -- one read into the buffer, then copy
        have st := under_read_step b.under b.cap (hinv.cap_eq ▸ hinv.cap_pos)
        rcases hr : b.under.read b.cap with ⟨d, e, u'⟩
        rw [hr] at st
        cases d with
        | nil =>
          refine ⟨_, _, _, ?_, hpass b.cap _ _ rfl hp he st (Nat.zero_le _)⟩
          simp only [Rd.read, if_neg hn0, hp, he, if_neg hbig, hr, List.length_nil, if_true]
        | cons x d =>
          have ha : ({ b with pend := x :: d, err := e, under := u' } : Rd).Inv cap ed :=
            hinv.step 1 rfl st.ed st.sched (st.err.imp_right fun h => ⟨h.1, h.2.1⟩)
          obtain ⟨d', b', h1, h2, h3, h4, h5, h6⟩ := hcopy _ ha (by simp)
          refine ⟨d', none, b', ?_, h2, ?_, h4, Or.inl rfl, fun _ =>
            h6 ▸ Nat.lt_of_le_of_lt (sched_drop_le st.sched) (Nat.lt_add_of_pos_left (List.length_pos_iff.mpr h5))⟩
          · simp only [Rd.read, if_neg hn0, hp, he, if_neg hbig, hr, List.length_cons, Nat.succ_ne_zero, if_false]
            exact h1
          · rw [h3]; simp [Rd.stream, hp, st.rem]
    · -- sticky EOF with an empty buffer
      refine ⟨[], some (.e .eof), { b with err := none }, ?_, hinv.step 0 rfl rfl rfl (Or.inl rfl), ?_, by simp,
        Or.inr ⟨rfl, by simp [Rd.stream, hp, hrem], Or.inl rfl⟩, fun h => nomatch h⟩
      · simp only [Rd.read, if_neg hn0, hp, he]
      · simp [Rd.stream]

theorem effCap_pos (cap : Nat) : 0 < effCap cap := by
  unfold effCap minReadBufferSize; split <;> omega

theorem effCap_of_pos (cap : Nat) (h : 0 < cap) : effCap cap = cap := by
  unfold effCap; rw [if_neg (by omega)]

theorem constructed_cap_pos' (aligned : Bool) (cap : Nat) (u : Under) : 0 < (Rd.make aligned cap u).cap :=
  effCap_pos cap

theorem fillLoop_stall : ∀ (i : Nat) (b : Rd), b.pend = [] → i ≤ zeroRun b.under.sched →
    (b.fillLoop i).err = some .noProgress ∧ (b.fillLoop i).pend = [] ∧ (b.fillLoop i).cap = b.cap ∧
    (b.fillLoop i).under.rem = b.under.rem ∧ (b.fillLoop i).under.sched = b.under.sched.drop i := by
  intro i
  induction i with
  | zero => intro b hp _; simp [Rd.fillLoop, hp]
  | succ i ih =>
    intro b hp hz
    cases hs : b.under.sched with
    | nil => rw [hs] at hz; simp [zeroRun] at hz
    | cons l t =>
      rw [hs] at hz
      by_cases hl : l = 0
      · subst hl
        rw [zeroRun_zero] at hz
        have hr : b.under.read (b.cap - b.pend.length) =
            ⟨[], none, { b.under.logged (b.cap - b.pend.length) with sched := t }⟩ := by
          simp [Under.read, Under.readCore, hs]
        simp only [Rd.fillLoop, hr, List.length_nil, Nat.lt_irrefl, if_false]
        have := ih ({ b with pend := b.pend ++ [], under := { b.under.logged (b.cap - b.pend.length) with sched := t } } : Rd) (by simp [hp])
          (by show i ≤ zeroRun t; omega)
        dsimp only at this
        obtain ⟨g1, g2, g3, g5, g6⟩ := this
        exact ⟨g1, g2, g3, g5, by rw [g6]; simp⟩
      · rw [zeroRun_pos l t hl] at hz; omega

/-- a reader with `len(b.buf) = 0` (what `NewReaderBuf` made of an empty buffer before /repo commit 964130e):
`ReadByte` panics in `fill` -/
theorem readByte_cap0_panics (b : Rd) (hcap : b.cap = 0) (hp : b.pend = []) (he : b.err = none) :
    b.readByte = (.error .panicFill, b) := by
  simp [Rd.readByte, Rd.readByteLoop, hp, he, Rd.fill, hcap]

end SST.Buf
