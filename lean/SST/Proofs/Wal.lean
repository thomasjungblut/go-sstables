/-
The appender simulates the directory (`Sim`): the directory holds the rotated files completely and, of the current
file, all bytes but those still in the write buffer.  Every piece of the appender's work keeps this and issues only
events admissible towards whatever log extends the present one (`Moves`, composed by `Moves.trans`).  When an
`AppendSync` returns the directory is a whole log (`WholeAt`, `DurableAt`: what is durable, said without the
replayer).  Hence every event prefix of a run leaves a crash image, replay of it returns a prefix of the appended
records that holds all records up to the last `AppendSync` that had returned, and after `Close` all of them.
-/
import SST.Proofs.BufW
import SST.Proofs.WalEvents
import SST.Proofs.WalReplay
namespace SST.Proofs
open SST Generated

theorem fw_write_aligned (c : Compression) (f : FW) (r : GoBytes) :
    (f.write c r).1.w.aligned = f.w.aligned := by
  cases r with
  | none => simp only [FW.write]; rw [write_aligned]
  | some p => simp only [FW.write]; rw [write_aligned, write_aligned]

/-- `Write(record)`: what reaches the file plus what stays buffered is the old buffer plus the record -/
theorem fw_write_transp (c : Compression) (f : FW) (r : GoBytes) :
    (f.write c r).2.flatten ++ (f.write c r).1.w.buf = f.w.buf ++ encRecord c r := by
  cases r with
  | none =>
    simp only [FW.write, encRecord]
    exact write_transp f.w _
  | some p =>
    simp only [FW.write, encRecord, List.flatten_append, List.append_assoc]
    have h1 := write_transp f.w (encHeader false p.length (clenOf c p))
    have h2 := write_transp (f.w.write (encHeader false p.length (clenOf c p))).1 (stored c p)
    rw [h2, ← List.append_assoc, h1, List.append_assoc]

theorem fw_flush_aligned (f : FW) : f.flush.1.w.aligned = f.w.aligned := by
  simp only [FW.flush]; rw [flush_aligned]

theorem fw_flush_buf (f : FW) : f.flush.1.w.buf = [] := by
  simp only [FW.flush]; rw [flush_buf]

theorem fw_flush_out (f : FW) (ha : f.w.aligned = false) : f.flush.2.flatten = f.w.buf := by
  simp only [FW.flush]; exact flush_out f.w ha

theorem fw_open_aligned (bs ct : Nat) : (FW.open bs ct).1.w.aligned = false := by
  simp only [FW.open]; rw [flush_aligned, write_aligned]; rfl

theorem fw_open_buf (bs ct : Nat) : (FW.open bs ct).1.w.buf = [] := by
  simp only [FW.open]; rw [flush_buf]

theorem fw_open_out (bs ct : Nat) : (FW.open bs ct).2.flatten = fileHeader currentVersion ct := by
  simp only [FW.open, List.flatten_append]
  have h1 := write_transp (BufW.init bs) (fileHeader currentVersion ct)
  have h2 := flush_out ((BufW.init bs).write (fileHeader currentVersion ct)).1
    (by rw [write_aligned]; rfl)
  rw [h2, h1]; rfl

theorem fileOf_last (c : Compression) (ct : Nat) (closed : List (List GoBytes)) (cur : List GoBytes) :
    fileOf c ct (closed ++ [cur]) closed.length = fileBytes c ct cur := by
  simp [fileOf, List.getD_eq_getElem?_getD]

theorem fileOf_closed (c : Compression) (ct : Nat) (closed : List (List GoBytes)) (x : List (List GoBytes))
    (j : Nat) (hj : j < closed.length) :
    fileOf c ct (closed ++ x) j = fileBytes c ct (closed.getD j []) := by
  simp [fileOf, List.getD_eq_getElem?_getD, List.getElem?_append_left hj]

theorem rotate_eq (o : WalOpts) (w : Wal) :
    w.rotate o =
      if w.dead then (w, [], some .other)
      else if w.next ≥ maxWalFiles then
        ({ w with fw := w.fw.flush.1, dead := true },
          w.fw.flush.2.map (.write w.num) ++ [.close w.num], some .other)
      else
        ({ next := w.next + 1, num := w.next, fw := (FW.open o.bufSize o.ct).1, dead := false },
          w.fw.flush.2.map (.write w.num) ++ [.close w.num] ++
            .create w.next :: (FW.open o.bufSize o.ct).2.map (.write w.next), none) := by
  unfold Wal.rotate
  by_cases hd : w.dead = true
  · rw [if_pos hd]
  · rw [if_neg hd]

/-- the part of `Append`/`AppendSync` after `checkSizeAndRotate` -/
def writePart (c : Compression) (sync : Bool) (w1 : Wal) (r : GoBytes) : Wal × List FsEvent :=
  if sync then
    ({ w1 with fw := (w1.fw.write c r).1.flush.1 },
      ((w1.fw.write c r).2 ++ (w1.fw.write c r).1.flush.2).map (.write w1.num) ++ [.fsync w1.num])
  else ({ w1 with fw := (w1.fw.write c r).1 }, (w1.fw.write c r).2.map (.write w1.num))

theorem append_eq (o : WalOpts) (c : Compression) (sync : Bool) (w : Wal) (r : GoBytes) :
    w.append o c sync r =
      if w.dead then (w, [], some .other)
      else if w.fw.cur + (r.getD []).length > o.maxSize then
        (match (w.rotate o).2.2 with
         | some e => ((w.rotate o).1, (w.rotate o).2.1, some e)
         | none => ((writePart c sync (w.rotate o).1 r).1,
                    (w.rotate o).2.1 ++ (writePart c sync (w.rotate o).1 r).2, none))
      else ((writePart c sync w r).1, (writePart c sync w r).2, none) := by
  unfold Wal.append writePart
  by_cases hd : w.dead = true
  · rw [if_pos hd, if_pos hd]
  · rw [if_neg hd, if_neg hd]
    by_cases hs : w.fw.cur + (r.getD []).length > o.maxSize
    · rw [if_pos hs, if_pos hs]
      generalize w.rotate o = x
      obtain ⟨w1, ev1, _ | e⟩ := x
      · cases sync <;> simp
      · rfl
    · rw [if_neg hs, if_neg hs]
      cases sync <;> rfl

theorem bytesWritten_append (f : Nat) (xs ys : List FsEvent) :
    bytesWritten f (xs ++ ys) = bytesWritten f xs ++ bytesWritten f ys := by
  induction xs with
  | nil => simp [bytesWritten]
  | cons e es ih =>
    cases e with
    | write g bs =>
      simp only [List.cons_append, bytesWritten]
      split <;> simp [ih]
    | _ => simp only [List.cons_append, bytesWritten, ih]

theorem bytesWritten_writes (f : Nat) (chs : List Bytes) :
    bytesWritten f (chs.map (.write f)) = chs.flatten := by
  induction chs with
  | nil => rfl
  | cons ch chs ih => simp [bytesWritten, ih]

theorem writePart_sync (c : Compression) (w1 : Wal) (r : GoBytes) (hna : w1.fw.w.aligned = false) :
    ∃ evs0, (writePart c true w1 r).2 = evs0 ++ [.fsync (writePart c true w1 r).1.num] ∧
      bytesWritten (writePart c true w1 r).1.num evs0 = w1.fw.w.buf ++ encRecord c r ∧
      (writePart c true w1 r).1.fw.w.buf = [] := by
  simp only [writePart, if_true]
  refine ⟨_, rfl, ?_, fw_flush_buf _⟩
  rw [bytesWritten_writes, List.flatten_append,
    fw_flush_out _ (by rw [fw_write_aligned]; exact hna)]
  exact fw_write_transp c w1.fw r

theorem rotate_aligned (o : WalOpts) (w : Wal) (hna : w.fw.w.aligned = false) :
    (w.rotate o).1.fw.w.aligned = false := by
  rw [rotate_eq]
  split
  · exact hna
  · split
    · dsimp only
      rw [fw_flush_aligned]; exact hna
    · dsimp only
      exact fw_open_aligned _ _

/-- `AppendSync r` that returns without error: its events end with an `fsync` of the file the record went to,
the bytes of the `write` events to that file before it end with all bytes of the encoded record, and nothing is left in
the buffer. -/
theorem sync_is_durable (o : WalOpts) (c : Compression) (w : Wal) (r : GoBytes)
    (hna : w.fw.w.aligned = false) (hok : (w.append o c true r).2.2 = none) :
    ∃ evs0 pre, (w.append o c true r).2.1 = evs0 ++ [.fsync (w.append o c true r).1.num] ∧
      bytesWritten (w.append o c true r).1.num evs0 = pre ++ encRecord c r ∧
      (w.append o c true r).1.fw.w.buf = [] := by
  rw [append_eq] at hok ⊢
  by_cases hd : w.dead = true
  · rw [if_pos hd] at hok; simp at hok
  · rw [if_neg hd] at hok ⊢
    by_cases hs : w.fw.cur + (r.getD []).length > o.maxSize
    · rw [if_pos hs] at hok ⊢
      cases he : (w.rotate o).2.2 with
      | some e => rw [he] at hok; simp at hok
      | none =>
        obtain ⟨evs0, h1, h2, h3⟩ := writePart_sync c (w.rotate o).1 r (rotate_aligned o w hna)
        refine ⟨(w.rotate o).2.1 ++ evs0,
          bytesWritten (writePart c true (w.rotate o).1 r).1.num (w.rotate o).2.1 ++ (w.rotate o).1.fw.w.buf,
          ?_, ?_, h3⟩
        · show (w.rotate o).2.1 ++ (writePart c true (w.rotate o).1 r).2 = _
          rw [h1, List.append_assoc]
        · show bytesWritten (writePart c true (w.rotate o).1 r).1.num _ = _
          rw [bytesWritten_append, h2, List.append_assoc]
    · rw [if_neg hs]
      obtain ⟨evs0, h1, h2, h3⟩ := writePart_sync c w r hna
      exact ⟨evs0, w.fw.w.buf, h1, h2, h3⟩

theorem traceEvents_cons (t : OpTrace) (ts : List OpTrace) :
    traceEvents (t :: ts) = t.evs ++ traceEvents ts := by
  simp [traceEvents]

theorem traceRecords_cons (t : OpTrace) (ts : List OpTrace) :
    traceRecords (t :: ts) = t.rec?.toList ++ traceRecords ts := by
  unfold traceRecords
  rw [List.filterMap_cons]
  cases t.rec? <;> simp

theorem isSome_succ {α : Type} (x : Option α) (n : Nat) :
    (if x.isSome then n + 1 else n) = n + x.toList.length := by
  cases x <;> rfl

theorem rec?_op {op : WalOp} {es : List FsEvent} {e : Option Err} {r : GoBytes}
    (h : OpTrace.rec? ⟨op, es, e⟩ = some r) : op = .append r ∨ op = .appendSync r := by
  cases e with
  | some _ => cases op <;> cases h
  | none =>
    cases op <;> cases h
    · exact .inl rfl
    · exact .inr rfl

theorem runFrom_cons (o : WalOpts) (c : Compression) (w : Wal) (op : WalOp) (ops : List WalOp) :
    Wal.runFrom o c w (op :: ops) =
      ((Wal.runFrom o c (w.step o c op).1 ops).1,
        { op := op, evs := (w.step o c op).2.1, err := (w.step o c op).2.2 } ::
          (Wal.runFrom o c (w.step o c op).1 ops).2) := rfl

/-- This and the three equations after it hold by unfolding, but a plain `rfl` would unfold `Wal.init` down into the
buffered writer's loop, here and wherever the two sides are to be identified; so the run is abstracted first, and
later proofs rewrite. -/
theorem run_eq (o : WalOpts) (c : Compression) (prog : List WalOp) :
    Wal.run o c prog = ((Wal.runFrom o c (Wal.init o).1 prog).1, (Wal.init o).2,
      (Wal.runFrom o c (Wal.init o).1 prog).2) := by
  unfold Wal.run
  generalize Wal.init o = i
  rfl

theorem walEvents_eq (o : WalOpts) (c : Compression) (prog : List WalOp) :
    walEvents o c prog = (Wal.run o c prog).2.1 ++ traceEvents (Wal.run o c prog).2.2 := by
  unfold walEvents
  generalize Wal.run o c prog = r
  rfl

theorem walEventsClosed_eq (o : WalOpts) (c : Compression) (prog : List WalOp) :
    walEventsClosed o c prog = walEvents o c prog ++ (Wal.run o c prog).1.close.1 := by
  unfold walEventsClosed walEvents
  generalize Wal.run o c prog = r
  rfl

theorem durableWithin_eq (o : WalOpts) (c : Compression) (prog : List WalOp) (n : Nat) :
    durableWithin o c prog n = durableAux (Wal.run o c prog).2.2 (Wal.run o c prog).2.1.length 0 0 n := by
  unfold durableWithin
  generalize Wal.run o c prog = r
  rfl

theorem init_state (o : WalOpts) :
    (Wal.init o).1.dead = false ∧ (Wal.init o).1.next = 1 ∧ (Wal.init o).1.fw.w.buf = [] := by
  have h := fw_open_buf o.bufSize o.ct
  unfold Wal.init
  generalize FW.open o.bufSize o.ct = fo at h ⊢
  exact ⟨rfl, rfl, h⟩

theorem fitsAll_iff (c : Compression) (full : List (List GoBytes)) :
    FitsAll c full ↔ ∀ r ∈ full.flatten, FitsRec c r := by
  simp only [FitsAll, List.mem_flatten]
  constructor
  · rintro h r ⟨rs, h1, h2⟩; exact h rs h1 r h2
  · intro h rs h1 r h2; exact h r ⟨rs, h1, h2⟩

theorem replay_complete (cOf : Nat → Compression) (c : Compression) (ct : Nat) (hc : cOf ct = c) (hl : LawfulC c)
    (hct : ct ≤ maxCompression) (full : List (List GoBytes)) (hf : FitsAll c full) (hm : full.length ≤ maxWalFiles) :
    replay cOf (completeDir (fileOf c ct full) full.length).named = (full.flatten, none) := by
  rw [replay_img cOf c ct hc hl hct full hf hm _ (img_complete _ _), imgRecords_complete c ct full _ (Nat.le_refl _),
    List.take_length]

namespace Wal

/-- `F 0 .. F (m-1)`, the files a log will finally hold, extend the log whose rotated files hold `closed` and
whose current file holds (logically) `cur`. -/
structure Ext (c : Compression) (ct : Nat) (F : Nat → Bytes) (m : Nat) (closed : List (List GoBytes))
    (cur : List GoBytes) : Prop where
  lt : closed.length < m
  old : ∀ j, j < closed.length → F j = fileOf c ct closed j
  cur : fileBytes c ct cur <+: F closed.length

namespace Ext
variable {c : Compression} {ct : Nat} {F : Nat → Bytes} {m : Nat} {closed : List (List GoBytes)} {cur : List GoBytes}

theorem dir (h : Ext c ct F m closed cur) :
    completeDir (fileOf c ct closed) closed.length = completeDir F closed.length :=
  completeDir_congr F _ _ (fun i hi => (h.old i hi).symm)

/-- a log extends itself -/
theorem refl (c : Compression) (ct : Nat) (closed : List (List GoBytes)) (cur : List GoBytes) :
    Ext c ct (fileOf c ct (closed ++ [cur])) (closed ++ [cur]).length closed cur where
  lt := by rw [List.length_append]; exact Nat.lt_succ_self _
  old j hj := fileOf_closed c ct closed [cur] j hj
  cur := by rw [fileOf_last]; exact List.prefix_refl _

/-- what extends the log after a rotation extended it before -/
theorem of_rotate (h : Ext c ct F m (closed ++ [cur]) []) : Ext c ct F m closed cur where
  lt := Nat.lt_trans (refl c ct closed cur).lt h.lt
  old j hj := (h.old j (Nat.lt_trans hj (refl c ct closed cur).lt)).trans (fileOf_closed c ct closed [cur] j hj)
  cur := by
    rw [h.old closed.length (refl c ct closed cur).lt, fileOf_last]
    exact List.prefix_refl _

end Ext

/-- The appender `w` simulates the directory `d`.  `closed` = records of the files already rotated away, complete
in `d`; `cur` = records written to the current file, of whose bytes `d` holds all but those still in the buffer. -/
structure Sim (o : WalOpts) (c : Compression) (w : Wal) (closed : List (List GoBytes)) (cur : List GoBytes)
    (d : DirN) : Prop where
  num : w.num = closed.length
  next : w.next = w.num + 1
  lim : w.num < maxWalFiles
  nal : w.fw.w.aligned = false
  dir : ∃ D, d = completeDir (fileOf c o.ct closed) closed.length ++ [(closed.length, D)] ∧
    D ++ w.fw.w.buf = fileBytes c o.ct cur
  dead : w.dead = true → w.fw.w.buf = []

namespace Sim

variable {o : WalOpts} {c : Compression} {w : Wal} {closed : List (List GoBytes)} {cur : List GoBytes} {d : DirN}

theorem length_le (h : Sim o c w closed cur d) : (closed ++ [cur]).length ≤ maxWalFiles := by
  rw [List.length_append, ← h.num]; exact h.lim

theorem dir_flushed (h : Sim o c w closed cur d) (hbuf : w.fw.w.buf = []) :
    d = completeDir (fileOf c o.ct (closed ++ [cur])) (closed ++ [cur]).length := by
  obtain ⟨D, rfl, hDb⟩ := h.dir
  rw [hbuf, List.append_nil] at hDb
  rw [List.length_append, List.length_singleton, completeDir_succ, fileOf_last, hDb, (Ext.refl c o.ct closed cur).dir]

/-- `setupNextWriter` in a directory that holds the files `full`, all complete: create the next file, write its
header; the events are admissible towards whatever extends the log afterwards.  (`fo` is `FW.open ..`; as a
variable it keeps the buffered writer's loop out of every unification.) -/
theorem setup (o : WalOpts) (c : Compression) (full : List (List GoBytes)) (hlim : full.length < maxWalFiles)
    (fo : FW × List Bytes) (hal : fo.1.w.aligned = false) (hbuf : fo.1.w.buf = [])
    (hout : fo.2.flatten = fileHeader currentVersion o.ct) :
    Sim o c { next := full.length + 1, num := full.length, fw := fo.1, dead := false } full []
      ((FsEvent.create full.length :: fo.2.map (.write full.length)).foldl applyEvent
        (completeDir (fileOf c o.ct full) full.length)) ∧
    ∀ F m, Ext c o.ct F m full [] →
      Adm F m (completeDir (fileOf c o.ct full) full.length)
        (FsEvent.create full.length :: fo.2.map (.write full.length)) := by
  refine ⟨{ num := rfl, next := rfl, lim := hlim, nal := hal, dead := fun h => Bool.noConfusion h
            dir := ⟨fo.2.flatten, ?_, by rw [hbuf, List.append_nil, hout, fileBytes_nil]⟩ }, fun F m hF => ?_⟩
  · rw [List.foldl_cons, apply_create, foldl_writes, List.nil_append]
  · rw [adm_cons, hF.dir, apply_create]
    exact ⟨⟨rfl, hF.lt⟩, adm_writes F m _ hF.lt [] fo.2 (by
      rw [List.nil_append, hout, ← fileBytes_nil c]; exact hF.cur)⟩

end Sim

/-- the directory `d` is a whole log of `q` records: every file complete, nothing buffered anywhere -/
def WholeAt (o : WalOpts) (c : Compression) (d : DirN) (q : Nat) : Prop :=
  ∃ full, d = completeDir (fileOf c o.ct full) full.length ∧ FitsAll c full ∧ full.length ≤ maxWalFiles ∧
    full.flatten.length = q

theorem WholeAt.replay {o : WalOpts} {c : Compression} {d : DirN} {q : Nat} (h : WholeAt o c d q)
    {cOf : Nat → Compression} (hra : ReaderAgrees cOf o c) (hl : LawfulC c) :
    ∃ rs, replay cOf d.named = (rs, none) ∧ rs.length = q := by
  obtain ⟨full, rfl, hf, hm, hq⟩ := h
  exact ⟨_, replay_complete cOf c o.ct hra.1 hl hra.2 full hf hm, hq⟩

/-- `x` is a durable count after the first `n` events of a run of which `ec` events came before `evs`, and `evs`
start in directory `d`: `x` is the count `best` known before, or after some prefix of `evs` (still within the first
`n` events) the directory was a whole log of `x` records.  This is what `durableAux` computes, said without the
replayer, which comes in once, in `closed_run`. -/
def DurableAt (o : WalOpts) (c : Compression) (d : DirN) (evs : List FsEvent) (ec n best x : Nat) : Prop :=
  x = best ∨ ∃ pre, pre <+: evs ∧ ec + pre.length ≤ n ∧ WholeAt o c (pre.foldl applyEvent d) x

/-- what is durable in the run `e2` that starts behind the events `e1` is durable in the run `e1 ++ e2` -/
theorem DurableAt.later {o : WalOpts} {c : Compression} {d : DirN} {e1 e2 : List FsEvent} {ec n best x : Nat}
    (h : DurableAt o c (e1.foldl applyEvent d) e2 (ec + e1.length) n best x) :
    DurableAt o c d (e1 ++ e2) ec n best x :=
  h.imp id fun ⟨pre, hp, hn, hw⟩ => ⟨e1 ++ pre, (List.prefix_append_right_inj _).mpr hp,
    List.length_append ▸ Nat.add_assoc _ _ _ ▸ hn, List.foldl_append ▸ hw⟩

/-- A piece of the appender's work: in directory `d`, over the log `closed`, `cur`, the events `evs` lead to the
appender `w'` over the log `cl`, `cu`.  The log only grows, and the events are admissible towards WHATEVER extends
it afterwards: no final contents are fixed while pieces are put together (`Moves.trans`); those of a whole run go
in once, at its end (`Ext.refl`). -/
structure Moves (o : WalOpts) (c : Compression) (closed : List (List GoBytes)) (cur : List GoBytes) (d : DirN)
    (evs : List FsEvent) (w' : Wal) (cl : List (List GoBytes)) (cu : List GoBytes) : Prop where
  sim : Sim o c w' cl cu (evs.foldl applyEvent d)
  adm : ∀ F m, Ext c o.ct F m cl cu → Ext c o.ct F m closed cur ∧ Adm F m d evs

namespace Moves
variable {o : WalOpts} {c : Compression} {w : Wal} {closed : List (List GoBytes)} {cur : List GoBytes} {d : DirN}

theorem refl (h : Sim o c w closed cur d) : Moves o c closed cur d [] w closed cur :=
  ⟨h, fun F m hF => ⟨hF, adm_nil F m d⟩⟩

theorem trans {e1 e2 : List FsEvent} {w1 w2 : Wal} {cl1 cl2 : List (List GoBytes)} {cu1 cu2 : List GoBytes}
    (h1 : Moves o c closed cur d e1 w1 cl1 cu1) (h2 : Moves o c cl1 cu1 (e1.foldl applyEvent d) e2 w2 cl2 cu2) :
    Moves o c closed cur d (e1 ++ e2) w2 cl2 cu2 where
  sim := List.foldl_append ▸ h2.sim
  adm F m hF :=
    have ⟨hE2, a2⟩ := h2.adm F m hF
    have ⟨hE1, a1⟩ := h1.adm F m hE2
    ⟨hE1, (adm_append F m d e1 e2).mpr ⟨a1, a2⟩⟩

/-- chunks written to the current file: the buffered writer `fw'` takes the place of `w.fw`, `extra` are the bytes
that the records `cur'` have more than `cur` -/
theorem chunks (h : Sim o c w closed cur d) (fw' : FW) (dd : Bool) (cur' : List GoBytes) (extra : Bytes)
    (ch : List Bytes) (hal : fw'.w.aligned = false) (hdd : dd = true → fw'.w.buf = [])
    (ht : ch.flatten ++ fw'.w.buf = w.fw.w.buf ++ extra)
    (hcur : fileBytes c o.ct cur' = fileBytes c o.ct cur ++ extra) :
    Moves o c closed cur d (ch.map (.write w.num)) { w with fw := fw', dead := dd } closed cur' := by
  obtain ⟨D, rfl, hDb⟩ := h.dir
  have hD : (D ++ ch.flatten) ++ fw'.w.buf = fileBytes c o.ct cur' := by
    rw [List.append_assoc, ht, ← List.append_assoc, hDb, hcur]
  refine ⟨{ num := h.num, next := h.next, lim := h.lim, nal := hal, dead := hdd
            dir := ⟨D ++ ch.flatten, ?_, hD⟩ },
    fun F m hF => ⟨{ hF with cur := List.IsPrefix.trans (hcur ▸ List.prefix_append _ _) hF.cur }, ?_⟩⟩
  · rw [h.num]; exact foldl_writes _ _ D ch
  · rw [h.num, hF.dir]
    exact adm_writes F m closed.length hF.lt D ch (List.IsPrefix.trans ⟨_, hD⟩ hF.cur)

theorem flush (h : Sim o c w closed cur d) (dd : Bool) :
    Moves o c closed cur d (w.fw.flush.2.map (.write w.num)) { w with fw := w.fw.flush.1, dead := dd } closed cur :=
  chunks h _ dd cur [] _ ((fw_flush_aligned _).trans h.nal) (fun _ => fw_flush_buf _)
    (by rw [fw_flush_out _ h.nal, fw_flush_buf]) (List.append_nil _).symm

theorem write (h : Sim o c w closed cur d) (hnd : w.dead = false) (r : GoBytes) :
    Moves o c closed cur d ((w.fw.write c r).2.map (.write w.num)) { w with fw := (w.fw.write c r).1 }
      closed (cur ++ [r]) :=
  chunks h _ w.dead (cur ++ [r]) (encRecord c r) _ ((fw_write_aligned _ _ _).trans h.nal)
    (fun hd => Bool.noConfusion (hnd.symm.trans hd)) (fw_write_transp c w.fw r) (fileBytes_snoc c o.ct cur r)

/-- `fsync` and `close` leave the directory as it is -/
theorem event (h : Sim o c w closed cur d) (k : Nat) {e : FsEvent} (he : e = .fsync k ∨ e = .close k) :
    Moves o c closed cur d [e] w closed cur := by
  rcases he with rfl | rfl <;> exact ⟨h, fun F m hF => ⟨hF, (adm_cons _ _ _ _ _).mpr ⟨trivial, adm_nil _ _ _⟩⟩⟩

/-- `setupNextWriter` once the current file is complete on disk -/
theorem setup (h : Sim o c w closed cur d) (hbuf : w.fw.w.buf = []) (hlim : w.next < maxWalFiles) :
    Moves o c closed cur d (FsEvent.create w.next :: (FW.open o.bufSize o.ct).2.map (.write w.next))
      { next := w.next + 1, num := w.next, fw := (FW.open o.bufSize o.ct).1, dead := false } (closed ++ [cur]) [] := by
  have hn : w.next = (closed ++ [cur]).length := by rw [h.next, h.num, List.length_append]; rfl
  have h' := Sim.setup o c (closed ++ [cur]) (hn ▸ hlim) _ (fw_open_aligned o.bufSize o.ct) (fw_open_buf _ _)
    (fw_open_out _ _)
  rw [h.dir_flushed hbuf, hn]
  exact ⟨h'.1, fun F m hF => ⟨hF.of_rotate, h'.2 F m hF⟩⟩

/-- `NewAppender`, as a move from the empty directory, where the log `[]`, `[]` still lacks its first header -/
theorem init (o : WalOpts) (c : Compression) : Moves o c [] [] [] (Wal.init o).2 (Wal.init o).1 [] [] := by
  have h := Sim.setup o c [] (by decide) _ (fw_open_aligned o.bufSize o.ct) (fw_open_buf _ _) (fw_open_out _ _)
  unfold Wal.init
  generalize FW.open o.bufSize o.ct = fo at h ⊢
  exact ⟨h.1, fun F m hF => ⟨hF, h.2 F m hF⟩⟩

theorem rotate (h : Sim o c w closed cur d) :
    ∃ cl cu, Moves o c closed cur d (w.rotate o).2.1 (w.rotate o).1 cl cu ∧
      (cl ++ [cu]).flatten = (closed ++ [cur]).flatten ∧
      ((w.rotate o).2.2 = none → (w.rotate o).1.dead = false) := by
  rw [rotate_eq]
  by_cases hd : w.dead = true
  · rw [if_pos hd]
    exact ⟨closed, cur, refl h, rfl, fun h => by simp at h⟩
  · rw [if_neg hd]
    have h2 := fun dd => (flush h dd).trans (event (flush h dd).sim w.num (.inr rfl))
    by_cases hg : w.next ≥ maxWalFiles
    · rw [if_pos hg]
      exact ⟨closed, cur, h2 true, rfl, fun h => by simp at h⟩
    · rw [if_neg hg]
      exact ⟨closed ++ [cur], [],
        (h2 false).trans (setup (w := { w with fw := w.fw.flush.1, dead := false }) (h2 false).sim
          (fw_flush_buf _) (Nat.lt_of_not_ge hg)),
        by simp, fun _ => rfl⟩

theorem writePart (sync : Bool) (h : Sim o c w closed cur d) (hnd : w.dead = false) (r : GoBytes) :
    Moves o c closed cur d (Proofs.writePart c sync w r).2 (Proofs.writePart c sync w r).1 closed (cur ++ [r]) := by
  have h1 := write h hnd r
  cases sync with
  | false =>
    simp only [Proofs.writePart, Bool.false_eq_true, if_false]
    exact h1
  | true =>
    simp only [Proofs.writePart, if_true]
    rw [List.map_append]
    have h2 := h1.trans (flush h1.sim w.dead)
    exact h2.trans (event h2.sim w.num (.inl rfl))

theorem append (sync : Bool) (h : Sim o c w closed cur d) (r : GoBytes) :
    ∃ cl cu, Moves o c closed cur d (w.append o c sync r).2.1 (w.append o c sync r).1 cl cu ∧
      (cl ++ [cu]).flatten = (closed ++ [cur]).flatten ++
        (match (w.append o c sync r).2.2 with | none => [r] | some _ => []) := by
  rw [append_eq]
  by_cases hd : w.dead = true
  · rw [if_pos hd]
    exact ⟨closed, cur, refl h, by simp⟩
  · rw [if_neg hd]
    by_cases hs : w.fw.cur + (r.getD []).length > o.maxSize
    · rw [if_pos hs]
      obtain ⟨cl, cu, h1, hfl, h1d⟩ := rotate h
      cases he : (w.rotate o).2.2 with
      | some e => exact ⟨cl, cu, h1, by simp [hfl]⟩
      | none => exact ⟨cl, cu ++ [r], h1.trans (writePart sync h1.sim (h1d he) r), by simp [← hfl]⟩
    · rw [if_neg hs]
      exact ⟨closed, cur ++ [r], writePart sync h (by simpa using hd) r, by simp⟩

theorem step (h : Sim o c w closed cur d) (op : WalOp) :
    ∃ cl cu, Moves o c closed cur d (w.step o c op).2.1 (w.step o c op).1 cl cu ∧
      (cl ++ [cu]).flatten = (closed ++ [cur]).flatten ++
        (OpTrace.rec? ⟨op, (w.step o c op).2.1, (w.step o c op).2.2⟩).toList := by
  cases op with
  | append r =>
    obtain ⟨cl, cu, h1, h2⟩ := append false h r
    refine ⟨cl, cu, h1, h2.trans ?_⟩
    show _ = _ ++ (OpTrace.rec? ⟨.append r, _, (w.append o c false r).2.2⟩).toList
    cases (w.append o c false r).2.2 <;> rfl
  | appendSync r =>
    obtain ⟨cl, cu, h1, h2⟩ := append true h r
    refine ⟨cl, cu, h1, h2.trans ?_⟩
    show _ = _ ++ (OpTrace.rec? ⟨.appendSync r, _, (w.append o c true r).2.2⟩).toList
    cases (w.append o c true r).2.2 <;> rfl
  | rotate =>
    obtain ⟨cl, cu, h1, h2, _⟩ := rotate h
    refine ⟨cl, cu, h1, h2.trans ?_⟩
    show _ = _ ++ (OpTrace.rec? ⟨.rotate, _, (w.rotate o).2.2⟩).toList
    cases (w.rotate o).2.2 <;> exact (List.append_nil _).symm

theorem close (h : Sim o c w closed cur d) :
    ∃ w', Moves o c closed cur d w.close.1 w' closed cur ∧ w'.fw.w.buf = [] := by
  unfold Wal.close
  by_cases hd : w.dead = true
  · rw [if_pos hd]
    exact ⟨w, refl h, h.dead hd⟩
  · rw [if_neg hd]
    exact ⟨_, (flush h w.dead).trans (event (flush h w.dead).sim w.num (.inr rfl)), fw_flush_buf w.fw⟩

/-- The run of a program from a state that simulates the directory.  Last part, for records that fit: what
`durableAux` counts is the count it started from or the size of a log that stood whole in the directory within `n`
events, because when an `AppendSync` returns the buffer is empty. -/
theorem run (prog : List WalOp) (h : Sim o c w closed cur d) :
    ∃ cl cu, Moves o c closed cur d (traceEvents (Wal.runFrom o c w prog).2) (Wal.runFrom o c w prog).1 cl cu ∧
      (cl ++ [cu]).flatten = (closed ++ [cur]).flatten ++ traceRecords (Wal.runFrom o c w prog).2 ∧
      (ProgFits c prog → FitsAll c (closed ++ [cur]) → FitsAll c (cl ++ [cu]) ∧
        ∀ ec n best, DurableAt o c d (traceEvents (Wal.runFrom o c w prog).2) ec n best
          (durableAux (Wal.runFrom o c w prog).2 ec (closed ++ [cur]).flatten.length best n)) := by
  induction prog generalizing w closed cur d with
  | nil => exact ⟨closed, cur, refl h, (List.append_nil _).symm, fun _ hf => ⟨hf, fun _ _ _ => .inl rfl⟩⟩
  | cons op ops ih =>
    obtain ⟨cl, cu, h1, h2⟩ := step h op
    obtain ⟨cl2, cu2, g1, g2, g⟩ := ih h1.sim
    rw [runFrom_cons, traceEvents_cons, traceRecords_cons]
    refine ⟨cl2, cu2, h1.trans g1, by rw [g2, h2, List.append_assoc], fun hpf hf => ?_⟩
    obtain ⟨hopf, hpf'⟩ := List.forall_mem_cons.mp hpf
    have hf1 : FitsAll c (cl ++ [cu]) := by
      rw [fitsAll_iff, h2]
      intro r hr
      rcases List.mem_append.mp hr with hr | hr
      · exact (fitsAll_iff c _).mp hf r hr
      · rcases rec?_op (Option.mem_toList.mp hr) with rfl | rfl <;> exact hopf
    obtain ⟨g3, g4⟩ := g hpf' hf1
    refine ⟨g3, fun ec n best => ?_⟩
    simp only [durableAux]
    rw [isSome_succ, ← List.length_append, ← h2]
    split
    · rename_i hle
      split
      · -- a successful `AppendSync` has just returned: nothing is buffered, the directory is the whole log
        rename_i r herr
        obtain ⟨_, _, _, _, hbuf⟩ := sync_is_durable o c w r h.nal herr
        rcases (g4 _ n _).later with hx | hx
        · exact .inr ⟨_, List.prefix_append _ _, hle, _, h1.sim.dir_flushed hbuf, hf1, h1.sim.length_le, hx.symm⟩
        · exact .inr hx
      · exact (g4 _ n best).later
    · exact .inl rfl

/-- a whole run from `NewAppender` on, the appender still open -/
theorem run_init (o : WalOpts) (c : Compression) (prog : List WalOp) :
    ∃ cl cu, Moves o c [] [] [] (walEvents o c prog) (Wal.run o c prog).1 cl cu ∧
      (cl ++ [cu]).flatten = walRecords o c prog ∧
      (ProgFits c prog → FitsAll c (cl ++ [cu]) ∧
        ∀ n, DurableAt o c [] (walEvents o c prog) 0 n 0 (durableWithin o c prog n)) := by
  obtain ⟨cl, cu, h1, hrec, hfd⟩ := run prog (init o c).sim
  simp only [walEvents_eq, durableWithin_eq, walRecords, run_eq]
  refine ⟨cl, cu, (init o c).trans h1, hrec, fun hpf => ?_⟩
  obtain ⟨hfits, hdur⟩ := hfd hpf ((fitsAll_iff c _).mpr (fun r hr => nomatch hr))
  refine ⟨hfits, fun n => ?_⟩
  have := (hdur (0 + (Wal.init o).2.length) n 0).later
  rwa [Nat.zero_add] at this

end Moves

end Wal
open SST.Proofs.Wal

/-- after a run of `AppendSync`s that all returned without error nothing is left in the buffer -/
theorem sync_run_flushed {o : WalOpts} {c : Compression} {w : Wal} {closed : List (List GoBytes)}
    {cur : List GoBytes} {d : DirN} (h : Sim o c w closed cur d) (hb : w.fw.w.buf = []) (prog : List WalOp)
    (hs : ∀ op ∈ prog, ∃ r, op = .appendSync r) (hok : ∀ t ∈ (Wal.runFrom o c w prog).2, t.err = none) :
    (Wal.runFrom o c w prog).1.fw.w.buf = [] := by
  induction prog generalizing w closed cur d with
  | nil => exact hb
  | cons op ops ih =>
    obtain ⟨⟨r, rfl⟩, hs'⟩ := List.forall_mem_cons.mp hs
    rw [runFrom_cons] at hok ⊢
    obtain ⟨hok1, hok'⟩ := List.forall_mem_cons.mp hok
    obtain ⟨cl, cu, h1, _⟩ := Moves.step h (.appendSync r)
    obtain ⟨_, _, _, _, hbuf⟩ := sync_is_durable o c w r h.nal hok1
    exact ih h1.sim hbuf hs' hok'

/-- A whole run with its final `Close`, as the theorems about kills use it: the per-file record lists `full` of
the final log; every event of the run is admissible towards them and the final directory holds them completely,
for every program (no reader has come in yet); if the records fit their headers, `full` fits too and — given a lawful
compressor and a reader that agrees with the writer, with which the proof replays — what is durable after `n`
events is in the image after `n` events. -/
theorem closed_run (o : WalOpts) (c : Compression) (prog : List WalOp) :
    ∃ full, full.flatten = walRecords o c prog ∧ full.length ≤ maxWalFiles ∧
      Adm (fileOf c o.ct full) full.length [] (walEventsClosed o c prog) ∧
      dirAfterN (walEventsClosed o c prog) = completeDir (fileOf c o.ct full) full.length ∧
      (ProgFits c prog → FitsAll c full ∧
        ∀ cOf, ReaderAgrees cOf o c → LawfulC c → ∀ n, durableWithin o c prog n ≤
          (imgRecords c full (dirAfterN ((walEventsClosed o c prog).take n))).length) := by
  obtain ⟨cl, cu, h1, hrec, hfd⟩ := Moves.run_init o c prog
  obtain ⟨w', h2, hb⟩ := Moves.close h1.sim
  have h := h1.trans h2
  rw [← walEventsClosed_eq] at h
  have hm := h.sim.length_le
  have hadm := (h.adm _ _ (Ext.refl c o.ct cl cu)).2
  refine ⟨cl ++ [cu], hrec, hm, hadm, h.sim.dir_flushed hb, fun hpf => ?_⟩
  obtain ⟨hfits, hdur⟩ := hfd hpf
  refine ⟨hfits, fun cOf hra hl n => ?_⟩
  rcases hdur n with h0 | ⟨pre, hp, hn, hw⟩
  · rw [h0]; exact Nat.zero_le _
  · -- the whole log of that moment is also an image of the final log: replay reads both the same
    obtain ⟨rs, hrs, hq⟩ := hw.replay hra hl
    rw [Nat.zero_add] at hn
    have hpre : pre = (walEventsClosed o c prog).take pre.length :=
      List.prefix_iff_eq_take.mp (hp.trans (walEventsClosed_eq o c prog ▸ List.prefix_append _ _))
    rw [← dirAfterN, hpre, replay_img cOf c o.ct hra.1 hl hra.2 _ hfits hm _ (img_take _ _ _ _ hadm)] at hrs
    rw [← hq, ← (Prod.mk.inj hrs).1]
    exact imgRecords_mono_take c o.ct _ _ hadm _ n hn

/-- After any number of events of a run with its `Close`, whatever the program, the directory holds files
`0 .. j-1` of the final log complete and a byte prefix of file `j`, or nothing. -/
theorem crash_image_shape_any (o : WalOpts) (c : Compression) (prog : List WalOp) (n : Nat) :
    ∃ full : List (List GoBytes), full.flatten = walRecords o c prog ∧
      Img (fileOf c o.ct full) full.length (dirAfterN ((walEventsClosed o c prog).take n)) := by
  obtain ⟨full, hfl, -, hadm, -⟩ := closed_run o c prog
  exact ⟨full, hfl, img_take _ _ _ n hadm⟩

/-- C07, first half: after `Close`, replay delivers exactly the appended records, in order -/
theorem replay_eq_appends (o : WalOpts) (c : Compression) (cOf : Nat → Compression)
    (hra : ReaderAgrees cOf o c) (hl : LawfulC c) (prog : List WalOp) (hpf : ProgFits c prog) :
    replay cOf (dirOf o c prog) = (walRecords o c prog, none) := by
  obtain ⟨full, hfl, hm, -, hdir, hfd⟩ := closed_run o c prog
  have hf := (hfd hpf).1
  unfold dirOf dirAfter
  rw [hdir, ← hfl]
  exact replay_complete cOf c o.ct hra.1 hl hra.2 full hf hm

/-- C07, second half: kill the appender after ANY number of events (including during the final `Close`):
replay succeeds, delivers a prefix of the appended records, and that prefix holds every record appended up to
the last `AppendSync` that had returned. -/
theorem replay_after_crash (o : WalOpts) (c : Compression) (cOf : Nat → Compression)
    (hra : ReaderAgrees cOf o c) (hl : LawfulC c) (prog : List WalOp) (hpf : ProgFits c prog) (n : Nat) :
    ∃ rs, replay cOf (dirAfter ((walEventsClosed o c prog).take n)) = (rs, none) ∧
      rs <+: walRecords o c prog ∧
      (walRecords o c prog).take (durableWithin o c prog n) <+: rs := by
  obtain ⟨full, hfl, hm, hadm, -, hfd⟩ := closed_run o c prog
  obtain ⟨hf, hdur⟩ := hfd hpf
  have himg := img_take _ _ _ n hadm
  have hpre := imgRecords_prefix c o.ct full _ himg
  rw [hfl] at hpre
  refine ⟨_, replay_img cOf c o.ct hra.1 hl hra.2 full hf hm _ himg, hpre, ?_⟩
  apply List.prefix_of_prefix_length_le (List.take_prefix _ _) hpre
  rw [List.length_take]
  exact Nat.le_trans (Nat.min_le_left _ _) (hdur cOf hra hl n)

/-- the same for kills before `Close` is called -/
theorem replay_after_crash_open (o : WalOpts) (c : Compression) (cOf : Nat → Compression)
    (hra : ReaderAgrees cOf o c) (hl : LawfulC c) (prog : List WalOp) (hpf : ProgFits c prog) (n : Nat)
    (hn : n ≤ (walEvents o c prog).length) :
    ∃ rs, replay cOf (dirAfter ((walEvents o c prog).take n)) = (rs, none) ∧
      rs <+: walRecords o c prog ∧
      (walRecords o c prog).take (durableWithin o c prog n) <+: rs := by
  have := replay_after_crash o c cOf hra hl prog hpf n
  rw [walEventsClosed_eq, List.take_append_of_le_length hn] at this
  exact this

theorem writePart_next (c : Compression) (sync : Bool) (w : Wal) (r : GoBytes) :
    (writePart c sync w r).1.next = w.next ∧ (writePart c sync w r).1.dead = w.dead := by
  cases sync <;> simp [writePart]

theorem step_ok (o : WalOpts) (c : Compression) (w : Wal) (op : WalOp) (hd : w.dead = false)
    (hn : w.next < maxWalFiles) :
    (w.step o c op).2.2 = none ∧ (w.step o c op).1.dead = false ∧ (w.step o c op).1.next ≤ w.next + 1 := by
  have hd' : ¬ w.dead = true := by simp [hd]
  have hg : ¬ w.next ≥ maxWalFiles := Nat.not_le.mpr hn
  have hrot : (w.rotate o).2.2 = none ∧ (w.rotate o).1.dead = false ∧ (w.rotate o).1.next = w.next + 1 := by
    rw [rotate_eq, if_neg hd', if_neg hg]; exact ⟨rfl, rfl, rfl⟩
  have happ : ∀ sync r, (w.append o c sync r).2.2 = none ∧ (w.append o c sync r).1.dead = false ∧
      (w.append o c sync r).1.next ≤ w.next + 1 := by
    intro sync r
    rw [append_eq, if_neg hd']
    by_cases hs : w.fw.cur + (r.getD []).length > o.maxSize
    · rw [if_pos hs, hrot.1]
      have := writePart_next c sync (w.rotate o).1 r
      exact ⟨rfl, by show (writePart c sync (w.rotate o).1 r).1.dead = false; rw [this.2, hrot.2.1],
        by show (writePart c sync (w.rotate o).1 r).1.next ≤ _; rw [this.1, hrot.2.2]; exact Nat.le_refl _⟩
    · rw [if_neg hs]
      have := writePart_next c sync w r
      exact ⟨rfl, by show (writePart c sync w r).1.dead = false; rw [this.2, hd],
        by show (writePart c sync w r).1.next ≤ _; rw [this.1]; exact Nat.le_succ _⟩
  cases op with
  | append r => exact happ false r
  | appendSync r => exact happ true r
  | rotate => exact ⟨hrot.1, hrot.2.1, Nat.le_of_eq hrot.2.2⟩

theorem runFrom_ok (o : WalOpts) (c : Compression) (prog : List WalOp) (w : Wal) (hd : w.dead = false)
    (hn : w.next + prog.length ≤ maxWalFiles) :
    (∀ t ∈ (Wal.runFrom o c w prog).2, t.err = none) ∧
    traceRecords (Wal.runFrom o c w prog).2 = progRecords prog := by
  induction prog generalizing w with
  | nil => simp [Wal.runFrom, traceRecords, progRecords]
  | cons op ops ih =>
    simp only [List.length_cons] at hn
    obtain ⟨h1, h2, h3⟩ := step_ok o c w op hd (by omega)
    obtain ⟨i1, i2⟩ := ih (w.step o c op).1 h2 (by omega)
    rw [runFrom_cons]
    constructor
    · intro t ht
      simp only [List.mem_cons] at ht
      rcases ht with rfl | ht
      · exact h1
      · exact i1 t ht
    · rw [traceRecords_cons, i2]
      cases op <;> simp [OpTrace.rec?, h1, progRecords]

/-- a program of fewer than one million operations never reaches the guard (`NewAppender` opens file 0, every
operation at most one more), and all its records are appended -/
theorem noGuard_of_short (o : WalOpts) (c : Compression) (prog : List WalOp)
    (h : prog.length < maxWalFiles) :
    NoGuard o c prog ∧ walRecords o c prog = progRecords prog := by
  unfold NoGuard walRecords
  rw [run_eq]
  exact runFrom_ok o c prog (Wal.init o).1 (init_state o).1 (by rw [(init_state o).2.1]; omega)

end SST.Proofs
