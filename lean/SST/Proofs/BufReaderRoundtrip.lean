/-
The pure-stream side of sequential reading through the buffered stack: a program of reads meets `skipsFit`, and on
any file `streamRun` yields what the sequential reader `readAllSL` yields (`streamRun_readAllSL`, file versions 2–4).
`C04Buf.buffered_readAll` uses the version-4 case, `streamRun_readAll`.
-/
import SST.Model.RecordIOLegacy
namespace SST.Buf
open SST Generated SST.Legacy

theorem skipsFit_reads (v : Nat) (cmp : Compression) (maxOff : Nat) (file : Bytes) :
    ∀ (n pos : Nat), skipsFit v cmp maxOff file pos (List.replicate n .read) = true
  | 0, _ => rfl
  | n + 1, pos => by
    rw [List.replicate_succ, skipsFit]
    split
    · exact skipsFit_reads v cmp maxOff file n _
    · rfl

theorem readNextSV_four (c : Compression) (s : Bytes) : readNextSV 4 c s = readNextS c s := by
  simp [readNextSV]

/-- Reading to the first error through `streamRun` is the sequential reader of the legacy model (`readAllSL`; file
versions 2, 3, 4, for which `readNextL en v = readNextSV v`), from any position of ANY file: a program of as many
reads as it yields records, and one more, yields those records and then the error that ended it. -/
theorem streamRun_readAllSL (en : Bool) (v : Nat) (hv : v ≠ 1) (c : Compression) (file : Bytes) :
    ∀ (fuel pos : Nat) (rs : List GoBytes) (e : Err), readAllSL en v c fuel (file.drop pos) = (rs, e) →
    rs.length < fuel →
    streamRun v c file pos (List.replicate rs.length .read ++ [.read]) = rs.map .record ++ [.fail (.e e)]
  | 0, _, _, _, _, h => absurd h (Nat.not_lt_zero _)
  | fuel + 1, pos, rs, e, hr, h => by
    have hL : readNextL en v c (file.drop pos) = readNextSV v c (file.drop pos) := if_neg hv
    rw [readAllSL, hL] at hr
    cases hn : readNextSV v c (file.drop pos) with
    | error e' =>
      rw [hn] at hr
      cases hr
      simp only [streamRun, hn, List.length_nil, List.replicate_zero, List.nil_append, List.map_nil]
    | ok p =>
      obtain ⟨r, n⟩ := p
      rcases hq : readAllSL en v c fuel ((file.drop pos).drop n) with ⟨rs', e'⟩
      rw [hn] at hr
      simp only [hq] at hr
      cases hr
      rw [List.drop_drop] at hq
      have ih := streamRun_readAllSL en v hv c file fuel (pos + n) rs' _ hq (Nat.lt_of_succ_lt_succ h)
      simp only [List.length_cons, List.replicate_succ, List.cons_append, streamRun, hn, ih, List.map_cons]

theorem readAllSL_four (en : Bool) (c : Compression) : ∀ (fuel : Nat) (s : Bytes),
    readAllSL en 4 c fuel s = readAllS c fuel s
  | 0, _ => rfl
  | fuel + 1, s => by
    have hL : readNextL en 4 c s = readNextS c s := (if_neg (by decide)).trans (readNextSV_four c s)
    rw [readAllSL, readAllS, hL]
    cases readNextS c s with
    | error e => rfl
    | ok p => simp only [readAllSL_four en c fuel]

/-- The whole-file form for version 4: what `readAll` yields, its records and then the error that ended the reading,
is what a program of that many reads and one more yields.  (`hl`: the written file gets it from
`length_le_encAll`.) -/
theorem streamRun_readAll (c : Compression) (file : Bytes) (rs : List GoBytes) (e : Err)
    (hr : readAll c file = (rs, e)) (hl : rs.length ≤ file.length) :
    streamRun 4 c file fileHeaderSize (List.replicate rs.length .read ++ [.read])
      = rs.map .record ++ [.fail (.e e)] :=
  streamRun_readAllSL false 4 (by decide) c file (file.length + 1) fileHeaderSize rs e
    ((readAllSL_four false c _ _).trans hr) (Nat.lt_succ_of_le hl)

end SST.Buf
