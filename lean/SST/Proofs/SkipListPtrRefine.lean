/-
Pointer-level skip list refines the height-list model SST/Model/SkipList.lean: on a well-formed structure every
operation is the height-list operation on the abstract image `abs` (`findGE_refines`, `insert_refines`,
`reads_refine`; `insertAll_refines` for sequences of inserts).  The key cuts `order` (`cut_order`), the same cut cuts
`abs`, and both descents land on it.
-/
import SST.Proofs.SkipListPtrInsert
namespace SST.SkipListPtr
open SST SST.Proofs

variable {K V : Type}

theorem abs_nodes {cmp : K → K → Ordering} {pl : PList K V} {order : List (Nat × SNode K V)}
    (hrep : Rep cmp pl order) : (abs pl).nodes = order.map (·.2) := by
  rw [abs_of_rep hrep]

theorem abs_heights {cmp : K → K → Ordering} {pl : PList K V} {order : List (Nat × SNode K V)}
    (hrep : Rep cmp pl order) : ∀ n ∈ (abs pl).nodes, 1 ≤ n.height := by
  rw [abs_nodes hrep]
  intro n hn
  obtain ⟨e, he, rfl⟩ := List.mem_map.1 hn
  exact (hrep.hts e he).1

theorem abs_inv {cmp : K → K → Ordering} {pl : PList K V} (hwf : WF cmp pl) :
    Inv cmp (abs pl).nodes := by
  obtain ⟨order, hrep⟩ := hwf
  refine ⟨?_, abs_heights hrep⟩
  rw [abs_nodes hrep]
  exact hrep.sorted

/-- the order of a well-formed structure, cut at a key; the same cut cuts the abstract image -/
theorem cut_order {cmp : K → K → Ordering} (hl : LawfulCmp cmp) {pl : PList K V}
    {order : List (Nat × SNode K V)} (hrep : Rep cmp pl order) (key : K) :
    ∃ o1 o2, order = o1 ++ o2 ∧ Cuts cmp (fun e : Nat × SNode K V => e.2.key) key o1 o2 ∧
      (abs pl).nodes = o1.map (·.2) ++ o2.map (·.2) := by
  obtain ⟨o1, o2, ho, c⟩ := exists_cuts hl (fun e : Nat × SNode K V => e.2.key) key order
    (List.pairwise_map.1 hrep.sorted)
  exact ⟨o1, o2, ho, c, by rw [abs_nodes hrep, ho, List.map_append]⟩

/-- the pointer-level descent at the cut of the key, which also cuts the abstract image -/
theorem find_cut {cmp : K → K → Ordering} (hl : LawfulCmp cmp) {pl : PList K V}
    {order : List (Nat × SNode K V)} (hrep : Rep cmp pl order) (key : K)
    (pt : Option (List (Option Ref))) (hpt : ∀ t ∈ pt, t.length = pl.maxHeight) :
    ∃ o1 o2, order = o1 ++ o2 ∧ (abs pl).nodes = o1.map (·.2) ++ o2.map (·.2) ∧
      Cuts cmp SNode.key key (o1.map (·.2)) (o2.map (·.2)) ∧
      findGE cmp pl key pt = some (o2.head?.map (·.1), pt.map (fillPrev o1 pl.maxHeight)) := by
  obtain ⟨o1, o2, ho, c, e⟩ := cut_order hl hrep key
  exact ⟨o1, o2, ho, e, c.map SNode.key fun e : Nat × SNode K V => e.2, findGE_spec hrep ho c pt hpt⟩

/-- The pointer-level descent returns the address of the node the height-list `findGE` returns
(nil if it returns none), never panics and needs no more fuel than it gets; if a `prevTable` is
given, each slot `l` ends up holding the predecessor at level `l` of the returned position: the last
node before it that is linked into level `l`, or the head. -/
theorem findGE_refines {cmp : K → K → Ordering} (hl : LawfulCmp cmp) {pl : PList K V}
    (hwf : WF cmp pl) (key : K) (pt : Option (List (Option Ref)))
    (hpt : ∀ t, pt = some t → t.length = pl.maxHeight) :
    ∃ pt', findGE cmp pl key pt
        = some ((SkipList.findGE cmp (abs pl) key).1.bind
            (fun j => (levelList pl 0)[j]?.map (·.1)), pt') ∧
      (pt = none → pt' = none) ∧
      ∀ t, pt = some t → ∃ t', pt' = some t' ∧ t'.length = pl.maxHeight ∧
        ∀ l, l < pl.maxHeight → t'[l]? = some (some
          (predRef ((levelList pl 0).take (SkipList.findGE cmp (abs pl) key).2) l)) := by
  obtain ⟨order, hrep⟩ := hwf
  obtain ⟨o1, o2, ho, e, c, hfind⟩ := find_cut hl hrep key pt hpt
  have hlev : levelList pl 0 = o1 ++ o2 := by
    rw [levelList_of_rep hrep hrep.mh, filter_lvl0 hrep, ho]
  have hf := findGE_cut e c (abs_heights hrep)
  rw [List.length_map, List.head?_map] at hf
  refine ⟨pt.map (fillPrev o1 pl.maxHeight), ?_, fun h => by rw [h]; rfl, ?_⟩
  · rw [hfind, hf, hlev]
    cases o2 <;> simp
  · rintro t rfl
    refine ⟨_, rfl, by rw [fillPrev_length]; exact hpt t rfl, ?_⟩
    intro l hll
    rw [fillPrev_get _ _ _ _ (Nat.le_of_eq (hpt t rfl).symm), if_pos hll, hf, hlev,
      List.take_left' rfl]

/-- `Insert` panics whenever the height-list `insert` on the abstract image reports a duplicate, at every
height; otherwise, for a height `1 ≤ h ≤ maxHeight`, it preserves well-formedness and is that `insert`. -/
theorem insert_refines_any {cmp : K → K → Ordering} (hl : LawfulCmp cmp) {pl : PList K V}
    (hwf : WF cmp pl) (k : K) (v : V) (h : Nat) :
    match SkipList.insert cmp (abs pl) k v h with
    | none => insert cmp pl k v h = none
    | some s' => 1 ≤ h → h ≤ pl.maxHeight →
        ∃ pl', insert cmp pl k v h = some pl' ∧ WF cmp pl' ∧ abs pl' = s' ∧
          pl'.maxHeight = pl.maxHeight := by
  obtain ⟨order, hrep⟩ := hwf
  obtain ⟨o1, o2, ho, c, e⟩ := cut_order hl hrep k
  obtain ⟨hdupcase, hokcase⟩ := insert_rep hl v hrep ho c
  rw [insert_cut e (c.map SNode.key fun e : Nat × SNode K V => e.2) (abs_heights hrep), List.head?_map]
  by_cases hdup : ∃ a ∈ o2.head?, cmp k a.2.key = .eq
  · obtain ⟨a, ha, heq⟩ := hdup
    rw [if_pos (by simp [Option.mem_def.1 ha, heq])]
    exact hdupcase a ha heq
  · have hne : ∀ a ∈ o2.head?, cmp k a.2.key ≠ .eq := fun a ha heq => hdup ⟨a, ha, heq⟩
    rw [if_neg (by
      cases ho2 : o2.head? with
      | none => exact Bool.false_ne_true
      | some a => simpa using hne a ho2)]
    intro h1 hh
    obtain ⟨pl', hpl', hmh, hrep'⟩ := hokcase hne h1 hh
    refine ⟨pl', hpl', ⟨_, hrep'⟩, ?_, hmh⟩
    rw [abs_of_rep hrep', hmh, abs_of_rep hrep]
    simp

/-- `Insert` preserves well-formedness and is the height-list `insert` on the abstract image, for every
height `1 ≤ h ≤ maxHeight`; it panics exactly when the height-list `insert` reports a duplicate. -/
theorem insert_refines {cmp : K → K → Ordering} (hl : LawfulCmp cmp) {pl : PList K V}
    (hwf : WF cmp pl) (k : K) (v : V) (h : Nat) (h1 : 1 ≤ h) (hh : h ≤ pl.maxHeight) :
    match SkipList.insert cmp (abs pl) k v h with
    | none => insert cmp pl k v h = none
    | some s' => ∃ pl', insert cmp pl k v h = some pl' ∧ WF cmp pl' ∧ abs pl' = s' ∧
        pl'.maxHeight = pl.maxHeight := by
  have hany := insert_refines_any hl hwf k v h
  cases hi : SkipList.insert cmp (abs pl) k v h with
  | none => rw [hi] at hany; exact hany
  | some s' => rw [hi] at hany; exact hany h1 hh

theorem drain_done (cmp : K → K → Ordering) (pl : PList K V) (fuel : Nat) (p : Option Nat)
    (hi : Option K) : drain cmp pl (fuel + 1) ⟨p, hi, true⟩ = some [] := by
  cases p <;> simp [drain, Iter.next]

/-- one `Next` of a bounded iterator at a node of the arena -/
theorem drain_upTo_step {cmp : K → K → Ordering} {pl : PList K V} {c : Nat} {n : PNode K V}
    {r : Option Nat} (hget : pl.arena[c]? = some n) (hr : n.next[0]? = some r) (hi : K) (fuel : Nat) :
    drain cmp pl (fuel + 1) ⟨some c, some hi, false⟩
      = match cmp n.key hi with
        | .eq => (drain cmp pl fuel ⟨r, some hi, true⟩).map ((n.key, n.val) :: ·)
        | .gt => some []
        | .lt => (drain cmp pl fuel ⟨r, some hi, false⟩).map ((n.key, n.val) :: ·) := by
  simp only [drain, Iter.next, hget, hr]
  cases cmp n.key hi <;> rfl

/-- what an iterator with upper bound `hi?` yields of a node list -/
def upTo (cmp : K → K → Ordering) : Option K → List (SNode K V) → List (K × V)
  | none, l => l.map fun n => (n.key, n.val)
  | some hi, l => SkipList.takeUpTo cmp hi l

/-- draining an iterator along a level-0 chain that ends in nil -/
theorem drain_seg {cmp : K → K → Ordering} {pl : PList K V} (hi? : Option K) :
    ∀ (T : List (Nat × SNode K V)) (p : Option Nat) (fuel : Nat),
      (∀ e ∈ T, ∃ n : PNode K V, pl.arena[e.1]? = some n ∧ e.2 = toS n) →
      Seg pl.arena 0 p (T.map (·.1)) none → T.length + 1 ≤ fuel →
      drain cmp pl fuel ⟨p, hi?, false⟩ = some (upTo cmp hi? (T.map (·.2))) := by
  intro T
  induction T with
  | nil =>
    intro p fuel _ hs hf
    have : p = none := hs
    subst this
    cases fuel with
    | zero => exact absurd hf (Nat.not_succ_le_zero _)
    | succ f => cases hi? <;> rfl
  | cons e T ih =>
    intro p fuel hn hs hf
    obtain ⟨n, r, rfl, hget, he, hr, hs'⟩ := seg_cons_entry hn hs
    cases fuel with
    | zero => exact absurd hf (Nat.not_succ_le_zero _)
    | succ f =>
      have hf' : T.length + 1 ≤ f := Nat.le_of_succ_le_succ hf
      have := ih r f (fun e' he' => hn e' (List.mem_cons_of_mem _ he')) hs' hf'
      cases hi? with
      | none => simp [drain, Iter.next, hget, hr, this, he, toS, upTo]
      | some hi =>
        rw [drain_upTo_step hget hr, this, upTo, upTo, List.map_cons, he, SkipList.takeUpTo]
        cases f with
        | zero => exact absurd hf' (Nat.not_succ_le_zero _)
        | succ f' =>
          rw [drain_done]
          -- `(toS n).key` is `n.key`
          show _ = some (match cmp n.key hi with | .eq => _ | .gt => _ | .lt => _)
          cases cmp n.key hi <;> rfl

/-- the level-0 chain from the node `findGreaterOrEqual` returns -/
theorem seg_suffix {cmp : K → K → Ordering} {pl : PList K V} {order o1 o2 : List (Nat × SNode K V)}
    (hrep : Rep cmp pl order) (ho : order = o1 ++ o2) :
    Seg pl.arena 0 (o2.head?.map (·.1)) (o2.map (·.1)) none := by
  obtain ⟨p, _, hs⟩ := hrep.chain 0 hrep.mh
  rw [idxAt, filter_lvl0 hrep, ho, List.map_append] at hs
  obtain ⟨r, _, h2⟩ := (seg_append _ _ _ _).1 hs
  have := seg_head h2
  rw [List.head?_map] at this
  rw [← this]; exact h2

/-- On a well-formed structure every read equals the height-list model's read on the abstract image
(no panic, fuel suffices). -/
theorem reads_refine {cmp : K → K → Ordering} (hl : LawfulCmp cmp) {pl : PList K V}
    (hwf : WF cmp pl) :
    size pl = (abs pl).size ∧
    iterAll cmp pl = some (SkipList.iterAll (abs pl)) ∧
    (∀ k, get cmp pl k = some (SkipList.get cmp (abs pl) k)) ∧
    (∀ k, contains cmp pl k = some (SkipList.contains cmp (abs pl) k)) ∧
    (∀ k, iterFrom cmp pl k = some (SkipList.iterFrom cmp (abs pl) k)) ∧
    (∀ lo hi, iterBetween cmp pl lo hi = some (SkipList.iterBetween cmp (abs pl) lo hi)) := by
  obtain ⟨order, hrep⟩ := hwf
  have hh' := abs_heights hrep
  have hget : ∀ k, get cmp pl k = some (SkipList.get cmp (abs pl) k) := by
    intro k
    obtain ⟨o1, o2, ho, e, c, hfind⟩ := find_cut hl hrep k none nofun
    unfold get
    rw [hfind, get_cut e c hh']
    cases o2 with
    | nil => rfl
    | cons e0 t =>
      obtain ⟨n, hn, hs⟩ := hrep.node e0 (by rw [ho]; simp)
      simp only [List.head?_cons, Option.map_some, hn, List.map_cons, Option.filter_some]
      rw [hs]
      simp only [toS]
      split <;> simp [*]
  -- the iterators from a key drain the suffix `o2` of the order, where the height-list iterators start
  have hfrom : ∀ k hi?, ∃ p, findGE cmp pl k none = some (p, none) ∧
      drain cmp pl (pl.size + 1) ⟨p, hi?, false⟩ = some (upTo cmp hi? (nodesFrom cmp (abs pl) k)) := by
    intro k hi?
    obtain ⟨o1, o2, ho, e, c, hfind⟩ := find_cut hl hrep k none nofun
    refine ⟨_, hfind, ?_⟩
    rw [nodesFrom_cut e c hh']
    refine drain_seg hi? o2 _ _ (fun e he => hrep.node e (ho ▸ List.mem_append_right _ he))
      (seg_suffix hrep ho) ?_
    rw [hrep.size, ho, List.length_append]
    exact Nat.succ_le_succ (Nat.le_add_left _ _)
  refine ⟨?_, ?_, hget, ?_, ?_, ?_⟩
  · rw [size, hrep.size, SkipList.size, abs_nodes hrep, List.length_map]
  · -- Iterator()
    obtain ⟨p, hp, hs⟩ := hrep.chain 0 hrep.mh
    rw [idxAt, filter_lvl0 hrep] at hs
    simp only [iterAll, iterator, nextOf, hp, Option.map_some, Option.bind_some]
    rw [drain_seg none order p (pl.size + 1) hrep.node hs (by rw [hrep.size]; exact Nat.le_refl _),
      SkipList.iterAll, abs_nodes hrep]
    rfl
  · intro k
    simp only [contains, hget k, Option.map_some, SkipList.contains]
  · -- IteratorStartingAt
    intro k
    obtain ⟨p, hfind, hdrain⟩ := hfrom k none
    simp only [iterFrom, iteratorStartingAt, hfind, Option.map_some, Option.bind_some]
    rw [hdrain, iterFrom_eq]
    rfl
  · -- IteratorBetween
    intro lo hi
    obtain ⟨p, hfind, hdrain⟩ := hfrom lo (some hi)
    unfold iterBetween iteratorBetween
    rw [hfind, iterBetween_eq]
    by_cases hc : (cmp lo hi == .gt) = true
    · simp only [hc, if_true]
    · simp only [hc, Bool.false_eq_true, if_false, hdrain, Option.map_some]
      rfl

theorem rep_empty (cmp : K → K → Ordering) : Rep cmp (empty : PList K V) [] := by
  refine ⟨List.nodup_nil, nofun, by simp [empty], by simp [empty], nofun, ?_, rfl, List.Pairwise.nil⟩
  intro l hl
  have hl' : l < 12 := hl
  refine ⟨none, ?_, rfl⟩
  rw [show (empty : PList K V).head = List.replicate 12 none from rfl, List.getElem?_replicate,
    if_pos hl']

theorem wf_empty (cmp : K → K → Ordering) : WF cmp (empty : PList K V) := ⟨[], rep_empty cmp⟩

theorem abs_empty : abs (empty : PList K V) = SkipList.empty := rfl

theorem insertAll_refines {cmp : K → K → Ordering} (hl : LawfulCmp cmp) :
    ∀ (ins : List (K × V × Nat)) (pl : PList K V), WF cmp pl →
      (∀ x ∈ ins, 1 ≤ x.2.2 ∧ x.2.2 ≤ pl.maxHeight) →
      match SkipList.insertAll cmp (abs pl) ins with
      | none => insertAll cmp pl ins = none
      | some s' => ∃ pl', insertAll cmp pl ins = some pl' ∧ WF cmp pl' ∧ abs pl' = s' ∧
          pl'.maxHeight = pl.maxHeight := by
  intro ins
  induction ins with
  | nil => intro pl hwf _; exact ⟨pl, rfl, hwf, rfl, rfl⟩
  | cons x rest ih =>
    intro pl hwf hh
    obtain ⟨k, v, h⟩ := x
    have hx := hh (k, v, h) List.mem_cons_self
    have hins := insert_refines hl hwf k v h hx.1 hx.2
    simp only [SkipList.insertAll, insertAll]
    cases hs : SkipList.insert cmp (abs pl) k v h with
    | none =>
      rw [hs] at hins
      simp only [hins]
    | some s1 =>
      rw [hs] at hins
      obtain ⟨pl1, hpl1, hwf1, rfl, hmh1⟩ := hins
      simp only [hpl1]
      have := ih pl1 hwf1 (fun y hy => hmh1 ▸ hh y (List.mem_cons_of_mem _ hy))
      rwa [hmh1] at this

/-- from the empty list: distinct keys inserted in any order with heights 1 … 12 go in at both levels, and the
pointer structure stays well-formed with the height-list structure as its abstract image -/
theorem insertAll_empty_refines (cmp : K → K → Ordering) (hl : LawfulCmp cmp) (ins : List (K × V × Nat))
    (hd : DistinctKeys cmp (ins.map (·.1))) (hh : ∀ x ∈ ins, 1 ≤ x.2.2 ∧ x.2.2 ≤ 12) :
    ∃ (pl : PList K V) (s : SkipList K V), insertAll cmp empty ins = some pl ∧
      SkipList.insertAll cmp .empty ins = some s ∧ WF cmp pl ∧ abs pl = s ∧ pl.maxHeight = 12 := by
  obtain ⟨s, hs, _⟩ := skiplist_refines cmp hl ins hd (fun x hx => (hh x hx).1)
  have := insertAll_refines hl ins (empty : PList K V) (wf_empty cmp) hh
  rw [abs_empty, hs] at this
  obtain ⟨pl, hpl, hwf, habs, hmh⟩ := this
  exact ⟨pl, s, hpl, hs, hwf, habs, hmh⟩

/-- Inserting a key that compares equal to one already present panics, at every height. -/
theorem insert_duplicate_panics_any (cmp : K → K → Ordering) (hl : LawfulCmp cmp) (ins : List (K × V × Nat))
    (hd : DistinctKeys cmp (ins.map (·.1))) (hh : ∀ x ∈ ins, 1 ≤ x.2.2 ∧ x.2.2 ≤ 12)
    (pl : PList K V) (hpl : insertAll cmp empty ins = some pl)
    (k : K) (v : V) (h : Nat) (hk : ∃ x ∈ ins, cmp k x.1 = .eq) :
    insert cmp pl k v h = none := by
  obtain ⟨pl', s, hpl', hs, hwf, habs, -⟩ := insertAll_empty_refines cmp hl ins hd hh
  rw [hpl] at hpl'
  cases hpl'
  have := insert_refines_any hl hwf k v h
  rw [habs, insert_duplicate_rejected cmp hl ins hd (fun x hx => (hh x hx).1) s hs k v h hk] at this
  exact this

end SST.SkipListPtr
