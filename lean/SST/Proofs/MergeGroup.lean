/-
The accumulate/emit loop of the compaction iterator over a SORTED merged sequence: it reduces, for every key,
ALL items with that key (equal keys arrive adjacently).  What it writes is stated by lookups: with a reducer that
applies `g` to the latest-wins value, a key reads `red g` of its newest value in the tables the items came from.
-/
import SST.Proofs.MergeSpec
namespace SST.Proofs.MergeGroup
open SST SST.Merge SST.Proofs.MergeSpec

/-- a merged item with its key normalised to bytes (nil = empty) -/
abbrev TItem := Bytes × GoBytes × Nat

def nk (k : GoBytes) : Bytes := k.getD []

def normAll (D : List (GoBytes × GoBytes × Nat)) : List TItem := D.map fun o => (nk o.1, o.2.1, o.2.2)

theorem normKey_eq (k : GoBytes) : normKey k = some (nk k) := by cases k <;> rfl

theorem nk_pbKey (k : Bytes) : nk (pbKey k) = k := by cases k <;> rfl

theorem goCmp_nk (a b : GoBytes) : goCmp a b = bytesCmp (nk a) (nk b) := rfl

/-- the value (if any) a reducer emits for a group -/
abbrev ValFn := List GoBytes → List Nat → Option Bytes

/-- `reduce` keeps the key it is given and emits `f values contexts` (nothing when that is `none`) -/
def ValReducer (reduce : ReduceFn) (f : ValFn) : Prop :=
  ∀ (k : Bytes) (vs : List GoBytes) (cs : List Nat),
    emitOf (reduce (some k) vs cs) = (match f vs cs with | some b => [(some k, some b)] | none => [])

def sameKey (k : Bytes) (L : List TItem) : List TItem := L.filter fun x => x.1 == k
def otherKey (k : Bytes) (L : List TItem) : List TItem := L.filter fun x => !(x.1 == k)
def valsOf (L : List TItem) : List GoBytes := L.map (·.2.1)
def ctxsOf (L : List TItem) : List Nat := L.map (·.2.2)

def headOf (f : ValFn) (k : Bytes) (vs : List GoBytes) (cs : List Nat) : Table :=
  match f vs cs with
  | some b => [(k, some b)]
  | none => []

/-- per key: reduce ALL items with that key (wherever they are) -/
def groupTbl (f : ValFn) : List TItem → Table
  | [] => []
  | (k, v, c) :: rest =>
    headOf f k (v :: valsOf (sameKey k rest)) (c :: ctxsOf (sameKey k rest)) ++ groupTbl f (otherKey k rest)
termination_by l => l.length
decreasing_by
  simp only [otherKey, List.length_cons]
  exact Nat.lt_succ_of_le (List.length_filter_le _ _)

theorem sameKey_cons_self (k : Bytes) (v : GoBytes) (c : Nat) (L : List TItem) :
    sameKey k ((k, v, c) :: L) = (k, v, c) :: sameKey k L := by simp [sameKey]

theorem otherKey_cons_self (k : Bytes) (v : GoBytes) (c : Nat) (L : List TItem) :
    otherKey k ((k, v, c) :: L) = otherKey k L := by simp [otherKey]

theorem asItems_headOf {reduce : ReduceFn} {f : ValFn} (hr : ValReducer reduce f) (k : Bytes)
    (vs : List GoBytes) (cs : List Nat) : asItems (headOf f k vs cs) = emitOf (reduce (some k) vs cs) := by
  rw [hr k vs cs]
  unfold headOf
  cases f vs cs <;> rfl

theorem normAll_cons (k v : GoBytes) (c : Nat) (rest : List (GoBytes × GoBytes × Nat)) :
    normAll ((k, v, c) :: rest) = (nk k, v, c) :: normAll rest := rfl

theorem asItems_append (a b : Table) : asItems (a ++ b) = asItems a ++ asItems b := List.map_append

/-- the loop with a group in progress, over the rest of a sorted sequence -/
theorem groupRun_some {reduce : ReduceFn} {f : ValFn} (hr : ValReducer reduce f) :
    ∀ (D : List (GoBytes × GoBytes × Nat)) (p : Bytes) (vb : List GoBytes) (cb : List Nat), vb.length > 0 →
      (∀ x ∈ D, bytesCmp p (nk x.1) ≠ .gt) → D.Pairwise (fun a b => goCmp a.1 b.1 ≠ .gt) →
      groupRun reduce (some p) vb cb D =
        asItems (headOf f p (vb ++ valsOf (sameKey p (normAll D))) (cb ++ ctxsOf (sameKey p (normAll D)))
          ++ groupTbl f (otherKey p (normAll D))) := by
  intro D
  induction D with
  | nil =>
    intro p vb cb hvb _ _
    simp only [groupRun, hvb, if_true, normAll, List.map_nil, sameKey, otherKey, List.filter_nil, valsOf,
      ctxsOf, List.append_nil, groupTbl]
    exact (asItems_headOf hr p vb cb).symm
  | cons x rest ih =>
    intro p vb cb hvb hge hsorted
    obtain ⟨k, v, c⟩ := x
    obtain ⟨hhead, hrest⟩ := List.pairwise_cons.mp hsorted
    have hpk : bytesCmp p (nk k) ≠ .gt := hge (k, v, c) List.mem_cons_self
    simp only [groupRun, normKey_eq, Option.isSome_some, Bool.true_and]
    rw [show goCmp (some (nk k)) (some p) = bytesCmp (nk k) p from rfl]
    by_cases hkp : nk k = p
    · -- same key: the group grows
      subst hkp
      rw [bytesCmp_refl, if_neg (by decide),
        ih (nk k) (vb ++ [v]) (cb ++ [c]) (by simp) (fun x hx => hge x (List.mem_cons_of_mem _ hx)) hrest,
        normAll_cons, sameKey_cons_self, otherKey_cons_self, List.append_assoc, List.append_assoc]
      rfl
    · -- key change: reduce the group, start the next one; nothing in the whole sequence has key `p`
      have hnone : ∀ y ∈ normAll ((k, v, c) :: rest), y.1 ≠ p := by
        rintro _ hy rfl
        obtain ⟨x, hx, rfl⟩ := List.mem_map.mp hy
        rcases List.mem_cons.mp hx with rfl | hx
        · exact hkp rfl
        · exact hpk (bytesCmp_gt_iff.mpr (bytesCmp_lt_of_le_ne (hhead x hx) hkp))
      have hsame : sameKey p (normAll ((k, v, c) :: rest)) = [] :=
        List.filter_eq_nil_iff.mpr fun y hy => by simpa using hnone y hy
      have hother : otherKey p (normAll ((k, v, c) :: rest)) = normAll ((k, v, c) :: rest) :=
        List.filter_eq_self.mpr fun y hy => by simpa using hnone y hy
      rw [if_pos (by simpa [bytesCmp_eq_iff] using hkp), ih (nk k) [v] [c] (by simp) hhead hrest, hsame, hother,
        normAll_cons, groupTbl]
      simp only [asItems_append, asItems_headOf hr, valsOf, ctxsOf, List.map_nil, List.append_nil]
      rfl

/-- the compaction of a sorted merged sequence reduces, per key, all items with that key -/
theorem compactOf_sorted {reduce : ReduceFn} {f : ValFn} (hr : ValReducer reduce f)
    (D : List (GoBytes × GoBytes × Nat)) (hs : (normAll D).Pairwise (fun a b => bytesCmp a.1 b.1 ≠ .gt)) :
    compactOf reduce D = asItems (groupTbl f (normAll D)) := by
  have hsorted : D.Pairwise (fun a b => goCmp a.1 b.1 ≠ .gt) := List.pairwise_map.mp hs
  unfold compactOf
  cases D with
  | nil => simp [groupRun, normAll, groupTbl, asItems]
  | cons x rest =>
    obtain ⟨k, v, c⟩ := x
    obtain ⟨hhead, hrest⟩ := List.pairwise_cons.mp hsorted
    simp only [groupRun, Option.isSome_none, Bool.false_and, Bool.false_eq_true, if_false, normKey_eq,
      List.nil_append]
    rw [groupRun_some hr rest (nk k) [v] [c] (by simp) hhead hrest, normAll_cons, groupTbl]
    rfl

theorem filter_same_other (k k' : Bytes) (h : k' ≠ k) (L : List TItem) :
    sameKey k' (otherKey k L) = sameKey k' L := by
  unfold sameKey otherKey
  rw [List.filter_filter]
  apply List.filter_congr
  intro x _
  by_cases hx : x.1 = k'
  · simp [hx, h]
  · simp [hx]

theorem mem_headOf {f : ValFn} {k k0 : Bytes} {gv : GoBytes} {vs : List GoBytes} {cs : List Nat}
    (h : (k, gv) ∈ headOf f k0 vs cs) : k = k0 := by
  unfold headOf at h
  split at h
  · exact (Prod.mk.inj (List.mem_singleton.mp h)).1
  · cases h

theorem tget_headOf (f : ValFn) (k0 : Bytes) (vs : List GoBytes) (cs : List Nat) (k : Bytes) :
    tget (headOf f k0 vs cs) k = if k = k0 then (f vs cs).map some else none := by
  unfold headOf
  cases f vs cs <;> simp [tget]

theorem sameKey_otherKey (k : Bytes) (L : List TItem) : sameKey k (otherKey k L) = [] := by
  simp [sameKey, otherKey, List.filter_filter]

theorem sameKey_ne_nil_iff {L : List TItem} {k : Bytes} : sameKey k L ≠ [] ↔ ∃ x ∈ L, x.1 = k := by
  simp only [sameKey, ne_eq, List.filter_eq_nil_iff, beq_iff_eq, Classical.not_forall, Classical.not_not,
    exists_prop]

/-- lookups in the table of groups: the reducer's value for ALL items with the key (any list, sorted or not) -/
theorem tget_groupTbl (f : ValFn) : ∀ (L : List TItem) (k : Bytes),
    tget (groupTbl f L) k =
      if sameKey k L = [] then none else (f (valsOf (sameKey k L)) (ctxsOf (sameKey k L))).map some := by
  intro L
  induction L using groupTbl.induct with
  | case1 => intro k; rw [groupTbl]; rfl
  | case2 k0 v0 c0 rest ih =>
    intro k
    rw [groupTbl, tget_append, tget_headOf, ih]
    by_cases hk : k = k0
    · subst hk
      rw [if_pos rfl, sameKey_cons_self, sameKey_otherKey, if_pos rfl, if_neg (List.cons_ne_nil _ _), Option.or_none]
      rfl
    · have h1 : sameKey k ((k0, v0, c0) :: rest) = sameKey k rest := by simp [sameKey, Ne.symm hk]
      rw [if_neg hk, Option.none_or, filter_same_other k0 k hk, h1]

theorem groupTbl_keys (f : ValFn) {L : List TItem} {p : Bytes × GoBytes} (hp : p ∈ groupTbl f L) :
    ∃ x ∈ L, x.1 = p.1 := by
  refine sameKey_ne_nil_iff.mp fun h => ?_
  have := tget_groupTbl f L p.1
  rw [if_pos h, tget_eq_none_iff] at this
  exact this p hp rfl

theorem groupTbl_asc (f : ValFn) : ∀ (L : List TItem),
    L.Pairwise (fun a b => bytesCmp a.1 b.1 ≠ .gt) → Asc (groupTbl f L) := by
  intro L
  induction L using groupTbl.induct with
  | case1 => intro _; rw [groupTbl]; exact asc_nil
  | case2 k0 v0 c0 rest ih =>
    intro hs
    obtain ⟨hhead, hrest⟩ := List.pairwise_cons.mp hs
    rw [groupTbl]
    apply List.pairwise_append.mpr
    refine ⟨?_, ih (hrest.filter _), ?_⟩
    · unfold headOf
      cases f (v0 :: valsOf (sameKey k0 rest)) (c0 :: ctxsOf (sameKey k0 rest)) <;> simp
    · rintro ⟨ka, gva⟩ ha ⟨kb, gvb⟩ hb
      obtain rfl := mem_headOf ha
      obtain ⟨x, hx, rfl⟩ := groupTbl_keys f hb
      obtain ⟨hxr, hxo⟩ := List.mem_filter.mp hx
      exact bytesCmp_lt_of_le_ne (hhead x hxr) fun h => by simp [← show ka = x.1 from h] at hxo

/-- `ScanReduceLatestWins` as a value function: the value at the first index of the largest context -/
def lwVal : ValFn := fun vs cs => vs.getD (maxCtxIndex cs 0 0 0) none

/-- `len(val) > 0` -/
def nonEmptyVal : GoBytes → Option Bytes
  | some (b :: bs) => some (b :: bs)
  | _ => none

theorem emitOf_some (k : Bytes) (x : GoBytes) :
    emitOf (some k, x) = (match x with | some b => [(some k, some b)] | none => []) := by
  cases x <;> simp [emitOf, bothNonNil]

theorem emitOf_skip (k : Bytes) (x : GoBytes) :
    emitOf (if (x.getD []).length = 0 then ((none, none) : GoBytes × GoBytes) else (some k, x)) =
      (match nonEmptyVal x with
        | some b => [(some k, some b)]
        | none => []) := by
  cases x with
  | none => simp [emitOf, bothNonNil, nonEmptyVal]
  | some b => cases b <;> simp [emitOf, bothNonNil, nonEmptyVal]

theorem lw_valReducer : ValReducer scanReduceLatestWins lwVal := by
  intro k vs cs
  exact emitOf_some k _

theorem skip_valReducer :
    ValReducer scanReduceLatestWinsSkipTombstones fun vs cs => nonEmptyVal (lwVal vs cs) := by
  intro k vs cs
  exact emitOf_skip k _

/-- the loop of `ScanReduceLatestWins`: either nothing exceeds `m` and the index stays, or the result is the
position of a largest context, which exceeds `m` -/
theorem maxCtxIndex_spec : ∀ (xs : List Nat) (m mi i : Nat),
    (maxCtxIndex xs m mi i = mi ∧ ∀ c ∈ xs, c ≤ m) ∨
    (∃ j M, maxCtxIndex xs m mi i = i + j ∧ xs[j]? = some M ∧ m < M ∧ ∀ c ∈ xs, c ≤ M) := by
  intro xs
  induction xs with
  | nil => intro m mi i; exact Or.inl ⟨rfl, by simp⟩
  | cons x xs ih =>
    intro m mi i
    simp only [maxCtxIndex]
    by_cases hx : x > m
    · rw [if_pos hx]
      right
      rcases ih x i (i + 1) with ⟨h1, h2⟩ | ⟨j, M, h1, h2, h3, h4⟩
      · exact ⟨0, x, h1, rfl, hx, List.forall_mem_cons.mpr ⟨Nat.le_refl _, h2⟩⟩
      · exact ⟨j + 1, M, by rw [h1, Nat.add_assoc, Nat.add_comm 1 j], h2, Nat.lt_trans hx h3,
          List.forall_mem_cons.mpr ⟨Nat.le_of_lt h3, h4⟩⟩
    · rw [if_neg hx]
      rcases ih m mi (i + 1) with ⟨h1, h2⟩ | ⟨j, M, h1, h2, h3, h4⟩
      · exact Or.inl ⟨h1, List.forall_mem_cons.mpr ⟨Nat.le_of_not_gt hx, h2⟩⟩
      · exact Or.inr ⟨j + 1, M, by rw [h1, Nat.add_assoc, Nat.add_comm 1 j], h2, h3,
          List.forall_mem_cons.mpr ⟨Nat.le_of_lt (Nat.lt_of_le_of_lt (Nat.le_of_not_gt hx) h3), h4⟩⟩

theorem maxCtxIndex_max (cs : List Nat) (hne : cs ≠ []) :
    ∃ M, cs[maxCtxIndex cs 0 0 0]? = some M ∧ ∀ c ∈ cs, c ≤ M := by
  rcases maxCtxIndex_spec cs 0 0 0 with ⟨h1, h2⟩ | ⟨j, M, h1, h2, _, h4⟩
  · cases cs with
    | nil => exact absurd rfl hne
    | cons c cs => exact ⟨c, by rw [h1]; rfl, fun c' hc' => Nat.le_trans (h2 c' hc') (Nat.zero_le c)⟩
  · exact ⟨M, by rw [h1, Nat.zero_add]; exact h2, h4⟩

/-- the index computed by the reducer is in range for a non-empty context list (`values[maxCtxIndex]` does not
panic on a group with as many values) -/
theorem maxCtxIndex_lt (cs : List Nat) (hne : cs ≠ []) : maxCtxIndex cs 0 0 0 < cs.length := by
  obtain ⟨M, h, _⟩ := maxCtxIndex_max cs hne
  exact (List.getElem?_eq_some_iff.mp h).1

theorem lwVal_spec (E : List TItem) (hne : E ≠ []) :
    ∃ x ∈ E, lwVal (valsOf E) (ctxsOf E) = x.2.1 ∧ ∀ y ∈ E, y.2.2 ≤ x.2.2 := by
  obtain ⟨M, hM, hmax⟩ := maxCtxIndex_max (ctxsOf E) (by simpa [ctxsOf] using hne)
  unfold lwVal
  generalize maxCtxIndex (ctxsOf E) 0 0 0 = j at hM ⊢
  simp only [ctxsOf, List.getElem?_map, Option.map_eq_some_iff] at hM
  obtain ⟨x, hx, rfl⟩ := hM
  refine ⟨x, List.mem_of_getElem? hx, ?_, fun y hy => hmax _ (List.mem_map_of_mem hy)⟩
  simp [valsOf, List.getD_eq_getElem?_getD, hx]

/-- `L` is a sorted sequence holding exactly the records of the tables `Ss`, each tagged with the position
of its table -/
structure MergedFrom (Ss : List Table) (L : List TItem) : Prop where
  sorted : L.Pairwise (fun a b => bytesCmp a.1 b.1 ≠ .gt)
  mem : ∀ (k : Bytes) (v : GoBytes) (c : Nat), (k, v, c) ∈ L ↔ ∃ S, Ss[c]? = some S ∧ (k, v) ∈ S

/-- the value a key has under the largest tag is the newest one -/
theorem MergedFrom.newest {Ss : List Table} {L : List TItem} (hm : MergedFrom Ss L) (hts : ∀ t ∈ Ss, Asc t)
    {k : Bytes} {v : GoBytes} {c : Nat} (hx : (k, v, c) ∈ L) (hmax : ∀ v' c', (k, v', c') ∈ L → c' ≤ c) :
    newestValue Ss k = some v := by
  obtain ⟨S, hS, hmS⟩ := (hm.mem k v c).mp hx
  refine newestValue_some_iff.mpr ⟨c, S, hS, mem_tget (hts S (List.mem_of_getElem? hS)) hmS, fun c' t' hcc ht' => ?_⟩
  cases hg : tget t' k with
  | none => rfl
  | some v' => exact absurd (hmax v' c' ((hm.mem k v' c').mpr ⟨t', ht', tget_mem hg⟩)) (Nat.not_le_of_gt hcc)

theorem lw_newest {Ss : List Table} {L : List TItem} (hts : ∀ t ∈ Ss, Asc t) (hm : MergedFrom Ss L)
    (k : Bytes) (hne : sameKey k L ≠ []) :
    newestValue Ss k = some (lwVal (valsOf (sameKey k L)) (ctxsOf (sameKey k L))) := by
  obtain ⟨⟨kx, vx, cx⟩, hx, hval, hmaxc⟩ := lwVal_spec (sameKey k L) hne
  have hxf := List.mem_filter.mp hx
  obtain rfl : kx = k := by simpa using hxf.2
  rw [hval]
  exact hm.newest hts hxf.1 fun v' c' hin => hmaxc (kx, v', c') (List.mem_filter.mpr ⟨hin, by simp⟩)

/-- what a table holds for a key whose newest value is `x`, under a reducer that applies `g` to the newest value -/
def red (g : GoBytes → Option Bytes) (x : Option GoBytes) : Option GoBytes := x.bind fun v => (g v).map some

/-- a reducer that post-processes the latest-wins value, over a complete sorted merge: per key, the image of the
newest value -/
theorem tget_groupTbl_newest {Ss : List Table} {L : List TItem} (hts : ∀ t ∈ Ss, Asc t) (hm : MergedFrom Ss L)
    (g : GoBytes → Option Bytes) (k : Bytes) :
    tget (groupTbl (fun vs cs => g (lwVal vs cs)) L) k = red g (newestValue Ss k) := by
  rw [tget_groupTbl]
  by_cases h : sameKey k L = []
  · rw [if_pos h]
    cases hnv : newestValue Ss k with
    | none => rfl
    | some v =>
      obtain ⟨c, t, hc, hgt, _⟩ := newestValue_some_iff.mp hnv
      exact absurd h (sameKey_ne_nil_iff.mpr ⟨_, (hm.mem k v c).mpr ⟨t, hc, tget_mem hgt⟩, rfl⟩)
  · rw [if_neg h, lw_newest hts hm k h]
    rfl

theorem tget_live {m : Table} (ha : Asc m) (k : Bytes) : tget (live m) k = red (fun v => v) (tget m k) := by
  rw [live, tget_filter ha]
  match tget m k with
  | none | some none | some (some _) => rfl

theorem tget_liveNonEmpty {m : Table} (ha : Asc m) (k : Bytes) :
    tget (liveNonEmpty m) k = red nonEmptyVal (tget m k) := by
  rw [liveNonEmpty, tget_filter ha]
  match tget m k with
  | none | some none | some (some []) | some (some (_ :: _)) => rfl

/-- latest wins over a complete sorted merge = the live part of the overlay -/
theorem groupTbl_lw {Ss : List Table} {L : List TItem} (hts : ∀ t ∈ Ss, Asc t) (hm : MergedFrom Ss L) :
    groupTbl lwVal L = live (overlay Ss) :=
  asc_ext (groupTbl_asc lwVal L hm.sorted) (filter_asc _ (overlay_asc Ss)) fun k => by
    rw [tget_groupTbl_newest hts hm fun v => v, tget_live (overlay_asc Ss), tget_overlay hts]

end SST.Proofs.MergeGroup
