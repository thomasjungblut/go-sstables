/-
Ascending lists and the cut of a key in one.  A key `k` cuts a list ascending by a key projection into the
elements below `k` and the rest (`Cuts`); what a search for `k` finds, what an insertion of `k` does and the
answers of the sorted map of SST/Spec/Sorted.lean (`specGet`, `specFrom`, `specBetween`, `sortedInsert`) are read
off the two halves.  The same lemmas serve the nodes of the skip list, the order of its pointer level, the
association lists of the specification and, in the index form `CutAt` (what a binary search returns), the table
indexes.  The comparator lemmas all of this rests on are those of BytesOrd.lean.
-/
import SST.Proofs.BytesOrd
namespace SST.Proofs
open SST

variable {α β K V : Type}

/-- ascending by key, for any element type (`StrictAsc` is the case of pairs and their first component) -/
abbrev AscBy (cmp : K → K → Ordering) (key : α → K) (l : List α) : Prop :=
  l.Pairwise fun a b => cmp (key a) (key b) = .lt

/-- `k` cuts a list between `l1` and `l2`: all of `l1` is below `k`, nothing of `l2` is.  In an ascending
`l1 ++ l2` only the head of `l2` can compare equal to `k`. -/
structure Cuts (cmp : K → K → Ordering) (key : α → K) (k : K) (l1 l2 : List α) : Prop where
  lo : ∀ a ∈ l1, cmp k (key a) = .gt
  ge : ∀ a ∈ l2, cmp k (key a) ≠ .gt

theorem exists_cuts {cmp : K → K → Ordering} (hl : LawfulCmp cmp) (key : α → K) (k : K) :
    ∀ l : List α, AscBy cmp key l → ∃ l1 l2, l = l1 ++ l2 ∧ Cuts cmp key k l1 l2 := by
  intro l
  induction l with
  | nil => intro _; exact ⟨[], [], rfl, nofun, nofun⟩
  | cons a t ih =>
    intro hs
    have hs' := List.pairwise_cons.1 hs
    by_cases h : cmp k (key a) = .gt
    · obtain ⟨l1, l2, e, c⟩ := ih hs'.2
      exact ⟨a :: l1, l2, by rw [e]; rfl, List.forall_mem_cons.2 ⟨h, c.lo⟩, c.ge⟩
    · exact ⟨[], a :: t, rfl, nofun,
        List.forall_mem_cons.2 ⟨h, fun b hb => by rw [cmp_le_lt hl h (hs'.1 b hb)]; decide⟩⟩

namespace Cuts
variable {cmp : K → K → Ordering} {key : α → K} {k : K} {l1 l2 : List α}

theorem map (key : α → K) (f : β → α) {m1 m2 : List β} (c : Cuts cmp (fun b => key (f b)) k m1 m2) :
    Cuts cmp key k (m1.map f) (m2.map f) :=
  ⟨List.forall_mem_map.2 c.lo, List.forall_mem_map.2 c.ge⟩

theorem tail_lt (hl : LawfulCmp cmp) (c : Cuts cmp key k l1 l2) (hs : AscBy cmp key (l1 ++ l2)) :
    ∀ a ∈ l2.tail, cmp k (key a) = .lt := by
  cases l2 with
  | nil => nofun
  | cons b t =>
    intro a ha
    exact cmp_le_lt hl (c.ge b List.mem_cons_self)
      ((List.pairwise_cons.1 (List.pairwise_append.1 hs).2.1).1 a ha)

theorem find?_eq (hl : LawfulCmp cmp) (c : Cuts cmp key k l1 l2) (hs : AscBy cmp key (l1 ++ l2)) :
    (l1 ++ l2).find? (fun a => cmp k (key a) == .eq) = l2.head?.filter fun a => cmp k (key a) == .eq := by
  have h1 : l1.find? (fun a => cmp k (key a) == .eq) = none :=
    List.find?_eq_none.2 fun a ha => by simp [c.lo a ha]
  rw [List.find?_append, h1, Option.none_or]
  cases l2 with
  | nil => rfl
  | cons b t =>
    have h2 : t.find? (fun a => cmp k (key a) == .eq) = none :=
      List.find?_eq_none.2 fun a ha => by simp [c.tail_lt hl hs a ha]
    rw [List.find?_cons, h2, List.head?_cons, Option.filter_some]
    cases cmp k (key b) == .eq <;> rfl

theorem filter_ge (c : Cuts cmp key k l1 l2) :
    (l1 ++ l2).filter (fun a => cmp k (key a) != .gt) = l2 := by
  rw [List.filter_append, List.filter_eq_nil_iff.2 fun a ha => by simp [c.lo a ha],
    List.filter_eq_self.2 fun a ha => by simpa using c.ge a ha, List.nil_append]

theorem filter_le (hl : LawfulCmp cmp) (c : Cuts cmp key k l1 l2) (hs : AscBy cmp key (l1 ++ l2)) :
    (l1 ++ l2).filter (fun a => cmp (key a) k != .gt)
      = l1 ++ (l2.head?.filter fun a => cmp (key a) k != .gt).toList := by
  rw [List.filter_append, List.filter_eq_self.2 fun a ha => by rw [cmp_flip_gt hl (c.lo a ha)]; rfl]
  cases l2 with
  | nil => rfl
  | cons b t =>
    rw [List.filter_cons, List.filter_eq_nil_iff.2 fun a ha => by
      rw [cmp_flip_lt hl (c.tail_lt hl hs a ha)]; decide, List.head?_cons, Option.filter_some]
    cases cmp (key b) k != .gt <;> rfl

theorem asc_insert (hl : LawfulCmp cmp) (c : Cuts cmp key k l1 l2) (hs : AscBy cmp key (l1 ++ l2))
    (hne : ∀ a ∈ l2.head?, cmp k (key a) ≠ .eq) {x : α} (hx : key x = k) :
    AscBy cmp key (l1 ++ x :: l2) := by
  obtain ⟨h1, h2, h12⟩ := List.pairwise_append.1 hs
  have hgt : ∀ a ∈ l2, cmp k (key a) = .lt := by
    intro a ha
    cases l2 with
    | nil => cases ha
    | cons b t =>
      rcases List.mem_cons.1 ha with rfl | ha
      · exact cmp_lt_of_ne (c.ge _ List.mem_cons_self) (hne _ rfl)
      · exact c.tail_lt hl hs a ha
  refine List.pairwise_append.2 ⟨h1, List.pairwise_cons.2 ⟨fun a ha => hx ▸ hgt a ha, h2⟩, ?_⟩
  intro a ha b hb
  rcases List.mem_cons.1 hb with rfl | hb
  · exact hx ▸ cmp_flip_gt hl (c.lo a ha)
  · exact h12 a ha b hb

end Cuts

section Spec
variable {cmp : K → K → Ordering} {k : K} {l1 l2 : List (K × V)}

theorem Cuts.specGet (hl : LawfulCmp cmp) (c : Cuts cmp Prod.fst k l1 l2) (hs : StrictAsc cmp (l1 ++ l2)) :
    specGet cmp (l1 ++ l2) k = (l2.head?.filter fun p => cmp k p.1 == .eq).map (·.2) := by
  unfold SST.specGet; rw [c.find?_eq hl hs]

theorem Cuts.specFrom (c : Cuts cmp Prod.fst k l1 l2) : specFrom cmp (l1 ++ l2) k = l2 := c.filter_ge

theorem specBetween_eq (cmp : K → K → Ordering) (m : List (K × V)) (lo hi : K) :
    specBetween cmp m lo hi
      = if cmp lo hi == .gt then none
        else some ((specFrom cmp m lo).filter fun p => cmp p.1 hi != .gt) := by
  unfold specBetween specFrom
  rw [List.filter_filter]
  simp only [Bool.and_comm]

theorem Cuts.specBetween (c : Cuts cmp Prod.fst k l1 l2) (hi : K) :
    specBetween cmp (l1 ++ l2) k hi
      = if cmp k hi == .gt then none else some (l2.filter fun p => cmp p.1 hi != .gt) := by
  rw [specBetween_eq, c.specFrom]

theorem Cuts.sortedInsert (v : V) : ∀ {l1 : List (K × V)}, Cuts cmp Prod.fst k l1 l2 →
    sortedInsert cmp k v (l1 ++ l2) = l1 ++ (k, v) :: l2 := by
  intro l1
  induction l1 with
  | nil =>
    intro c
    cases l2 with
    | nil => rfl
    | cons p t => simp [SST.sortedInsert, c.ge p List.mem_cons_self]
  | cons p a ih =>
    intro c
    simp only [List.cons_append, SST.sortedInsert, c.lo p List.mem_cons_self, beq_self_eq_true, if_true,
      ih ⟨fun q hq => c.lo q (List.mem_cons_of_mem _ hq), c.ge⟩]

end Spec

theorem specGet_map (cmp : K → K → Ordering) (f : α → K × V) (l : List α) (k : K) :
    specGet cmp (l.map f) k = (l.find? fun a => cmp k (f a).1 == .eq).map fun a => (f a).2 := by
  unfold specGet; rw [List.find?_map, Option.map_map]; rfl

theorem specGet_isSome_of_mem (cmp : K → K → Ordering) (hrefl : ∀ k, cmp k k = .eq) (l : List (K × V)) {p : K × V}
    (hp : p ∈ l) : (specGet cmp l p.1).isSome = true := by
  unfold specGet
  rw [Option.isSome_map, List.find?_isSome]
  exact ⟨p, hp, by rw [hrefl]; rfl⟩

theorem sortedInsert_perm (cmp : K → K → Ordering) (k : K) (v : V) :
    ∀ l : List (K × V), (sortedInsert cmp k v l).Perm ((k, v) :: l) := by
  intro l
  induction l with
  | nil => exact List.Perm.refl _
  | cons p rest ih =>
    obtain ⟨k', v'⟩ := p
    simp only [sortedInsert]
    split
    · exact ((List.Perm.cons _ ih).trans (List.Perm.swap _ _ _))
    · exact List.Perm.refl _

theorem sortedInsert_strictAsc {cmp : K → K → Ordering} (hl : LawfulCmp cmp) (k : K) (v : V)
    (l : List (K × V)) (hs : StrictAsc cmp l) (hne : ∀ p ∈ l, cmp k p.1 ≠ .eq) :
    StrictAsc cmp (sortedInsert cmp k v l) := by
  obtain ⟨l1, l2, rfl, c⟩ := exists_cuts hl Prod.fst k l hs
  rw [c.sortedInsert]
  exact c.asc_insert hl hs (fun a ha => hne a (List.mem_append_right _ (List.mem_of_mem_head? ha))) rfl

theorem foldl_sortedInsert_spec {cmp : K → K → Ordering} (hl : LawfulCmp cmp) :
    ∀ (ins acc : List (K × V)), StrictAsc cmp acc → DistinctKeys cmp (ins.map (·.1)) →
      (∀ x ∈ ins, ∀ p ∈ acc, cmp x.1 p.1 ≠ .eq) →
      StrictAsc cmp (ins.foldl (fun acc p => sortedInsert cmp p.1 p.2 acc) acc) ∧
        (ins.foldl (fun acc p => sortedInsert cmp p.1 p.2 acc) acc).Perm (acc ++ ins) := by
  intro ins
  induction ins with
  | nil => intro acc hs _ _; simpa using hs
  | cons x rest ih =>
    intro acc hs hd hne
    have hd' := List.pairwise_cons.1 (show List.Pairwise _ (x.1 :: rest.map (·.1)) from hd)
    have hperm := sortedInsert_perm cmp x.1 x.2 acc
    have hs1 := sortedInsert_strictAsc hl x.1 x.2 acc hs (hne x List.mem_cons_self)
    obtain ⟨h1, h2⟩ := ih (sortedInsert cmp x.1 x.2 acc) hs1 hd'.2
      (by
        intro y hy p hp
        rcases List.mem_cons.1 (hperm.mem_iff.1 hp) with rfl | hp
        · intro he
          exact hd'.1 y.1 (List.mem_map_of_mem hy) (cmp_flip_eq hl he)
        · exact hne y (List.mem_cons_of_mem _ hy) p hp)
    refine ⟨h1, ?_⟩
    simp only [List.foldl_cons]
    refine h2.trans ?_
    refine (List.Perm.append_right rest hperm).trans ?_
    exact (List.perm_middle (l₁ := acc) (a := x) (l₂ := rest)).symm

/-- `sortedOf` really is the sorted map of the insertions: strictly ascending and a permutation of them. -/
theorem sortedOf_spec (cmp : K → K → Ordering) (hl : LawfulCmp cmp) (ins : List (K × V))
    (hd : DistinctKeys cmp (ins.map (·.1))) :
    StrictAsc cmp (sortedOf cmp ins) ∧ (sortedOf cmp ins).Perm ins := by
  have := foldl_sortedInsert_spec hl ins [] List.Pairwise.nil hd (fun _ _ _ hp => nomatch hp)
  simpa [sortedOf] using this

theorem foldl_sortedInsert_asc {cmp : K → K → Ordering} (hl : LawfulCmp cmp) :
    ∀ (rest acc : List (K × V)), StrictAsc cmp (acc ++ rest) →
      rest.foldl (fun acc p => sortedInsert cmp p.1 p.2 acc) acc = acc ++ rest := by
  intro rest
  induction rest with
  | nil => intro acc _; simp
  | cons p t ih =>
    intro acc hs
    have h1 : sortedInsert cmp p.1 p.2 acc = acc ++ [p] := by
      simpa using Cuts.sortedInsert (l2 := []) p.2
        ⟨fun a ha => cmp_flip_lt hl ((List.pairwise_append.1 hs).2.2 a ha p List.mem_cons_self), nofun⟩
    rw [List.foldl_cons, h1, ih (acc ++ [p]) (by rw [List.append_assoc]; exact hs), List.append_assoc]
    rfl

theorem sortedOf_asc {cmp : K → K → Ordering} (hl : LawfulCmp cmp) (l : List (K × V))
    (hs : StrictAsc cmp l) : sortedOf cmp l = l := by
  have := foldl_sortedInsert_asc hl l [] (by simpa using hs)
  simpa [sortedOf] using this

/-! ### the index form: what a binary search returns -/

abbrev CutAt (cmp : K → K → Ordering) (key : α → K) (l : List α) (k : K) (r : Nat) : Prop :=
  Cuts cmp key k (l.take r) (l.drop r)

theorem Cuts.cutAt {cmp : K → K → Ordering} {key : α → K} {k : K} {l1 l2 : List α}
    (c : Cuts cmp key k l1 l2) : CutAt cmp key (l1 ++ l2) k l1.length := by
  unfold CutAt
  rwa [List.take_left, List.drop_left]

theorem exists_cutAt {cmp : K → K → Ordering} (hl : LawfulCmp cmp) (key : α → K) (k : K) (l : List α)
    (hs : AscBy cmp key l) : ∃ r, r ≤ l.length ∧ CutAt cmp key l k r := by
  obtain ⟨l1, l2, rfl, c⟩ := exists_cuts hl key k l hs
  exact ⟨l1.length, by rw [List.length_append]; exact Nat.le_add_right _ _, c.cutAt⟩

namespace CutAt
variable {cmp : K → K → Ordering} {key : α → K} {l : List α} {k : K} {r : Nat}

theorem lt_iff (c : CutAt cmp key l k r) (i : Nat) (hi : i < l.length) : i < r ↔ cmp k (key l[i]) = .gt := by
  constructor
  · intro h
    exact c.lo _ (List.mem_take_iff_getElem.2 ⟨i, Nat.lt_min.2 ⟨h, hi⟩, rfl⟩)
  · intro h
    rcases Nat.lt_or_ge i r with h1 | h1
    · exact h1
    · obtain ⟨d, rfl⟩ := Nat.exists_eq_add_of_le h1
      exact absurd h (c.ge _ (List.mem_drop_iff_getElem.2 ⟨d, Nat.add_comm r d ▸ hi, rfl⟩))

/-- the element at the cut is not below `k`: it is at most `k` only when it is `k` -/
theorem head_le_iff_eq (hl : LawfulCmp cmp) (c : CutAt cmp key l k r) (hr : r < l.length) :
    (cmp (key l[r]) k != .gt) = (cmp (key l[r]) k == .eq) := by
  have h := c.ge l[r] (by rw [List.drop_eq_getElem_cons hr]; exact List.mem_cons_self)
  rw [hl.swap (key l[r]) k]
  cases hc : cmp k (key l[r]) with
  | lt => rfl
  | eq => rfl
  | gt => exact absurd hc h

theorem take (c : CutAt cmp key l k r) (m : Nat) : CutAt cmp key (l.take m) k r where
  lo := fun e he => c.lo e (by
    rw [List.take_take, Nat.min_comm, ← List.take_take] at he; exact List.mem_of_mem_take he)
  ge := fun e he => c.ge e (by rw [List.drop_take] at he; exact List.mem_of_mem_take he)

end CutAt

section SpecAt
variable {cmp : K → K → Ordering} {l : List (K × V)} {k : K} {r : Nat}

theorem CutAt.specFrom (c : CutAt cmp Prod.fst l k r) : specFrom cmp l k = l.drop r := by
  have := Cuts.specFrom c
  rwa [List.take_append_drop] at this

theorem CutAt.specGet (hl : LawfulCmp cmp) (hs : StrictAsc cmp l) (c : CutAt cmp Prod.fst l k r) :
    specGet cmp l k = (l[r]?.filter fun p => cmp k p.1 == .eq).map (·.2) := by
  have := Cuts.specGet hl c ((List.take_append_drop r l).symm ▸ hs)
  rwa [List.take_append_drop, List.head?_drop] at this

/-- the `endIdx` adjustment of `IteratorBetween` -/
theorem CutAt.filter_le (hl : LawfulCmp cmp) (hs : StrictAsc cmp l) (c : CutAt cmp Prod.fst l k r) :
    l.filter (fun p => cmp p.1 k != .gt) = l.take (match l[r]? with
      | some p => if cmp p.1 k != .gt then r + 1 else r
      | none => r) := by
  have := Cuts.filter_le hl c ((List.take_append_drop r l).symm ▸ hs)
  rw [List.take_append_drop, List.head?_drop] at this
  rw [this]
  by_cases hr : r < l.length
  · rw [List.getElem?_eq_getElem hr, Option.filter_some]
    dsimp only
    by_cases hc : (cmp l[r].1 k != .gt) = true
    · rw [if_pos hc, if_pos hc, Option.toList_some, List.take_append_getElem hr]
    · rw [if_neg hc, if_neg hc]; exact List.append_nil _
  · rw [List.getElem?_eq_none (Nat.le_of_not_lt hr)]; exact List.append_nil _

theorem CutAt.specBetween (hl : LawfulCmp cmp) {lo hi : K} {r1 r2 : Nat} (hs : StrictAsc cmp l)
    (c1 : CutAt cmp Prod.fst l lo r1) (c2 : CutAt cmp Prod.fst l hi r2) :
    specBetween cmp l lo hi = if cmp lo hi == .gt then none else
      some ((l.take (match l[r2]? with
        | some p => if cmp p.1 hi != .gt then r2 + 1 else r2
        | none => r2)).drop r1) := by
  unfold SST.specBetween
  split
  · rfl
  · rw [← List.filter_filter, c2.filter_le hl hs]
    exact congrArg some (c1.take _).specFrom

end SpecAt

end SST.Proofs
