/-
L6-fs, the clean-up half of recovery (repairCompactions + reconstructSSTables) as a memoryless event loop:
every event keeps the disk well-formed, keeps what the big-step recovery computes, and lowers the measure
(`CleanEv.ok`, `CleanEv.mu_lt`); one induction over the fuel makes the loop a segment (`clean_seg`).  Every call acts
on one present, named entry of one listing: the listing is split at it (`tables_split`, `comps_split`), where update and
erase are closed forms, the flagged directories a `filter` over `a ++ x :: b`, and the measure the weight of the entry
plus a rest the call leaves alone (`mu_at_table`, `mu_at_comp`).
-/
import SST.Proofs.FSBasic
namespace SST.Proofs.FS
open SST SST.DBM SST.FS SST.Proofs.DB

/-- the tables `phase1` + `phase2` leave (when `phase2` does not fail) -/
def normT (d : Disk) : List (Nat × TableDir) := (d.comps.foldl finishComp d.tables).filter (fun p => isComplete p.2)

/-- the disk `phase1` + `phase2` leave -/
def norm (d : Disk) : Disk := { tables := normT d, walDir := d.walDir, wal := d.wal, comps := [] }

theorem norm_congr {d d' : Disk} (h1 : normT d' = normT d) (h2 : d'.walDir = d.walDir) (h3 : d'.wal = d.wal) :
    norm d' = norm d := by
  unfold norm; rw [h1, h2, h3]

theorem effTables_eq (d : Disk) : effTables d = tblsOf (norm d).tables := by
  simp only [effTables, phase1, norm, normT, tblsOf_filter_complete]

/-- with at most one flagged directory the fold finishes that one, or nothing -/
theorem foldl_finishComp_one (cs : List CompDir) (ts : List (Nat × TableDir))
    (h : (cs.filter isFlagged).length ≤ 1) :
    (cs.foldl finishComp ts = ts ∧ ∀ c ∈ cs, c.flag = none) ∨
    (∃ c m, c ∈ cs ∧ c.flag = some m ∧ cs.foldl finishComp ts = insertT m.replacement c.out (rmInputs m ts)) := by
  rw [foldl_finishComp_flagged]
  match hl : cs.filter isFlagged, h with
  | [], _ =>
    refine Or.inl ⟨rfl, fun c hc => (not_isFlagged_iff c).1 ?_⟩
    simpa using List.filter_eq_nil_iff.1 hl c hc
  | [c], _ =>
    obtain ⟨hc, hfl⟩ := List.mem_filter.1 (hl ▸ List.mem_singleton.2 rfl : c ∈ cs.filter isFlagged)
    obtain ⟨m, hm⟩ := (isFlagged_iff c).1 hfl
    exact Or.inr ⟨c, m, hc, hm, by simp [finishComp, hm]⟩
  | _ :: _ :: _, h => simp at h

theorem flagged_unique {cs : List CompDir} (h : (cs.filter isFlagged).length ≤ 1) {a b : CompDir}
    (ha : a ∈ cs) (hb : b ∈ cs) (hfa : isFlagged a = true) (hfb : isFlagged b = true) : a = b := by
  have ha' : a ∈ cs.filter isFlagged := List.mem_filter.2 ⟨ha, hfa⟩
  have hb' : b ∈ cs.filter isFlagged := List.mem_filter.2 ⟨hb, hfb⟩
  match hl : cs.filter isFlagged, h with
  | [], _ => rw [hl] at ha'; cases ha'
  | [x], _ =>
    rw [hl] at ha' hb'
    simp only [List.mem_singleton] at ha' hb'
    rw [ha', hb']
  | _ :: _ :: _, h => simp at h

theorem coveredBy_iff (cs : List CompDir) (g : Nat) :
    coveredBy cs g = true ↔ ∃ c ∈ cs, ∃ m, c.flag = some m ∧ (g ∈ m.inputs ∨ g = m.replacement) := by
  unfold coveredBy
  rw [List.any_eq_true]
  constructor
  · rintro ⟨c, hc, h⟩
    refine ⟨c, hc, ?_⟩
    cases hf : c.flag with
    | none => simp [hf] at h
    | some m =>
      refine ⟨m, rfl, ?_⟩
      simpa [hf] using h
  · rintro ⟨c, hc, m, hf, h⟩
    refine ⟨c, hc, ?_⟩
    simpa [hf] using h

theorem phase1_no_partMeta (d : Disk) (h : DiskOk d) : ∀ p ∈ (phase1 d).tables, isPartMeta p.2 = false := by
  intro p hp
  simp only [phase1] at hp
  rcases foldl_finishComp_one d.comps d.tables h.oneFlag with (⟨e, hn⟩ | ⟨c, m, hc, hm, e⟩)
  · rw [e] at hp
    cases hpm : isPartMeta p.2 with
    | false => rfl
    | true =>
      obtain ⟨c, hc, m, hf, _⟩ := (coveredBy_iff _ _).1 (h.covered p hp hpm)
      rw [hn c hc] at hf; cases hf
  · rw [e] at hp
    rcases mem_insertT hp with (hp | hp)
    · cases hpm : isPartMeta p.2 with
      | false => rfl
      | true =>
        have hp' := List.mem_filter.1 hp
        obtain ⟨c', hc', m', hf', hcov⟩ := (coveredBy_iff _ _).1 (h.covered p hp'.1 hpm)
        have : c' = c := flagged_unique h.oneFlag hc' hc ((isFlagged_iff _).2 ⟨m', hf'⟩) ((isFlagged_iff _).2 ⟨m, hm⟩)
        subst this
        rw [hm] at hf'; cases hf'
        have h2 := hp'.2
        rcases hcov with (hcov | hcov)
        · simp [hcov] at h2
        · simp [hcov] at h2
    · subst hp
      have := h.flagOut c hc ((isFlagged_iff _).2 ⟨m, hm⟩)
      cases hout : c.out with
      | part b => rw [hout] at this; cases this
      | complete cells => rfl

theorem phase12_ok (d : Disk) (h : DiskOk d) : phase2 (phase1 d) = .ok (norm d) := by
  unfold phase2
  have : (phase1 d).tables.any (fun p => isPartMeta p.2) = false := by
    rw [List.any_eq_false]
    intro p hp
    simp [phase1_no_partMeta d h p hp]
  rw [this]
  rfl

/-- the flagged compaction directories are all that recovery and well-formedness see of the compaction directories -/
theorem comps_congr_ok {d : Disk} (h : DiskOk d) {cs : List CompDir} (hids : (cs.map (·.id)).Pairwise (· ≠ ·))
    (hfl : cs.filter isFlagged = d.comps.filter isFlagged) :
    DiskOk { d with comps := cs } ∧ norm { d with comps := cs } = norm d := by
  have hmem : ∀ c, isFlagged c = true → (c ∈ cs ↔ c ∈ d.comps) := by
    intro c hc
    have := congrArg (c ∈ ·) hfl
    simpa [List.mem_filter, hc] using this
  refine ⟨{ h with compIds := hids, oneFlag := ?_, flagOut := ?_, covered := ?_ }, norm_congr ?_ rfl rfl⟩
  · show (cs.filter isFlagged).length ≤ 1
    rw [hfl]; exact h.oneFlag
  · intro c hc hf
    exact h.flagOut c ((hmem c hf).1 hc) hf
  · intro p hp hpm
    obtain ⟨c, hc, m, hm, hg⟩ := (coveredBy_iff _ _).1 (h.covered p hp hpm)
    exact (coveredBy_iff _ _).2 ⟨c, (hmem c ((isFlagged_iff c).2 ⟨m, hm⟩)).2 hc, m, hm, hg⟩
  · show (cs.foldl finishComp d.tables).filter _ = (d.comps.foldl finishComp d.tables).filter _
    rw [foldl_finishComp_flagged, hfl, ← foldl_finishComp_flagged]

theorem tblNames {d : Disk} (h : DiskOk d) : (d.tables.map (·.1)).Pairwise (· ≠ ·) :=
  h.tblSorted.imp Nat.ne_of_lt

/-- a table directory that is there: the listing around it, and what `updT` / `eraseT` of its name leave -/
theorem tables_split {d : Disk} (h : DiskOk d) {g : Nat} {t : TableDir} (hm : (g, t) ∈ d.tables) :
    ∃ a b, d.tables = a ++ (g, t) :: b ∧ (∀ f, updT g f d.tables = a ++ (g, f t) :: b) ∧ eraseT g d.tables = a ++ b := by
  obtain ⟨a, b, hl, ha, hb⟩ := Keyed.split_of_mem (fun p : Nat × TableDir => p.1) (tblNames h) hm
  rw [hl]
  exact ⟨a, b, rfl, fun f => updT_mid g f a b t ha hb, eraseT_mid g a b t ha hb⟩

theorem comps_split {d : Disk} (h : DiskOk d) {c : CompDir} (hm : c ∈ d.comps) :
    ∃ a b, d.comps = a ++ c :: b ∧ (∀ f, updC c.id f d.comps = a ++ f c :: b) ∧ eraseC c.id d.comps = a ++ b := by
  obtain ⟨a, b, hl, ha, hb⟩ := Keyed.split_of_mem (fun c : CompDir => c.id) h.compIds hm
  rw [hl]
  exact ⟨a, b, rfl, fun f => Keyed.upd_mid (fun c : CompDir => c.id) c.id f a b c ha hb rfl,
    Keyed.erase_mid (fun c : CompDir => c.id) c.id a b c ha hb rfl⟩

/-- removing (a file of) an unflagged compaction directory -/
theorem unflagged_event_ok (d : Disk) (h : DiskOk d) (c : CompDir) (hc : c ∈ d.comps) (hf : c.flag = none)
    (e : Ev) (he : e = .compUnlinkPart c.id ∨ e = .compRmdir c.id) :
    DiskOk (applyEv d e) ∧ norm (applyEv d e) = norm d := by
  obtain ⟨a, b, hl, hu, her⟩ := comps_split h hc
  have hids := h.compIds
  have hnf : ¬ isFlagged c = true := ne_true_of_eq_false ((not_isFlagged_iff c).2 hf)
  rw [hl] at hids
  rcases he with (rfl | rfl)
  · refine comps_congr_ok h (cs := updC c.id _ d.comps) ?_ ?_
    · rw [hu]
      simpa only [List.map_append, List.map_cons] using hids
    · rw [hu, hl, List.filter_append, List.filter_append, List.filter_cons_of_neg Bool.false_ne_true,
        List.filter_cons_of_neg hnf]
  · refine comps_congr_ok h (cs := eraseC c.id d.comps) ?_ ?_
    · rw [her]
      exact hids.sublist (List.Sublist.map _ (List.Sublist.append_left (List.sublist_cons_self _ _) _))
    · rw [her, hl, List.filter_append, List.filter_append, List.filter_cons_of_neg hnf]

/-- with the single flagged directory `c`: whatever happens to the directory of one of its inputs / its replacement
path changes nothing (recovery deletes that directory before it looks at the tables) -/
theorem input_change_ok (d : Disk) (h : DiskOk d) (c : CompDir) (m : CompMeta) (hc : d.comps = [c])
    (hf : c.flag = some m) (g : Nat) (hg : g ∈ m.inputs ∨ g = m.replacement) (ts : List (Nat × TableDir))
    (hs : (ts.map (·.1)).Pairwise (· < ·)) (he : eraseT g ts = eraseT g d.tables) :
    DiskOk { d with tables := ts } ∧ norm { d with tables := ts } = norm d := by
  have hq : (fun n : Nat => !(m.inputs.contains n || n == m.replacement)) g = false := by
    rcases hg with (hg | hg) <;> simp [hg]
  refine ⟨{ h with tblSorted := hs, covered := ?_ }, norm_congr ?_ rfl rfl⟩
  · intro p hp hpm
    by_cases hpg : p.1 = g
    · rw [hpg]
      exact (coveredBy_iff _ _).2 ⟨c, by rw [hc]; exact List.mem_singleton.2 rfl, m, hf, hg⟩
    · have : p ∈ eraseT g d.tables := he ▸ List.mem_filter.2 ⟨hp, by simpa using hpg⟩
      exact h.covered p (List.mem_filter.1 this).1 hpm
  · show (d.comps.foldl finishComp ts).filter _ = (d.comps.foldl finishComp d.tables).filter _
    rw [hc]
    simp only [List.foldl_cons, List.foldl_nil, finishComp, hf, rmInputs]
    rw [← filter_eraseT (fun n => !(m.inputs.contains n || n == m.replacement)) g ts hq, he,
      filter_eraseT (fun n => !(m.inputs.contains n || n == m.replacement)) g _ hq]

theorem eraseT_updT' (g : Nat) (f : TableDir → TableDir) (ts : List (Nat × TableDir)) :
    eraseT g (updT g f ts) = eraseT g ts :=
  filter_updT (fun n => n != g) g f ts (by simp)

/-- with the single flagged directory `c`: an unlink or rmdir on one of its inputs / its replacement path, or that
directory showing up as a legacy table -/
theorem input_event_ok (d : Disk) (h : DiskOk d) (c : CompDir) (m : CompMeta) (hc : d.comps = [c])
    (hf : c.flag = some m) (g : Nat) (hg : g ∈ m.inputs ∨ g = m.replacement)
    (e : Ev) (he : (∃ keep, e = .tblUnlinkPart g keep) ∨ e = .tblRmdir g ∨ (∃ j, e = .tblLoadable g j)) :
    DiskOk (applyEv d e) ∧ norm (applyEv d e) = norm d := by
  have hupd : ∀ f, DiskOk { d with tables := updT g f d.tables } ∧ norm { d with tables := updT g f d.tables } = norm d :=
    fun f => input_change_ok d h c m hc hf g hg _ (by rw [keys_updT]; exact h.tblSorted) (eraseT_updT' g f _)
  rcases he with (⟨keep, rfl⟩ | rfl | ⟨j, rfl⟩)
  · exact hupd _
  · exact input_change_ok d h c m hc hf g hg _ (filter_sorted _ _ h.tblSorted) (by simp [eraseT])
  · exact hupd _

theorem applyEv_rename (d : Disk) (c : CompDir) (hc : d.comps = [c]) (g : Nat) (hl : lookupT g d.tables = none) :
    applyEv d (.compRename c.id g) = { d with comps := [], tables := insertT g c.out d.tables } := by
  have hfind : d.comps.find? (·.id == c.id) = some c := by rw [hc]; simp
  simp only [applyEv, hfind, hl, Option.isSome_none, Bool.false_eq_true, if_false]
  rw [hc]; simp [eraseC]

/-- the rename that finishes the single flagged directory, once inputs and replacement path are gone -/
theorem rename_event_ok (d : Disk) (h : DiskOk d) (c : CompDir) (m : CompMeta) (hc : d.comps = [c])
    (hf : c.flag = some m) (hgone : ∀ p ∈ d.tables, p.1 ∉ m.inputs ∧ p.1 ≠ m.replacement) :
    DiskOk (applyEv d (.compRename c.id m.replacement)) ∧
      norm (applyEv d (.compRename c.id m.replacement)) = norm d := by
  rw [applyEv_rename d c hc _ (lookupT_none.2 (fun p hp => (hgone p hp).2))]
  have hout : isComplete c.out = true :=
    h.flagOut c (by rw [hc]; exact List.mem_singleton.2 rfl) ((isFlagged_iff _).2 ⟨m, hf⟩)
  refine ⟨?_, ?_⟩
  · refine { h with tblSorted := ?_, compIds := ?_, oneFlag := ?_, flagOut := ?_, covered := ?_ }
    · exact insertT_sorted _ _ _ h.tblSorted
    · simp
    · simp
    · intro x hx; cases hx
    · intro p hp hpm
      have hp0 : p ∈ insertT m.replacement c.out d.tables := hp
      rcases mem_insertT hp0 with (hp1 | hp1)
      · obtain ⟨x, hx, m', hxm, hg⟩ := (coveredBy_iff _ _).1 (h.covered p hp1 hpm)
        rw [hc, List.mem_singleton] at hx
        subst hx
        rw [hf] at hxm; cases hxm
        have := hgone p hp1
        rcases hg with (hg | hg)
        · exact absurd hg this.1
        · exact absurd hg this.2
      · subst hp1
        cases hco : c.out with
        | part b => rw [hco] at hout; cases hout
        | complete cells => rw [hco] at hpm; cases hpm
  · refine norm_congr ?_ rfl rfl
    unfold normT
    show (List.foldl finishComp (insertT m.replacement c.out d.tables) []).filter _ = _
    rw [hc]
    simp only [List.foldl_cons, List.foldl_nil, finishComp, hf]
    have : rmInputs m d.tables = d.tables := by
      unfold rmInputs
      rw [List.filter_eq_self]
      intro p hp
      have := hgone p hp
      simp [this.1, this.2]
    rw [this]

/-- removing an unfinished table directory (no compaction directories left) -/
theorem unfinished_event_ok (d : Disk) (h : DiskOk d) (hc : d.comps = []) (g : Nat)
    (hg : (g, TableDir.part false) ∈ d.tables) :
    DiskOk (applyEv d (.tblRmdir g)) ∧ norm (applyEv d (.tblRmdir g)) = norm d := by
  obtain ⟨a, b, hl, _, he⟩ := tables_split h hg
  have htab : (applyEv d (.tblRmdir g)).tables = a ++ b := he
  have hsub : (a ++ b).Sublist d.tables := hl ▸ List.Sublist.append_left (List.sublist_cons_self _ _) _
  refine ⟨{ h with tblSorted := ?_, covered := ?_ }, norm_congr ?_ rfl rfl⟩
  · rw [htab]; exact h.tblSorted.sublist (hsub.map _)
  · intro p hp hpm
    exact h.covered p (hsub.subset (htab ▸ hp)) hpm
  · unfold normT
    rw [htab, show (applyEv d (.tblRmdir g)).comps = d.comps from rfl, hc, hl]
    show (a ++ b).filter _ = (a ++ (g, TableDir.part false) :: b).filter _
    rw [List.filter_append, List.filter_append, List.filter_cons_of_neg Bool.false_ne_true]

theorem nextInput_some {m : CompMeta} {ts : List (Nat × TableDir)} {g : Nat} {t : TableDir}
    (h : nextInput m ts = some (g, t)) : g ∈ m.inputs ∧ (g, t) ∈ ts := by
  unfold nextInput at h
  obtain ⟨g', hg', h2⟩ := List.exists_of_findSome?_eq_some h
  by_cases hr : (g' != m.replacement) = true
  · rw [if_pos hr] at h2
    obtain ⟨t', ht', h3⟩ := Option.map_eq_some_iff.1 h2
    cases h3
    exact ⟨hg', lookupT_some ht'⟩
  · rw [if_neg hr] at h2; cases h2

theorem nextInput_none {m : CompMeta} {ts : List (Nat × TableDir)} (h : nextInput m ts = none)
    (hr : lookupT m.replacement ts = none) : ∀ p ∈ ts, p.1 ∉ m.inputs ∧ p.1 ≠ m.replacement := by
  intro p hp
  have h2 := lookupT_none.1 hr p hp
  refine ⟨?_, h2⟩
  intro hin
  unfold nextInput at h
  have := List.findSome?_eq_none_iff.1 h p.1 hin
  have hne : (p.1 != m.replacement) = true := by simpa using h2
  rw [if_pos hne, Option.map_eq_none_iff] at this
  exact lookupT_none.1 this p hp rfl

theorem rmTblEv_cases (g : Nat) (t : TableDir) :
    (∃ keep, rmTblEv g t = .tblUnlinkPart g keep) ∨ rmTblEv g t = .tblRmdir g := by
  cases t with
  | part b => cases b <;> simp [rmTblEv]
  | complete c => simp [rmTblEv]

/-- all compaction directories flagged + at most one flagged = at most one directory -/
theorem comps_all_flagged {d : Disk} (h : DiskOk d) (hall : d.comps.find? (fun c => !isFlagged c) = none)
    (c : CompDir) (rest : List CompDir) (hc : d.comps = c :: rest) : rest = [] ∧ ∃ m, c.flag = some m := by
  have hfl : ∀ x ∈ d.comps, isFlagged x = true := by
    intro x hx
    have := List.find?_eq_none.1 hall x hx
    simpa using this
  have h1 := h.oneFlag
  rw [List.filter_eq_self.2 hfl, hc, List.length_cons] at h1
  refine ⟨List.eq_nil_of_length_eq_zero (by omega), (isFlagged_iff c).1 (hfl c (by rw [hc]; exact List.mem_cons_self))⟩

/-- the calls of the clean-up loop, each with the situation it is made in -/
inductive CleanEv (d : Disk) : Ev → Prop
  | unlinkComp (c : CompDir) : c ∈ d.comps → c.flag = none → c.out ≠ .part false → CleanEv d (.compUnlinkPart c.id)
  | rmdirComp (c : CompDir) : c ∈ d.comps → c.flag = none → CleanEv d (.compRmdir c.id)
  | rmInput (c : CompDir) (m : CompMeta) (g : Nat) (t : TableDir) : d.comps = [c] → c.flag = some m →
      (g ∈ m.inputs ∨ g = m.replacement) → (g, t) ∈ d.tables → CleanEv d (rmTblEv g t)
  | rename (c : CompDir) (m : CompMeta) : d.comps = [c] → c.flag = some m →
      (∀ p ∈ d.tables, p.1 ∉ m.inputs ∧ p.1 ≠ m.replacement) → CleanEv d (.compRename c.id m.replacement)
  | rmUnfinished (g : Nat) : d.comps = [] → (g, TableDir.part false) ∈ d.tables → CleanEv d (.tblRmdir g)

theorem norm_eq_self {d : Disk} (hc : d.comps = []) (hall : ∀ p ∈ d.tables, isComplete p.2 = true) : norm d = d := by
  obtain ⟨t, wd, w, c⟩ := d
  cases hc
  simp only [norm, normT, List.foldl_nil]
  rw [List.filter_eq_self.2 hall]

/-- what `cleanStep` answers: a call of the loop in its situation, or nothing when the disk is clean -/
theorem cleanStep_spec (d : Disk) (h : DiskOk d) : (cleanStep d).elim (norm d = d) (CleanEv d) := by
  unfold cleanStep
  split
  · rename_i c hfind
    have hc := List.mem_of_find?_eq_some hfind
    have hf : c.flag = none := (not_isFlagged_iff c).1 (by simpa using List.find?_some hfind)
    split
    · exact CleanEv.rmdirComp c hc hf
    · rename_i hout; exact CleanEv.unlinkComp c hc hf hout
  · rename_i hall
    split
    · rename_i c rest hcs
      obtain ⟨rfl, m, hm⟩ := comps_all_flagged h hall c rest hcs
      split
      · rename_i hn; rw [hm] at hn; cases hn
      · rename_i m' hm'
        rw [hm] at hm'; cases hm'
        split
        · rename_i g t hni
          exact CleanEv.rmInput c m g t hcs hm (Or.inl (nextInput_some hni).1) (nextInput_some hni).2
        · rename_i hni
          split
          · rename_i t hl
            exact CleanEv.rmInput c m _ t hcs hm (Or.inr rfl) (lookupT_some hl)
          · rename_i hl
            exact CleanEv.rename c m hcs hm (nextInput_none hni hl)
    · rename_i hcs
      cases hq : d.tables.find? (fun p => !isComplete p.2) with
      | none => exact norm_eq_self hcs fun p hp => by simpa using List.find?_eq_none.1 hq p hp
      | some q =>
        obtain ⟨g, t⟩ := q
        have hqm := List.mem_of_find?_eq_some hq
        cases t with
        | complete cells => simpa [isComplete] using List.find?_some hq
        | part b =>
          cases b with
          | false => exact CleanEv.rmUnfinished g hcs hqm
          | true =>
            have := h.covered _ hqm rfl
            rw [hcs] at this
            simp [coveredBy] at this

/-- every event of the clean-up loop keeps the disk well-formed, leaves the WAL alone and does not change what
the uninterrupted clean-up would arrive at -/
theorem CleanEv.ok {d : Disk} {e : Ev} (h : DiskOk d) (he : CleanEv d e) :
    DiskOk (applyEv d e) ∧ norm (applyEv d e) = norm d := by
  cases he with
  | unlinkComp c hc hf _ => exact unflagged_event_ok d h c hc hf _ (Or.inl rfl)
  | rmdirComp c hc hf => exact unflagged_event_ok d h c hc hf _ (Or.inr rfl)
  | rmInput c m g t hc hf hg _ => exact input_event_ok d h c m hc hf g hg _ ((rmTblEv_cases g t).imp_right Or.inl)
  | rename c m hc hf hgone => exact rename_event_ok d h c m hc hf hgone
  | rmUnfinished g hc hg => exact unfinished_event_ok d h hc g hg

theorem sumT_insertT_le (g : Nat) (t : TableDir) (ts : List (Nat × TableDir)) :
    ((insertT g t ts).map fun p => wT p.2).sum ≤ (ts.map fun p => wT p.2).sum + wT t := by
  induction ts with
  | nil => simp [insertT]
  | cons p r ih =>
    simp only [insertT]
    split
    · simp only [List.map_cons, List.sum_cons]
      exact Nat.le_of_eq (Nat.add_comm _ _)
    · split <;> simp only [List.map_cons, List.sum_cons]
      · exact Nat.le_add_right _ _
      · rw [Nat.add_assoc]
        exact Nat.add_le_add_left ih _

theorem mu_eq (d : Disk) : mu d = (d.tables.map fun p => wT p.2).sum + (d.comps.map fun c => wT c.out + 2).sum := rfl

/-- the measure is the weight of a table directory that is there plus a rest that `updT` / `eraseT` of its name leave -/
theorem mu_at_table {d : Disk} (h : DiskOk d) {g : Nat} {t : TableDir} (hm : (g, t) ∈ d.tables) :
    ∃ r, mu d = wT t + r ∧ (∀ f, mu { d with tables := updT g f d.tables } = wT (f t) + r) ∧
      mu { d with tables := eraseT g d.tables } = r := by
  obtain ⟨a, b, hl, hu, he⟩ := tables_split h hm
  refine ⟨((a ++ b).map fun p => wT p.2).sum + (d.comps.map fun c => wT c.out + 2).sum, ?_, fun f => ?_, ?_⟩
  · rw [mu_eq, hl, sum_map_mid, Nat.add_assoc]
  · rw [mu_eq, hu, sum_map_mid, Nat.add_assoc]
  · rw [mu_eq, he]

theorem mu_at_comp {d : Disk} (h : DiskOk d) {c : CompDir} (hm : c ∈ d.comps) :
    ∃ r, mu d = wT c.out + 2 + r ∧ (∀ f, mu { d with comps := updC c.id f d.comps } = wT (f c).out + 2 + r) ∧
      mu { d with comps := eraseC c.id d.comps } = r := by
  obtain ⟨a, b, hl, hu, he⟩ := comps_split h hm
  refine ⟨(d.tables.map fun p => wT p.2).sum + ((a ++ b).map fun c => wT c.out + 2).sum, ?_, fun f => ?_, ?_⟩
  · rw [mu_eq, hl, sum_map_mid, Nat.add_left_comm]
  · rw [mu_eq, hu, sum_map_mid, Nat.add_left_comm]
  · rw [mu_eq, he]

/-- every event of the clean-up loop lowers the measure -/
theorem CleanEv.mu_lt {d : Disk} {e : Ev} (h : DiskOk d) (he : CleanEv d e) : mu (applyEv d e) < mu d := by
  cases he with
  | unlinkComp c hc _ hout =>
    obtain ⟨r, h0, hu, _⟩ := mu_at_comp h hc
    have hlt : 1 < wT c.out := by
      cases hco : c.out with
      | complete cells => exact (by decide : 1 < 3)
      | part b =>
        cases b with
        | true => exact Nat.lt_succ_self 1
        | false => exact absurd hco hout
    rw [h0]
    exact lt_of_eq_of_lt (hu _) (Nat.add_lt_add_right (Nat.add_lt_add_right hlt 2) r)
  | rmdirComp c hc _ =>
    obtain ⟨r, h0, _, he⟩ := mu_at_comp h hc
    rw [h0]
    exact lt_of_eq_of_lt he (Nat.lt_add_of_pos_left (Nat.succ_pos _))
  | rmInput c m g t _ _ _ hm =>
    -- the chain of `rmTblEv`: complete (3) → `part true` (2) → `part false` (1) → gone
    obtain ⟨r, h0, hu, he⟩ := mu_at_table h hm
    rw [h0]
    cases t with
    | complete c => exact lt_of_eq_of_lt (hu _) (Nat.add_lt_add_right (Nat.lt_succ_self 2) r)
    | part b =>
      cases b with
      | true => exact lt_of_eq_of_lt (hu _) (Nat.add_lt_add_right (Nat.lt_succ_self 1) r)
      | false => exact lt_of_eq_of_lt he (Nat.lt_add_of_pos_left Nat.one_pos)
  | rename c m hc _ hgone =>
    rw [applyEv_rename d c hc _ (lookupT_none.2 (fun p hp => (hgone p hp).2))]
    have := sumT_insertT_le m.replacement c.out d.tables
    simp only [mu, hc, List.map_cons, List.map_nil, List.sum_cons, List.sum_nil]
    omega
  | rmUnfinished g _ hg =>
    obtain ⟨r, h0, _, he⟩ := mu_at_table h hg
    rw [h0]
    exact lt_of_eq_of_lt he (Nat.lt_add_of_pos_left Nat.one_pos)

/-- the good disks while the clean-up of `d` runs: well-formed, and the clean-up still arrives at the same disk -/
def GoodN (d x : Disk) : Prop := DiskOk x ∧ norm x = norm d

/-- the clean-up loop, with the extra states of `detour`, as a segment: interrupted anywhere it leaves a well-formed
disk on which the clean-up arrives at the same result, and with enough fuel it ends in the disk of the big-step
`phase1` + `phase2` -/
theorem clean_seg (junk : List (Nat × Layer)) (f : Nat) : ∀ d, DiskOk d →
    Seg (GoodN d) (fun x => x = d) (detour junk d (cleanRun f d)) (fun x => mu d ≤ f → x = norm d) := by
  induction f with
  | zero =>
    intro d h
    refine .done ⟨h, rfl⟩ fun hf => ?_
    have hs := cleanStep_spec d h
    cases he : cleanStep d with
    | none => rw [he] at hs; exact hs.symm
    | some e => rw [he] at hs; have := CleanEv.mu_lt h hs; omega
  | succ f ih =>
    intro d h
    simp only [cleanRun]
    have hs := cleanStep_spec d h
    cases he : cleanStep d with
    | none => rw [he] at hs; exact .done ⟨h, rfl⟩ fun _ => hs.symm
    | some e =>
      rw [he] at hs
      obtain ⟨h1, h2⟩ := hs.ok h
      have hmu := hs.mu_lt h
      -- the rest of the loop, re-based on `d`
      have hrest : Seg (GoodN d) (fun x => x = applyEv d e) (detour junk (applyEv d e) (cleanRun f (applyEv d e)))
          (fun x => mu d ≤ f + 1 → x = norm d) :=
        ((ih (applyEv d e) h1).good_mono fun x hx => ⟨hx.1, hx.2.trans h2⟩).weaken (fun _ hx => hx)
          fun x hx hf => (hx (by omega)).trans h2
      show Seg _ _ (detourFor junk e ++ e :: detour junk (applyEv d e) (cleanRun f (applyEv d e))) _
      -- nothing inserted in front of `e`
      have hplain : Seg (GoodN d) (fun x => x = d) ([] ++ e :: detour junk (applyEv d e) (cleanRun f (applyEv d e)))
          (fun x => mu d ≤ f + 1 → x = norm d) := .step ⟨h, rfl⟩ rfl hrest
      cases hs with
      | unlinkComp | rmdirComp | rename | rmUnfinished => exact hplain
      | rmInput c m g t hcs hm hgin hgt =>
        cases t with
        | part b => cases b <;> exact hplain
        | complete cells =>
          -- the directory may be seen as a legacy table first; whatever it shows, it is deleted again
          show Seg _ _ (detourPre junk g ++ _) _
          unfold detourPre
          cases lookupJ junk g with
          | none => exact hplain
          | some j =>
            obtain ⟨a1, a2⟩ := input_event_ok d h c m hcs hm g hgin (.tblLoadable g j) (Or.inr (Or.inr ⟨j, rfl⟩))
            refine .step ⟨h, rfl⟩ rfl (.step ⟨a1, a2⟩ ?_ hrest)
            show ({ d with tables := updT g (TableDir.unlink true) (updT g (fun _ => .complete _) d.tables) } : Disk) =
              { d with tables := updT g (TableDir.unlink true) d.tables }
            obtain ⟨_, _, _, hu, _⟩ := tables_split h hgt
            rw [updT_updT, hu, hu]
            rfl

theorem detour_nil : ∀ (es : List Ev) (d : Disk), detour [] d es = es
  | [], _ => rfl
  | e :: es, d => by
    have : detourFor [] e = [] := by unfold detourFor; split <;> rfl
    rw [detour, this, detour_nil es]; rfl

/-- run to completion, the loop produces exactly the disk of the big-step `phase1` + `phase2` -/
theorem cleanEvents_detour_full (junk : List (Nat × Layer)) (d : Disk) (h : DiskOk d) :
    applyEvs d (detour junk d (cleanEvents d)) = norm d :=
  (clean_seg junk (mu d) d h d rfl).2 (Nat.le_refl _)

theorem cleanEvents_full (d : Disk) (h : DiskOk d) : applyEvs d (cleanEvents d) = norm d := by
  have := cleanEvents_detour_full [] d h
  rwa [detour_nil] at this

theorem cleanEvents_prefix (d : Disk) (h : DiskOk d) (n : Nat) :
    DiskOk (applyEvs d ((cleanEvents d).take n)) ∧ norm (applyEvs d ((cleanEvents d).take n)) = norm d := by
  have := (clean_seg [] (mu d) d h d rfl).1 n
  rwa [detour_nil] at this

end SST.Proofs.FS
