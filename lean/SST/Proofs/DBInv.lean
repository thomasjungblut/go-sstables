/-
L6: the invariant of reachable states and the simulation of every step by the reference map.  Steps that are not
client calls leave the state standing for the same map (`SameMap`); client calls are matched by `specPut`,
`specDel`, `specGet`.
-/
import SST.Proofs.DBCompact
import SST.Proofs.ListFacts
namespace SST.Proofs.DB
open SST SST.DBM

structure Inv (s : State) : Prop where
  /-- validated puts: a memstore never holds an empty value -/
  wOk : ∀ k v, Layer.get s.w k = some (some v) → v ≠ []
  rOk : ∀ k v, Layer.get s.r k = some (some v) → v ≠ []
  /-- once flushed, the read store is covered by the tables -/
  cov : s.flushPending = false → ∀ k v, Layer.get s.r k = some v → vis (tablesGet s.tables k) = vis (some v)
  /-- outside a session the write store is empty and the flusher is idle -/
  idle : (s.isOpen && !s.closed) = false → s.w = [] ∧ s.flushPending = false
  gens : GensOk s

/-- everything a key is bound to, newest first -/
def stack (s : State) (k : Key) : Option GoBytes :=
  ((Layer.get s.w k).or (Layer.get s.r k)).or (tablesGet s.tables k)

theorem abs_eq_stack (s : State) (h : Inv s) (k : Key) : abs s k = vis (stack s k) := by
  unfold abs memGet stack
  cases hw : Layer.get s.w k with
  | some x =>
    cases x with
    | none => rfl
    | some v => simp [vis_nonempty v (h.wOk k v hw)]
  | none =>
    cases hr : Layer.get s.r k with
    | some x =>
      cases x with
      | none => rfl
      | some v => simp [vis_nonempty v (h.rOk k v hr)]
    | none => rfl

/-- `cov` as it is used: behind anything newer (`a`), the tables alone show what the handed-over store over the
tables shows -/
theorem Inv.vis_cov {s : State} (h : Inv s) (hp : s.flushPending = false) (a : Option GoBytes) (k : Key) :
    vis (a.or (tablesGet s.tables k)) = vis (a.or ((Layer.get s.r k).or (tablesGet s.tables k))) := by
  cases a with
  | some x => rfl
  | none =>
    cases hr : Layer.get s.r k with
    | none => rfl
    | some v => exact h.cov hp k v hr

/-- an empty write store over a read store that is empty or handed to the flusher (`p = true`): `{}`, a re-opened
database, and both outcomes of recovery (Proofs/FSSession.lean) -/
theorem inv_fresh (L : Layer) (p : Bool) (ts : List Tbl) (g : Nat) (io cl : Bool) (o : Opts)
    (hL : ∀ k v, Layer.get L k = some (some v) → v ≠ []) (hp : p = false → L = [])
    (hu : (io && !cl) = false → p = false) (hg : GensOk { tables := ts, gen := g }) :
    Inv { w := [], r := L, flushPending := p, tables := ts, gen := g, isOpen := io, closed := cl, opts := o } where
  wOk := nofun
  rOk := hL
  cov hp' k v hk := by rw [show L = [] from hp hp'] at hk; cases hk
  idle hn := ⟨rfl, hu hn⟩
  gens := hg

theorem inv_init : Inv ({} : State) :=
  inv_fresh [] false [] 0 false false {} nofun (fun _ => rfl) (fun _ => rfl) ⟨.nil, nofun⟩

theorem not_usable (s : State) : (!s.isOpen || s.closed) = !(s.isOpen && !s.closed) := by
  cases s.isOpen <;> cases s.closed <;> rfl

theorem get_eq (s : State) (k : Key) :
    DBM.get s k = if (!s.isOpen || s.closed) = true then .notOpen else
      match memGet s k with
      | none => (match vis (tablesGet s.tables k) with | some v => .value v | none => .notFound)
      | some none => .notFound
      | some (some v) => .value v := by
  unfold DBM.get
  by_cases hn : (!s.isOpen || s.closed) = true
  · simp only [hn, if_true]
  · simp only [hn]
    cases memGet s k with
    | some x => cases x <;> rfl
    | none =>
      cases tablesGet s.tables k with
      | none => rfl
      | some x =>
        cases x with
        | none => rfl
        | some v => cases v <;> rfl

theorem get_abs (s : State) (k : Key) :
    DBM.get s k = if (!s.isOpen || s.closed) = true then .notOpen else
      match abs s k with | some v => .value v | none => .notFound := by
  rw [get_eq]
  unfold abs
  by_cases hn : (!s.isOpen || s.closed) = true
  · simp only [hn, if_true]
  · simp only [hn]
    cases memGet s k with
    | some x => cases x <;> rfl
    | none => rfl

structure Rel (s : State) (sp : Spec) : Prop where
  inv : Inv s
  o : s.isOpen = sp.isOpen
  c : s.closed = sp.closed
  m : ∀ k, abs s k = sp.m k

theorem Rel.usable {s : State} {sp : Spec} (h : Rel s sp) : sp.usable = (s.isOpen && !s.closed) := by
  simp [Spec.usable, h.o, h.c]

theorem rel_self (s : State) (h : Inv s) : Rel s { m := abs s, isOpen := s.isOpen, closed := s.closed } :=
  ⟨h, rfl, rfl, fun _ => rfl⟩

/-- `s'` is a good state that stands for the same map as `s`, with the same flags, that is, it refines the
reference map that `s` itself stands for: what every step that is not a client call achieves -/
abbrev SameMap (s s' : State) : Prop := Rel s' { m := abs s, isOpen := s.isOpen, closed := s.closed }

theorem SameMap.rel {s s' : State} {sp : Spec} (hs : SameMap s s') (h : Rel s sp) : Rel s' sp :=
  ⟨hs.inv, hs.o.trans h.o, hs.c.trans h.c, fun k => (hs.m k).trans (h.m k)⟩

theorem SameMap.get {s s' : State} (h : SameMap s s') (k : Key) : get s' k = get s k := by
  rw [get_abs, get_abs, h.m, h.o, h.c]

/-- for good states it is enough that every key's stack of bindings shows the same value -/
theorem SameMap.of_stack {s s' : State} (h : Inv s) (h' : Inv s')
    (hst : ∀ k, vis (stack s' k) = vis (stack s k)) (ho : s'.isOpen = s.isOpen) (hc : s'.closed = s.closed) :
    SameMap s s' :=
  ⟨h', ho, hc, fun k => show abs s' k = abs s k by rw [abs_eq_stack s' h', abs_eq_stack s h, hst k]⟩

theorem setW_inv (s : State) (h : Inv s) (hu : (s.isOpen && !s.closed) = true) (k : Key) (v : GoBytes)
    (hv : ∀ b, v = some b → b ≠ []) : Inv { s with w := s.w.set k v } := { h with
  wOk := by
    intro k' b hb
    simp only [layerGet_set] at hb
    by_cases hk : k' = k
    · simp only [hk, if_true, Option.some.injEq] at hb
      exact hv b hb
    · simp only [hk, if_false] at hb
      exact h.wOk k' b hb
  idle := by intro hn; simp only [hu] at hn; exact absurd hn (by decide) }

theorem setW_abs (s : State) (k k' : Key) (v : GoBytes) :
    abs { s with w := s.w.set k v } k' = if k' = k then v else abs s k' := by
  unfold abs memGet
  simp only [layerGet_set]
  by_cases hk : k' = k
  · cases v <;> simp [hk]
  · simp [hk]

theorem flushStep_cases (s : State) :
    flushStep s = s ∨
    (s.flushPending = true ∧ s.r = [] ∧ flushStep s = { s with flushPending := false }) ∨
    (s.flushPending = true ∧ s.r ≠ [] ∧
      flushStep s = { s with flushPending := false, gen := s.gen + 1,
                             tables := s.tables ++ [{ gen := s.gen + 1, cells := s.r }] }) := by
  unfold flushStep
  cases hp : s.flushPending with
  | false => left; rfl
  | true =>
    right
    cases hr : s.r with
    | nil => left; simp
    | cons p l => right; simp

theorem flushStep_w (s : State) : (flushStep s).w = s.w := by
  rcases flushStep_cases s with (h | ⟨_, _, h⟩ | ⟨_, _, h⟩) <;> rw [h]

theorem flushStep_r (s : State) : (flushStep s).r = s.r := by
  rcases flushStep_cases s with (h | ⟨_, _, h⟩ | ⟨_, _, h⟩) <;> rw [h]

theorem flushStep_isOpen (s : State) : (flushStep s).isOpen = s.isOpen := by
  rcases flushStep_cases s with (h | ⟨_, _, h⟩ | ⟨_, _, h⟩) <;> rw [h]

theorem flushStep_closed (s : State) : (flushStep s).closed = s.closed := by
  rcases flushStep_cases s with (h | ⟨_, _, h⟩ | ⟨_, _, h⟩) <;> rw [h]

theorem flushStep_usable (s : State) :
    ((flushStep s).isOpen && !(flushStep s).closed) = (s.isOpen && !s.closed) := by
  rw [flushStep_isOpen, flushStep_closed]

theorem flushStep_pending (s : State) : (flushStep s).flushPending = false := by
  unfold flushStep
  cases hp : s.flushPending with
  | false => simpa using hp
  | true => cases hr : s.r <;> simp

theorem flushStep_not_pending (s : State) (h : s.flushPending = false) : flushStep s = s := by
  unfold flushStep; simp [h]

/-- the flusher moves the handed-over store under the tables: what lies behind the write store reads the same -/
theorem behind_flushStep (s : State) (k : Key) :
    (Layer.get (flushStep s).r k).or (tablesGet (flushStep s).tables k) =
      (Layer.get s.r k).or (tablesGet s.tables k) := by
  rcases flushStep_cases s with (h | ⟨_, _, h⟩ | ⟨_, _, h⟩) <;> rw [h]
  show (Layer.get s.r k).or (tablesGet (s.tables ++ [_]) k) = _
  rw [tablesGet_append, tablesGet_single]
  cases Layer.get s.r k <;> rfl

theorem stack_eq (s : State) (k : Key) :
    stack s k = (Layer.get s.w k).or ((Layer.get s.r k).or (tablesGet s.tables k)) :=
  Option.or_assoc ..

theorem flushStep_stack (s : State) (k : Key) : stack (flushStep s) k = stack s k := by
  rw [stack_eq, stack_eq, flushStep_w, behind_flushStep]

/-- a new newest table under the next number (only `tables` and `gen` matter to `GensOk`) -/
theorem gensOk_snoc {s s' : State} (h : GensOk s) (c : Layer)
    (ht : s'.tables = s.tables ++ [{ gen := s.gen + 1, cells := c }]) (hg : s'.gen = s.gen + 1) : GensOk s' := by
  unfold GensOk
  rw [ht, hg]
  refine ⟨snoc_sorted Tbl.gen h.1 fun t ht => Nat.lt_succ_of_le (h.2 t ht), fun t ht => ?_⟩
  rcases List.mem_append.1 ht with (ht | ht)
  · exact Nat.le_succ_of_le (h.2 t ht)
  · rw [List.mem_singleton.1 ht]; exact Nat.le_refl _

theorem flushStep_inv (s : State) (h : Inv s) : Inv (flushStep s) := by
  rcases flushStep_cases s with (e | ⟨hp, hr, e⟩ | ⟨hp, hr, e⟩) <;> rw [e]
  · exact h
  · exact { h with
      cov := by
        intro _ k v hk
        simp only [hr, layerGet_nil] at hk
        exact absurd hk (by simp)
      idle := fun hn => ⟨(h.idle hn).1, rfl⟩ }
  · exact { h with
      cov := by
        intro _ k v hk
        simp only [tablesGet_append, tablesGet_single, hk, Option.some_or]
      idle := fun hn => ⟨(h.idle hn).1, rfl⟩
      gens := gensOk_snoc h.gens s.r rfl rfl }

theorem flushStep_sameMap (s : State) (h : Inv s) : SameMap s (flushStep s) :=
  .of_stack h (flushStep_inv s h) (fun k => by rw [flushStep_stack]) (flushStep_isOpen s) (flushStep_closed s)

theorem rotate_eq (s : State) :
    rotate s = { flushStep s with r := (flushStep s).w, w := [], flushPending := true } := rfl

theorem rotate_flush (s : State) : rotate (flushStep s) = rotate s := by
  rw [rotate_eq, rotate_eq, flushStep_not_pending (flushStep s) (flushStep_pending s)]

theorem rotate_usable (s : State) : ((rotate s).isOpen && !(rotate s).closed) = (s.isOpen && !s.closed) :=
  flushStep_usable s

theorem rotate_inv (s : State) (h : Inv s) (hu : (s.isOpen && !s.closed) = true) : Inv (rotate s) := by
  have h1 := flushStep_inv s h
  rw [rotate_eq]
  exact {
    wOk := by intro k v hk; simp [layerGet_nil] at hk
    rOk := h1.wOk
    cov := by intro hp; exact absurd hp (by simp)
    idle := by
      intro hn
      simp only [flushStep_isOpen, flushStep_closed, hu] at hn
      exact absurd hn (by decide)
    gens := h1.gens }

theorem rotate_stack (s : State) (h : Inv s) (k : Key) : vis (stack (rotate s) k) = vis (stack s k) := by
  rw [← flushStep_stack s k, stack_eq (flushStep s)]
  exact (flushStep_inv s h).vis_cov (flushStep_pending s) _ k

theorem rotate_sameMap (s : State) (h : Inv s) (hu : (s.isOpen && !s.closed) = true) : SameMap s (rotate s) :=
  .of_stack h (rotate_inv s h hu) (rotate_stack s h) (flushStep_isOpen s) (flushStep_closed s)

theorem Retabled.memGet {s s' : State} (hr : Retabled s s') (k : Key) : memGet s' k = memGet s k := by
  rw [hr.eq]; rfl

theorem Retabled.inv {s s' : State} (hr : Retabled s s') (h : Inv s) : Inv s' := by
  obtain ⟨e, hv, hg⟩ := hr
  have hg := hg h.gens
  generalize s'.tables = T at e hv
  subst e
  exact { h with cov := fun hp k v hk => (hv k).trans (h.cov hp k v hk), gens := hg }

/-- in every state, reachable or not -/
theorem Retabled.abs {s s' : State} (hr : Retabled s s') (k : Key) : abs s' k = abs s k := by
  unfold DBM.abs
  rw [hr.memGet k, hr.reads k]

theorem Retabled.get {s s' : State} (hr : Retabled s s') (k : Key) : get s' k = get s k := by
  have ho : s'.isOpen = s.isOpen := by rw [hr.eq]
  have hc : s'.closed = s.closed := by rw [hr.eq]
  rw [get_eq, get_eq, hr.memGet k, hr.reads k, ho, hc]

theorem Retabled.sameMap {s s' : State} (hr : Retabled s s') (h : Inv s) : SameMap s s' :=
  ⟨hr.inv h, by rw [hr.eq], by rw [hr.eq], hr.abs⟩

theorem close_inv (s : State) (h : Inv s) (hu : (s.isOpen && !s.closed) = true) :
    Inv { flushStep (rotate s) with closed := true } := by
  have h2 := flushStep_inv _ (rotate_inv s h hu)
  exact { h2 with idle := fun _ => ⟨by rw [flushStep_w, rotate_eq], flushStep_pending _⟩ }

theorem reopen_inv (s : State) (h : Inv s) (o : Opts) : Inv (reopen s o) :=
  inv_fresh [] false s.tables _ true false o nofun (fun _ => rfl) nofun
    ⟨h.gens.1, fun t ht => foldl_max_le _ 0 t.gen (Or.inr (List.mem_map.2 ⟨t, ht, rfl⟩))⟩

theorem reopen_stack (s : State) (h : Inv s) (hn : (s.isOpen && !s.closed) = false) (o : Opts) (k : Key) :
    vis (stack (reopen s o) k) = vis (stack s k) := by
  obtain ⟨hw, hp⟩ := h.idle hn
  rw [stack_eq s, hw]
  exact h.vis_cov hp none k

/-- a step that is not a client call and not a restart -/
def Internal : Step → Prop
  | .rotate | .flush | .compact _ => True
  | _ => False

theorem internal_step (s : State) (h : Inv s) (st : Step) (hi : Internal st) : SameMap s (step s st).1 := by
  cases st with
  | rotate =>
    simp only [step]
    split
    · rename_i hu; exact rotate_sameMap s h hu
    · exact rel_self s h
  | flush => exact flushStep_sameMap s h
  | compact sizes =>
    simp only [step]
    split
    · exact (compactStep_retabled s sizes).sameMap h
    · exact rel_self s h
  | _ => exact hi.elim

theorem internal_run (post : List Step) (s : State) (h : Inv s) (hp : ∀ st ∈ post, Internal st) :
    SameMap s (runState s post) := by
  induction post generalizing s with
  | nil => exact rel_self s h
  | cons st post ih =>
    have h1 := internal_step s h st (hp st List.mem_cons_self)
    exact (ih _ h1.inv fun x hx => hp x (List.mem_cons_of_mem _ hx)).rel h1

/-- a binding (or a tombstone) put into the write store of a usable database is the same update of the reference map -/
theorem setW_rel {s : State} {sp : Spec} (h : Rel s sp) (hu : (s.isOpen && !s.closed) = true) (k : Key) (v : GoBytes)
    (hv : ∀ b, v = some b → b ≠ []) :
    Rel { s with w := s.w.set k v } { sp with m := fun x => if x = k then v else sp.m x } :=
  { h with inv := setW_inv s h.inv hu k v hv, m := fun k' => by rw [setW_abs, h.m] }

/-- `PutBytes` in one case distinction: refused without any effect, or the binding goes into the write store of
a usable database, which is then rotated if the store is full -/
theorem putBytes_cases (s : State) (k v : GoBytes) (rot : Bool) :
    (∃ r, r ≠ .ok ∧ putBytes s k v rot = (s, r)) ∨
    ((s.isOpen && !s.closed) = true ∧ ∃ kb vb, putBytes s k v rot =
      (if rot then rotate { s with w := s.w.set kb (some vb) } else { s with w := s.w.set kb (some vb) }, .ok)) := by
  cases k with
  | none => exact .inl ⟨_, by decide, rfl⟩
  | some kb =>
    cases v with
    | none => exact .inl ⟨_, by decide, rfl⟩
    | some vb =>
      simp only [putBytes]
      by_cases h1 : (kb.isEmpty || vb.isEmpty) = true
      · rw [if_pos h1]; exact .inl ⟨_, by decide, rfl⟩
      · rw [if_neg h1]
        by_cases h2 : (!s.isOpen || s.closed) = true
        · rw [if_pos h2]; exact .inl ⟨_, by decide, rfl⟩
        · rw [if_neg h2]
          rw [not_usable] at h2
          exact .inr ⟨by simpa using h2, kb, vb, rfl⟩

theorem put_sim (s : State) (sp : Spec) (h : Rel s sp) (k v : GoBytes) (rot : Bool) :
    Rel (putBytes s k v rot).1 (specPut sp k v).1 ∧ (putBytes s k v rot).2 = (specPut sp k v).2 := by
  cases k with
  | none => exact ⟨h, rfl⟩
  | some kb =>
    cases v with
    | none => exact ⟨h, rfl⟩
    | some vb =>
      simp only [putBytes, specPut, h.usable, not_usable]
      by_cases he : (kb.isEmpty || vb.isEmpty) = true
      · rw [if_pos he, if_pos he]; exact ⟨h, rfl⟩
      · rw [if_neg he, if_neg he]
        cases hu : (s.isOpen && !s.closed)
        · exact ⟨h, rfl⟩
        · have hvb : vb ≠ [] := by
            intro e; subst e; simp at he
          have hrel := setW_rel h hu kb (some vb) (by intro b hb; cases hb; exact hvb)
          cases rot with
          | false => exact ⟨hrel, rfl⟩
          | true => exact ⟨(rotate_sameMap _ hrel.inv hu).rel hrel, rfl⟩

theorem del_sim (s : State) (sp : Spec) (h : Rel s sp) (k : GoBytes) :
    Rel (deleteBytes s k).1 (specDel sp k).1 ∧ (deleteBytes s k).2 = (specDel sp k).2 := by
  simp only [deleteBytes, specDel, h.usable, not_usable]
  cases hu : (s.isOpen && !s.closed)
  · exact ⟨h, rfl⟩
  · exact ⟨setW_rel h hu (k.getD []) none nofun, rfl⟩

theorem get_sim (s : State) (sp : Spec) (h : Rel s sp) (k : Key) : DBM.get s k = specGet sp k := by
  rw [get_abs, specGet, h.usable, h.m]
  cases s.isOpen <;> cases s.closed <;> rfl

/-- the string flavour only repeats the validation of the byte flavour -/
theorem putStr_eq (s : State) (k v : Bytes) (rot : Bool) : putStr s k v rot = putBytes s (some k) (some v) rot := by
  unfold putStr
  by_cases he : (k.isEmpty || v.isEmpty) = true
  · simp [putBytes, he]
  · simp [he]

theorem step_sim (s : State) (sp : Spec) (h : Rel s sp) (st : Step) :
    Rel (step s st).1 (specStep sp st).1 ∧ (step s st).2.1 = (specStep sp st).2 := by
  cases st with
  | putB k v rot => exact (put_sim s sp h k v rot).imp_right (congrArg some)
  | putS k v rot =>
    simp only [step, putStr_eq]
    exact (put_sim s sp h (some k) (some v) rot).imp_right (congrArg some)
  | delB k => exact (del_sim s sp h k).imp_right (congrArg some)
  | delS k => exact (del_sim s sp h (some k)).imp_right (congrArg some)
  | get k => exact ⟨h, congrArg some (get_sim s sp h k)⟩
  | rotate => exact ⟨(internal_step s h.inv .rotate trivial).rel h, by simp only [step]; split <;> rfl⟩
  | flush => exact ⟨(internal_step s h.inv .flush trivial).rel h, rfl⟩
  | compact sizes =>
    exact ⟨(internal_step s h.inv (.compact sizes) trivial).rel h, by simp only [step]; split <;> rfl⟩
  | close =>
    simp only [step, specStep, close, h.usable, not_usable]
    cases hu : (s.isOpen && !s.closed)
    · exact ⟨h, rfl⟩
    · -- rotation and the last flush keep the map; then only the flag changes
      have h2 := (flushStep_sameMap _ (rotate_inv s h.inv hu)).rel ((rotate_sameMap s h.inv hu).rel h)
      have h3 : Rel { flushStep (rotate s) with closed := true } { sp with closed := true } :=
        { h2 with inv := close_inv s h.inv hu, c := rfl }
      exact ⟨h3, rfl⟩
  | reopen o =>
    simp only [step, specStep, ← h.o, ← h.c]
    by_cases hn : (s.closed || !s.isOpen) = true
    · have hu : (s.isOpen && !s.closed) = false := by
        cases ho : s.isOpen <;> cases hc : s.closed <;> simp_all
      rw [if_pos hn, if_pos hn]
      have hi := reopen_inv s h.inv o
      exact ⟨{ inv := hi, o := rfl, c := rfl, m := fun k => by
                rw [abs_eq_stack _ hi, reopen_stack s h.inv hu o k, ← abs_eq_stack s h.inv, h.m] }, rfl⟩
    · rw [if_neg hn, if_neg hn]
      exact ⟨h, rfl⟩

theorem rel_init : Rel ({} : State) ({} : Spec) where
  inv := inv_init
  o := rfl
  c := rfl
  m := fun _ => rfl

theorem run_sim (steps : List Step) (s : State) (sp : Spec) (h : Rel s sp) :
    (run s steps).map (·.1) = specRun sp steps := by
  induction steps generalizing s sp with
  | nil => rfl
  | cons st steps ih =>
    obtain ⟨h1, h2⟩ := step_sim s sp h st
    simp only [run, specRun, List.map_cons]
    rw [ih _ _ h1, h2]

theorem step_inv (s : State) (h : Inv s) (st : Step) : Inv (step s st).1 :=
  (step_sim s _ (rel_self s h) st).1.inv

theorem runState_append (s : State) (a b : List Step) :
    runState s (a ++ b) = runState (runState s a) b := by
  induction a generalizing s with
  | nil => rfl
  | cons st a ih => simp only [List.cons_append, runState, ih]

theorem runState_inv (steps : List Step) (s : State) (h : Inv s) : Inv (runState s steps) := by
  induction steps generalizing s with
  | nil => exact h
  | cons st steps ih => exact ih _ (step_inv s h st)

theorem reach_inv (steps : List Step) : Inv (runState {} steps) := runState_inv steps {} inv_init

end SST.Proofs.DB
