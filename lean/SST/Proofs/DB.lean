/-
Proofs for L6 (SimpleDB as a map): the statements of C01, C06, C17, from the invariant of
reachable states and the simulation by the reference map (DBInv).
-/
import SST.Spec.DB
import SST.Proofs.DBInv
namespace SST.Proofs.DB
open SST SST.DBM

theorem get_refines (s : State) (k : Key) (ho : s.isOpen = true) (hc : s.closed = false)
    (hne : ∀ k v, memGet s k = some (some v) → v ≠ []) :
    get s k = (match abs s k with | some v => .value v | none => .notFound) := by
  have _ := hne  -- not needed: `abs` reports a memstore value as it is
  rw [get_abs]
  simp only [ho, hc, Bool.not_true, Bool.or_false, Bool.false_eq_true, if_false]
  cases abs s k <;> rfl

/-- programs × schedules × configurations: whatever flush / rotation / compaction steps (with whatever table
sizes, thresholds and ratios) are placed between the client calls, and however often the database is closed
and re-opened with other options, every client call returns what the reference map returns. -/
theorem db_refines_map (steps : List Step) :
    (run {} steps).map (·.1) = specRun {} steps :=
  run_sim steps {} {} rel_init

/-- table numbers stay strictly increasing along the live list: the order the tables are re-loaded in after a
restart (sorted by directory name) is the order they are stacked in -/
theorem gens_ok (steps : List Step) : GensOk (runState {} steps) :=
  (reach_inv steps).gens

/-- one compaction cycle changes no key's value, for any reachable state, any table sizes and options -/
theorem compact_preserves_reads (steps : List Step) (sizes : List Nat) (k : Key) :
    let s := runState {} steps
    abs (compactStep s sizes).1 k = abs s k ∧ get (compactStep s sizes).1 k = get s k := by
  intro s
  exact ⟨(compactStep_retabled s sizes).abs k, (compactStep_retabled s sizes).get k⟩

/-- internal steps (rotation, flush, compaction) never change what a key reads as; a clean close and re-open is
`reads_stable_close_reopen` -/
theorem reads_stable (steps : List Step) (st : Step) (k : Key)
    (hint : match st with | .rotate | .flush | .compact _ => True | _ => False) :
    abs (step (runState {} steps) st).1 k = abs (runState {} steps) k := by
  exact (internal_step _ (reach_inv steps) st hint).m k

theorem specStep_close_m (sp : Spec) : (specStep sp .close).1.m = sp.m := by
  simp only [specStep]
  split <;> rfl

theorem specStep_reopen_m (sp : Spec) (o : Opts) : (specStep sp (.reopen o)).1.m = sp.m := by
  simp only [specStep]
  split <;> rfl

/-- `Close` followed by `Open` changes no key's value, from every good state and whether or not the two calls
are accepted: neither touches the contents of the reference map. -/
theorem close_reopen_abs (s : State) (hi : Inv s) (o : Opts) (k : Key) :
    abs (runState s [.close, .reopen o]) k = abs s k := by
  have h1 := (step_sim s _ (rel_self s hi) .close).1
  have h2 := (step_sim _ _ h1 (.reopen o)).1
  simp only [runState]
  rw [h2.m k, specStep_reopen_m, specStep_close_m]

theorem reads_stable_close_reopen (steps : List Step) (o : Opts) (k : Key)
    (hu : (runState {} steps).isOpen = true ∧ (runState {} steps).closed = false) :
    abs (runState {} (steps ++ [.close, .reopen o])) k = abs (runState {} steps) k := by
  have _ := hu  -- not used: `close_reopen_abs` holds whether or not the two calls are accepted
  rw [runState_append]
  exact close_reopen_abs _ (reach_inv steps) o k

theorem api_flavours_agree (s : State) (k v : Bytes) (rot : Bool) :
    putStr s k v rot = putBytes s (some k) (some v) rot ∧ deleteStr s k = deleteBytes s (some k) :=
  ⟨putStr_eq s k v rot, rfl⟩

theorem putBytes_ok_or_same (s : State) (k v : GoBytes) (rot : Bool) :
    (putBytes s k v rot).2 = .ok ∨ (putBytes s k v rot).1 = s := by
  rcases putBytes_cases s k v rot with (⟨r, _, he⟩ | ⟨_, kb, vb, he⟩) <;> rw [he]
  · exact .inr rfl
  · exact .inl rfl

theorem deleteBytes_ok_or_same (s : State) (k : GoBytes) :
    (deleteBytes s k).2 = .ok ∨ (deleteBytes s k).1 = s := by
  unfold deleteBytes
  split
  · exact .inr rfl
  · exact .inl rfl

theorem close_ok_or_same (s : State) : (close s).2 = .ok ∨ (close s).1 = s := by
  unfold close
  split
  · exact .inr rfl
  · exact .inl rfl

theorem rejected_call_no_effect (s : State) (st : Step) (r : Res)
    (hr : (step s st).2.1 = some r) (hbad : r = .rejected ∨ r = .notOpen) : (step s st).1 = s := by
  -- a call that changes the state answers `ok`
  have hne : ∀ r', some r' = some r → r' ≠ .ok := by
    rintro _ ⟨rfl⟩ rfl
    rcases hbad with (h | h) <;> cases h
  cases st with
  | putB k v rot => exact (putBytes_ok_or_same s k v rot).resolve_left (hne _ hr)
  | putS k v rot =>
    simp only [step, putStr_eq] at hr ⊢
    exact (putBytes_ok_or_same s _ _ rot).resolve_left (hne _ hr)
  | delB k => exact (deleteBytes_ok_or_same s k).resolve_left (hne _ hr)
  | delS k => exact (deleteBytes_ok_or_same s (some k)).resolve_left (hne _ hr)
  | get k => rfl
  | rotate => simp only [step] at hr; split at hr <;> cases hr
  | flush => cases hr
  | compact sizes => simp only [step] at hr; split at hr <;> cases hr
  | close => exact (close_ok_or_same s).resolve_left (hne _ hr)
  | reopen o => simp only [step] at hr; split at hr <;> cases hr

theorem empty_or_nil_rejected (s : State) (k v : GoBytes) (rot : Bool)
    (h : k.getD [] = [] ∨ v.getD [] = []) : putBytes s k v rot = (s, .rejected) := by
  cases k with
  | none => rfl
  | some kb =>
    cases v with
    | none => rfl
    | some vb =>
      have he : (kb.isEmpty || vb.isEmpty) = true := by
        rcases h with (h | h) <;> simp at h <;> simp [h]
      simp [putBytes, he]

/-- a deleted key stays "not found" through any rotations, flushes and compactions that follow: neither the
flush of the tombstone nor a compaction that drops or carries it makes an older value visible again -/
theorem deleted_stays_deleted (pre post : List Step) (k : Key)
    (hu : (runState {} pre).isOpen = true ∧ (runState {} pre).closed = false)
    (hpost : ∀ st ∈ post, match st with
      | .rotate | .flush | .compact _ => True
      | _ => False) :
    get (runState {} (pre ++ [.delS k] ++ post)) k = .notFound := by
  have hi := reach_inv pre
  rw [runState_append, runState_append]
  generalize runState {} pre = s at hu hi ⊢
  have hn : (!s.isOpen || s.closed) = false := by simp [hu.1, hu.2]
  have hs2 : runState s [.delS k] = { s with w := s.w.set k none } := by
    simp [runState, step, deleteStr, deleteBytes, hn]
  rw [hs2]
  have hi2 : Inv { s with w := s.w.set k none } :=
    setW_inv s hi (by simp [hu.1, hu.2]) k none (by intro b hb; cases hb)
  rw [(internal_run post _ hi2 hpost).get, get_abs, setW_abs]
  simp [hu.1, hu.2]

end SST.Proofs.DB
