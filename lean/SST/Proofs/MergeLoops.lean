/-
The consumer loops of sstable_merger.go (`Merge`, `MergeCompactionIterator.Next`, `MergeCompact`) expressed
as list functions of the sequence the heap yields, and what the abstract writer does with a list of items.
`Merge` and `MergeCompact` are then both `consume g`, for two list functions `g`, and what they report of read and
write faults is proved once, for any `g`.
-/
import SST.Spec.Merge
import SST.Proofs.PQF
import SST.Proofs.BytesOrd
namespace SST.Proofs.MergeOrd
open SST SST.Merge

theorem bytesCmp_lawful : LawfulCmp bytesCmp := Proofs.bytesCmp_lawful

theorem goCmp_lawful : LawfulCmp goCmp := lawful_bytesCmp_on _

end SST.Proofs.MergeOrd

namespace SST.Proofs.MergeLoops
open SST SST.Merge PQ SST.Proofs.FH SST.Proofs.PQB SST.Proofs.MergeOrd

/-- hand the items to `WriteNext` one by one (stopping at the first error), then report how the source ended -/
def feedItems : List Item → PQF.Term → Merge.WState → Option Err × Merge.WState
  | [], .done, w => (none, w)
  | [], .err e, w => (some e, w)
  | (k, v) :: xs, t, w =>
    match writeNext w k v with
    | (some e, w') => (some e, w')
    | (none, w') => feedItems xs t w'

/-- `groupRun` over a sequence that may end in an error (then the last group is not flushed) -/
def groupRunT (reduce : ReduceFn) :
    GoBytes → List GoBytes → List Nat → List (GoBytes × GoBytes × Nat) → PQF.Term → List Item × PQF.Term
  | prev, vb, cb, [], .done => (if vb.length > 0 then emitOf (reduce prev vb cb) else [], .done)
  | _, _, _, [], .err e => ([], .err e)
  | prev, vb, cb, (k, v, c) :: rest, t =>
    if prev.isSome && goCmp (normKey k) prev != .eq then
      let r := groupRunT reduce (normKey k) [v] [c] rest t
      (emitOf (reduce prev vb cb) ++ r.1, r.2)
    else groupRunT reduce (normKey k) (vb ++ [v]) (cb ++ [c]) rest t

theorem groupRunT_done (reduce : ReduceFn) : ∀ (xs : List (GoBytes × GoBytes × Nat)) (prev : GoBytes)
    (vb : List GoBytes) (cb : List Nat),
    groupRunT reduce prev vb cb xs .done = (groupRun reduce prev vb cb xs, .done) := by
  intro xs
  induction xs with
  | nil => intro prev vb cb; simp [groupRunT, groupRun]
  | cons x rest ih =>
    intro prev vb cb
    obtain ⟨k, v, c⟩ := x
    simp only [groupRunT, groupRun]
    split
    · rw [ih]
    · rw [ih]

theorem groupRunT_term (reduce : ReduceFn) : ∀ (xs : List (GoBytes × GoBytes × Nat)) (prev : GoBytes)
    (vb : List GoBytes) (cb : List Nat) (t : PQF.Term), (groupRunT reduce prev vb cb xs t).2 = t := by
  intro xs
  induction xs with
  | nil => intro prev vb cb t; cases t <;> simp [groupRunT]
  | cons x rest ih =>
    intro prev vb cb t
    obtain ⟨k, v, c⟩ := x
    simp only [groupRunT]
    split
    · exact ih _ _ _ _
    · exact ih _ _ _ _

variable {ee : Nat → Option Err}

theorem mergeLoop_eq : ∀ (F : Nat) (h : Heap GoBytes GoBytes) (w : Merge.WState),
    mergeLoop ee F h w = feedItems (untag (PQF.run goCmp ee F h).1) (PQF.run goCmp ee F h).2 w := by
  intro F
  induction F with
  | zero => intro h w; rfl
  | succ n ih =>
    intro h w
    unfold mergeLoop PQF.run
    cases hn : PQF.next goCmp ee h with
    | done => rfl
    | err e => rfl
    | item o h' =>
      obtain ⟨k, v, c⟩ := o
      simp only [untag, List.map_cons, feedItems]
      cases hw : writeNext w k v with
      | mk e w' =>
        cases e with
        | some e => rfl
        | none => exact ih h' w'

theorem mcNext_skip (reduce : ReduceFn) {h h' : Heap GoBytes GoBytes}
    {k v : GoBytes} {c : Nat} (hn : PQF.next goCmp ee h = .item (k, v, c) h')
    (prev : GoBytes) (vb : List GoBytes) (cb : List Nat) :
    mcNext ee reduce ⟨h, prev, vb, cb⟩ =
      if prev.isSome && goCmp (normKey k) prev != .eq then
        (if bothNonNil (reduce prev vb cb) then
          (.item (reduce prev vb cb).1 (reduce prev vb cb).2, ⟨h', normKey k, [v], [c]⟩)
         else mcNext ee reduce ⟨h', normKey k, [v], [c]⟩)
      else mcNext ee reduce ⟨h', normKey k, vb ++ [v], cb ++ [c]⟩ := by
  unfold mcNext
  simp only []
  rw [next_item_count hn]
  conv => lhs; unfold mcNextAux
  simp only [hn]

theorem mcCollect_congr {reduce : ReduceFn} {s s' : MCIter} (h : mcNext ee reduce s = mcNext ee reduce s')
    (F : Nat) : mcCollect ee reduce F s = mcCollect ee reduce F s' := by
  cases F with
  | zero => rfl
  | succ n => simp only [mcCollect, h]

theorem mcCollect_eq (reduce : ReduceFn) {h : Heap GoBytes GoBytes}
    {xs : List (GoBytes × GoBytes × Nat)} {t : PQF.Term} (hy : Yields goCmp ee h xs t) :
    ∀ (prev : GoBytes) (vb : List GoBytes) (cb : List Nat) (F : Nat), xs.length + 2 ≤ F →
      mcCollect ee reduce F ⟨h, prev, vb, cb⟩ = groupRunT reduce prev vb cb xs t := by
  induction hy with
  | @done h0 hn =>
    -- the `+ 2`: once the heap is done the iterator still returns the pending group, and Done on the call after
    intro prev vb cb F hF
    obtain ⟨F1, rfl⟩ := Nat.exists_eq_add_of_le' (Nat.le_trans (Nat.le_add_left 2 _) hF)
    have hnext : ∀ vb', mcNext ee reduce ⟨h0, prev, vb', cb⟩ =
        (if vb'.length > 0 then
          (if bothNonNil (reduce prev vb' cb) then
            (.item (reduce prev vb' cb).1 (reduce prev vb' cb).2, ⟨h0, prev, [], cb⟩)
           else (.done, ⟨h0, prev, vb', cb⟩))
         else (.done, ⟨h0, prev, vb', cb⟩)) := by
      intro vb'
      unfold mcNext mcNextAux
      simp only [hn]
    unfold mcCollect
    rw [hnext]
    simp only [groupRunT]
    by_cases hv : vb.length > 0
    · simp only [hv, if_true]
      by_cases hb : bothNonNil (reduce prev vb cb)
      · simp only [hb, if_true]
        unfold mcCollect
        rw [hnext]
        simp [emitOf, hb]
      · simp [hb, emitOf]
    · simp [hv]
  | @err h0 e0 hn =>
    intro prev vb cb F hF
    obtain ⟨F1, rfl⟩ := Nat.exists_eq_add_of_le' (Nat.le_trans (Nat.le_add_left 1 _) hF)
    unfold mcCollect mcNext mcNextAux
    simp [hn, groupRunT]
  | @item h0 h' o xs' t' hn _ ih =>
    intro prev vb cb F hF
    obtain ⟨k, v, c⟩ := o
    obtain ⟨F1, rfl⟩ := Nat.exists_eq_add_of_le' (Nat.le_trans (Nat.le_add_left 1 _) hF)
    have hF : xs'.length + 2 ≤ F1 := Nat.le_of_succ_le_succ hF
    have hskip := mcNext_skip reduce hn prev vb cb
    simp only [groupRunT]
    by_cases hch : (prev.isSome && goCmp (normKey k) prev != .eq) = true
    · simp only [hch, if_true] at hskip ⊢
      by_cases hb : bothNonNil (reduce prev vb cb)
      · simp only [hb, if_true] at hskip
        unfold mcCollect
        rw [hskip]
        simp only []
        rw [ih (normKey k) [v] [c] F1 hF]
        simp [emitOf, hb]
      · simp only [hb] at hskip
        rw [mcCollect_congr hskip, ih (normKey k) [v] [c] (F1 + 1) (Nat.le_succ_of_le hF)]
        simp [emitOf, hb]
    · simp only [hch] at hskip ⊢
      rw [mcCollect_congr hskip, ih (normKey k) (vb ++ [v]) (cb ++ [c]) (F1 + 1) (Nat.le_succ_of_le hF)]
      rfl

theorem mergeCompactLoop_eq (reduce : ReduceFn) : ∀ (F : Nat) (s : MCIter) (w : Merge.WState),
    mergeCompactLoop ee reduce F s w =
      feedItems (mcCollect ee reduce F s).1 (mcCollect ee reduce F s).2 w := by
  intro F
  induction F with
  | zero => intro s w; simp [mergeCompactLoop, mcCollect, feedItems]
  | succ n ih =>
    intro s w
    unfold mergeCompactLoop mcCollect
    cases hm : mcNext ee reduce s with
    | mk st s' =>
      cases st with
      | done => simp [feedItems]
      | err e => simp [feedItems]
      | item k v =>
        simp only [feedItems]
        cases hw : writeNext w k v with
        | mk e w' =>
          cases e with
          | some e => rfl
          | none => exact ih s' w'

/-- every key is accepted after the previous one: strictly ascending, the first key free -/
def ChainOk : Option Bytes → List Bytes → Prop
  | _, [] => True
  | none, k :: ks => ChainOk (some k) ks
  | some l, k :: ks => bytesCmp l k = .lt ∧ ChainOk (some k) ks

theorem chainOk_some_iff {l : Bytes} {ks : List Bytes} :
    ChainOk (some l) ks ↔ (l :: ks).Pairwise (fun a b => bytesCmp a b = .lt) := by
  induction ks generalizing l with
  | nil => simp [ChainOk]
  | cons k ks ih =>
    simp only [ChainOk, ih]
    constructor
    · rintro ⟨hlk, hp⟩
      rw [List.pairwise_cons] at hp ⊢
      refine ⟨?_, List.pairwise_cons.mpr hp⟩
      intro x hx
      rcases List.mem_cons.mp hx with rfl | hm
      · exact hlk
      · exact bytesCmp_trans_lt _ _ _ hlk (hp.1 x hm)
    · intro hp
      rw [List.pairwise_cons] at hp
      exact ⟨hp.1 k List.mem_cons_self, hp.2⟩

theorem chainOk_none_iff {ks : List Bytes} :
    ChainOk none ks ↔ ks.Pairwise (fun a b => bytesCmp a b = .lt) := by
  cases ks with
  | nil => simp [ChainOk]
  | cons k ks => simp only [ChainOk]; exact chainOk_some_iff

theorem chainOk_cons {l : Option Bytes} {k : Bytes} {ks : List Bytes} :
    ChainOk l (k :: ks) ↔ ChainOk l [k] ∧ ChainOk (some k) ks := by
  cases l <;> simp [ChainOk]

def keysOf (items : List Item) : List Bytes := items.map fun p => p.1.getD []

theorem chainOk_keysOf (items : List Item) : ChainOk none (keysOf items) ↔ Asc (recordsOf items) := by
  rw [chainOk_none_iff, keysOf, recordsOf, Asc, StrictAsc, List.pairwise_map, List.pairwise_map]

theorem writeNext_cases (w : Merge.WState) (k v : GoBytes) :
    (w.calls ∈ w.failAt ∧ writeNext w k v = (some .io, { w with calls := w.calls + 1 })) ∨
    (w.calls ∉ w.failAt ∧ ChainOk w.lastKey [k.getD []] ∧
      writeNext w k v = (none, { w with calls := w.calls + 1, lastKey := some (k.getD []),
                                          out := w.out ++ [(k.getD [], v)] })) ∨
    (w.calls ∉ w.failAt ∧ ¬ ChainOk w.lastKey [k.getD []] ∧
      writeNext w k v = (some .rejected, { w with calls := w.calls + 1 })) := by
  unfold writeNext
  by_cases hf : w.calls ∈ w.failAt
  · left
    simp [hf]
  · right
    have hc : w.failAt.contains w.calls = false := by simpa using hf
    simp only [hc]
    cases hl : w.lastKey with
    | none => left; simp [hf, ChainOk]
    | some l =>
      cases hcmp : bytesCmp l (k.getD []) with
      | lt => left; simp [hf, ChainOk, hcmp]
      | eq => right; simp [hf, ChainOk, hcmp]
      | gt => right; simp [hf, ChainOk, hcmp]

theorem forall_range_succ {fa : List Nat} {c m : Nat} :
    (∀ n, c ≤ n → n < c + (m + 1) → n ∉ fa) ↔ c ∉ fa ∧ ∀ n, c + 1 ≤ n → n < c + 1 + m → n ∉ fa := by
  rw [Nat.add_assoc c 1 m, Nat.add_comm 1 m]
  constructor
  · exact fun h => ⟨h c (Nat.le_refl c) (Nat.lt_add_of_pos_right (Nat.succ_pos m)),
      fun n h1 h2 => h n (Nat.le_of_succ_le h1) h2⟩
  · rintro ⟨h0, h⟩ n h1 h2
    rcases Nat.eq_or_lt_of_le h1 with rfl | hlt
    · exact h0
    · exact h n hlt h2

/-- What the writer loop does: either every item was written in order (the source ended in Done, no call hit a
fault, the keys were strictly ascending), or there is an error, which is the writer's rejection of a key that is
not ascending unless a call hit a fault or the source ended in an error. -/
theorem feedItems_spec : ∀ (items : List Item) (t : PQF.Term) (w : Merge.WState),
    ((feedItems items t w).1 = none ∧ t = .done ∧ (feedItems items t w).2.out = w.out ++ recordsOf items ∧
      (feedItems items t w).2.calls = w.calls + items.length ∧
      (∀ n, w.calls ≤ n → n < w.calls + items.length → n ∉ w.failAt) ∧ ChainOk w.lastKey (keysOf items)) ∨
    ((feedItems items t w).1 ≠ none ∧
      ((∀ n, w.calls ≤ n → n < w.calls + items.length → n ∉ w.failAt) → t = .done →
        (feedItems items t w).1 = some .rejected ∧ ¬ ChainOk w.lastKey (keysOf items))) := by
  intro items
  induction items with
  | nil =>
    intro t w
    cases t with
    | done => exact Or.inl ⟨rfl, rfl, by simp [feedItems, recordsOf], rfl,
        fun n h1 h2 => absurd h2 (Nat.not_lt_of_le h1), trivial⟩
    | err e => exact Or.inr ⟨by simp [feedItems], fun _ h => nomatch h⟩
  | cons it rest ih =>
    intro t w
    obtain ⟨k, v⟩ := it
    simp only [feedItems, keysOf, List.map_cons, List.length_cons]
    rcases writeNext_cases w k v with ⟨hf, hw⟩ | ⟨hnf, hch, hw⟩ | ⟨_, hnc, hw⟩
    · rw [hw]
      exact Or.inr ⟨by simp, fun hN _ => absurd hf (forall_range_succ.mp hN).1⟩
    · rw [hw]
      rcases ih t _ with ⟨h1, ht, hout, hcalls, hN, hchain⟩ | ⟨hne, himp⟩
      · refine Or.inl ⟨h1, ht, ?_, ?_, forall_range_succ.mpr ⟨hnf, hN⟩, chainOk_cons.mpr ⟨hch, hchain⟩⟩
        · rw [hout]; simp [recordsOf]
        · rw [hcalls]; exact Nat.add_right_comm _ 1 _
      · refine Or.inr ⟨hne, fun hN ht => ?_⟩
        obtain ⟨a, b⟩ := himp (forall_range_succ.mp hN).2 ht
        exact ⟨a, fun hc => b (chainOk_cons.mp hc).2⟩
    · rw [hw]
      exact Or.inr ⟨by simp, fun _ _ => ⟨rfl, fun hc => hnc (chainOk_cons.mp hc).1⟩⟩

theorem feedItems_ok (items : List Item) (t : PQF.Term) (w : Merge.WState) (h : (feedItems items t w).1 = none) :
    t = .done ∧ (feedItems items t w).2.out = w.out ++ recordsOf items ∧
      (feedItems items t w).2.calls = w.calls + items.length ∧
      (∀ n, w.calls ≤ n → n < w.calls + items.length → n ∉ w.failAt) ∧
      ChainOk w.lastKey (keysOf items) := by
  rcases feedItems_spec items t w with ⟨_, r⟩ | ⟨hne, _⟩
  · exact r
  · exact absurd h hne

/-- a fresh writer that never fails accepts exactly the strictly ascending sequences, and stores them -/
theorem feed_fresh (items : List Item) :
    (Asc (recordsOf items) →
      (feedItems items .done {}).1 = none ∧ (feedItems items .done {}).2.out = recordsOf items) ∧
    (¬ Asc (recordsOf items) → (feedItems items .done {}).1 = some .rejected) := by
  rw [← chainOk_keysOf]
  rcases feedItems_spec items .done {} with ⟨h, _, hout, _, _, hc⟩ | ⟨_, himp⟩
  · exact ⟨fun _ => ⟨h, by rw [hout]; rfl⟩, fun hn => absurd hc hn⟩
  · obtain ⟨hrej, hn⟩ := himp (fun _ _ _ => List.not_mem_nil) rfl
    exact ⟨fun hc => absurd hc hn, fun _ => hrej⟩

/-- Hand `g` of what the heap delivers to the writer.  `Merge` and `MergeCompact` are both this, for two list
functions `g`, so what they report of faults is proved once. -/
def consume (g : List (GoBytes × GoBytes × Nat) → PQF.Term → List Item) (ins : List Input) (w : Merge.WState) :
    Option Err × Merge.WState :=
  match source goCmp ins with
  | .error e => (some e, w)
  | .ok (xs, t) => feedItems (g xs t) t w

/-- the iterator, called until Done or an error, returns the groups of what the heap delivers -/
theorem mcCollect_source (reduce : ReduceFn) {ins : List Input} {xs : List (GoBytes × GoBytes × Nat)}
    {t : PQF.Term} (hs : source goCmp ins = .ok (xs, t)) :
    ∃ s, mcNew ins = .ok s ∧
      mcCollect (PQF.endErrOf ins) reduce (PQF.pendingCount s.heap + 2) s = groupRunT reduce none [] [] xs t := by
  obtain ⟨hp, hi, hy, hlen, _⟩ := source_ok goCmp_lawful hs
  refine ⟨⟨hp, none, [], []⟩, by simp only [mcNew, hi], ?_⟩
  exact mcCollect_eq reduce hy none [] [] _ (Nat.add_le_add_right hlen 2)

theorem untag_length (l : List (GoBytes × GoBytes × Nat)) : (untag l).length = l.length := List.length_map _

theorem merge_eq_consume (ins : List Input) (w : Merge.WState) :
    merge ins w = consume (fun xs _ => untag xs) ins w := by
  unfold consume source merge
  cases PQF.init goCmp ins with
  | error e => rfl
  | ok h => exact mergeLoop_eq _ h w

theorem mergeCompact_eq_consume (ins : List Input) (w : Merge.WState) (reduce : ReduceFn) :
    mergeCompact ins w reduce = consume (fun xs t => (groupRunT reduce none [] [] xs t).1) ins w := by
  unfold consume mergeCompact
  cases hs : source goCmp ins with
  | error e => rw [mcNew, source_error hs]
  | ok r =>
    obtain ⟨s, hnew, hcol⟩ := mcCollect_source reduce hs
    rw [hnew]
    simp only []
    rw [mergeCompactLoop_eq, hcol, groupRunT_term]

variable {g : List (GoBytes × GoBytes × Nat) → PQF.Term → List Item}

theorem consume_clean {ins : List Input} (hc : ∀ i ∈ ins, i.endErr = none) (w : Merge.WState) :
    consume g ins w = feedItems (g (mergedOf ins) .done) .done w := by
  unfold consume
  rw [(source_clean goCmp_lawful hc).2]
  rfl

/-- success is reported only if no input has a reachable fault, no executed write hit a fault, and `g` of the
complete merge was written, in order -/
theorem consume_success {ins : List Input} {w : Merge.WState} (h : (consume g ins w).1 = none) :
    (∀ i ∈ ins, i.endErr = none) ∧
    (consume g ins w).2.out = w.out ++ recordsOf (g (mergedOf ins) .done) ∧
    (consume g ins w).2.calls = w.calls + (g (mergedOf ins) .done).length ∧
    (∀ n, w.calls ≤ n → n < w.calls + (g (mergedOf ins) .done).length → n ∉ w.failAt) := by
  have hc : ∀ i ∈ ins, i.endErr = none := by
    unfold consume at h
    cases hs : source goCmp ins with
    | error e => rw [hs] at h; cases h
    | ok r =>
      rw [hs] at h
      obtain ⟨_, _, _, _, hd⟩ := source_ok goCmp_lawful hs
      exact (hd (feedItems_ok _ _ _ h).1).1
  rw [consume_clean hc] at h ⊢
  obtain ⟨_, hout, hcalls, hrange, _⟩ := feedItems_ok _ _ _ h
  exact ⟨hc, hout, hcalls, hrange⟩

/-- for every input set, every fault position of every input and every set of failing writes: a reachable fault of
any input's `Next` is reported; a failing `WriteNext` among the writes of a complete run is reported; and success
means that there was no reachable fault and the writer received exactly `g` of the complete merge -/
theorem consume_fault_reported (ins : List Input) (w : Merge.WState) :
    ((∃ i ∈ ins, i.endErr ≠ none) → (consume g ins w).1 ≠ none) ∧
    ((∃ n ∈ w.failAt, w.calls ≤ n ∧ n < w.calls + (g (mergedOf ins) .done).length) → (consume g ins w).1 ≠ none) ∧
    ((consume g ins w).1 = none →
      (∀ i ∈ ins, i.endErr = none) ∧
      (consume g ins w).2.out = w.out ++ recordsOf (g (mergedOf ins) .done) ∧
      (consume g ins w).2.calls = w.calls + (g (mergedOf ins) .done).length) :=
  ⟨fun ⟨i, hi, hne⟩ hnone => hne ((consume_success hnone).1 i hi),
   fun ⟨n, hn, h1, h2⟩ hnone => (consume_success hnone).2.2.2 n h1 h2 hn,
   fun hnone => ⟨(consume_success hnone).1, (consume_success hnone).2.1, (consume_success hnone).2.2.1⟩⟩

/-- with no reachable fault at all no I/O error is invented: success, or the writer rejected a non-ascending key -/
theorem consume_noFault {ins : List Input} {w : Merge.WState} (hc : ∀ i ∈ ins, i.endErr = none)
    (hw : ∀ n, w.calls ≤ n → n < w.calls + (g (mergedOf ins) .done).length → n ∉ w.failAt) :
    (consume g ins w).1 = none ∨ (consume g ins w).1 = some .rejected := by
  rw [consume_clean hc]
  rcases feedItems_spec (g (mergedOf ins) .done) .done w with ⟨h, _⟩ | ⟨_, himp⟩
  · exact Or.inl h
  · exact Or.inr (himp hw rfl).1

end SST.Proofs.MergeLoops
