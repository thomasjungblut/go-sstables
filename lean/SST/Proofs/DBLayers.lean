/-
Helper lemmas for L6 (SimpleDB as a map): layers, table stacks, the merge of a run of tables.
-/
import SST.Spec.DB
import SST.Proofs.ListFacts
namespace SST.Proofs.DB
open SST SST.DBM

theorem layerGet_nil (k : Key) : Layer.get [] k = none := rfl

theorem layerGet_cons (p : Key × GoBytes) (l : Layer) (k : Key) :
    Layer.get (p :: l) k = if p.1 = k then some p.2 else Layer.get l k := by
  by_cases h : p.1 = k <;> simp [Layer.get, h]

theorem layerGet_filter_ne (l : Layer) (k k' : Key) (h : k' ≠ k) :
    Layer.get (l.filter (fun p => p.1 != k)) k' = Layer.get l k' := by
  induction l with
  | nil => rfl
  | cons p l ih =>
    by_cases hp : p.1 = k
    · have : ¬ k = k' := fun e => h e.symm
      simp [hp, layerGet_cons, this, ih]
    · simp [hp, layerGet_cons, ih]

theorem layerGet_set (l : Layer) (k k' : Key) (v : GoBytes) :
    Layer.get (Layer.set l k v) k' = if k' = k then some v else Layer.get l k' := by
  unfold Layer.set
  rw [layerGet_cons]
  by_cases h : k' = k
  · simp [h]
  · have : ¬ k = k' := fun e => h e.symm
    simp [h, this, layerGet_filter_ne l k k' h]

theorem mem_of_layerGet {l : Layer} {k : Key} {v : GoBytes} (h : Layer.get l k = some v) : (k, v) ∈ l := by
  induction l with
  | nil => cases h
  | cons p l ih =>
    rw [layerGet_cons] at h
    split at h
    · next hk => cases h; cases hk; exact List.mem_cons_self
    · exact List.mem_cons_of_mem _ (ih h)

/-- a list of bindings produced key by key: the binding of `k` is the one its own key produced -/
theorem layerGet_filterMap (h : Key → Option GoBytes) (keys : List Key) (k : Key) :
    Layer.get (keys.filterMap fun k' => (h k').map fun v => (k', v)) k =
      if k ∈ keys then h k else none := by
  induction keys with
  | nil => simp [layerGet_nil]
  | cons k' ks ih =>
    rw [List.filterMap_cons]
    by_cases hk : k' = k
    · subst hk
      cases hh : h k' with
      | none => simp [ih, hh]
      | some v => simp [layerGet_cons]
    · have hk' : ¬ k = k' := fun e => hk e.symm
      cases hh : h k' with
      | none => simp [ih, hk']
      | some v => simp [layerGet_cons, hk, hk', ih]

theorem tablesGet_cons (t : Tbl) (ts : List Tbl) (k : Key) :
    tablesGet (t :: ts) k = (tablesGet ts k).or (Layer.get t.cells k) := by
  simp only [tablesGet]
  cases tablesGet ts k <;> simp

theorem tablesGet_append (xs ys : List Tbl) (k : Key) :
    tablesGet (xs ++ ys) k = (tablesGet ys k).or (tablesGet xs k) := by
  induction xs with
  | nil => simp [tablesGet]
  | cons t xs ih => simp [tablesGet_cons, ih, Option.or_assoc]

theorem tablesGet_single (t : Tbl) (k : Key) : tablesGet [t] k = Layer.get t.cells k := by
  simp [tablesGet]

theorem tablesGet_none_of_forall (ts : List Tbl) (k : Key) (h : ∀ u ∈ ts, Layer.get u.cells k = none) :
    tablesGet ts k = none := by
  induction ts with
  | nil => rfl
  | cons t ts ih =>
    rw [tablesGet_cons, ih (fun u hu => h u (List.mem_cons_of_mem _ hu)), h t (by simp)]
    rfl

/-- the newest binding of a key inside a run: the table `t` binds it and no newer table of the run does -/
theorem tablesGet_newest (older : List Tbl) (t : Tbl) (newer : List Tbl) (k : Key) (v : GoBytes)
    (ht : Layer.get t.cells k = some v) (hn : ∀ u ∈ newer, Layer.get u.cells k = none) :
    tablesGet (older ++ t :: newer) k = some v := by
  rw [tablesGet_append, tablesGet_cons, tablesGet_none_of_forall newer k hn, ht]
  rfl

theorem tablesGet_some_mem (ts : List Tbl) (k : Key) (v : GoBytes) (h : tablesGet ts k = some v) :
    k ∈ keysOf ts := by
  unfold keysOf
  rw [List.mem_eraseDups]
  induction ts generalizing v with
  | nil => simp [tablesGet] at h
  | cons t ts ih =>
    rw [tablesGet_cons] at h
    rw [List.flatMap_cons, List.mem_append]
    cases hts : tablesGet ts k with
    | some v' => exact Or.inr (ih _ hts)
    | none =>
      rw [hts, Option.none_or] at h
      exact Or.inl (List.mem_map_of_mem (mem_of_layerGet h))

/-- what `mergeRun` stores for a key, from what the run reads as -/
def mergeVal (drop : Bool) : Option GoBytes → Option GoBytes
  | none => none
  | some none => if drop then none else some (some [])
  | some (some v) => if v.isEmpty then (if drop then none else some (some [])) else some (some v)

theorem mergeRun_eq (run : List Tbl) (drop : Bool) :
    mergeRun run drop = (keysOf run).filterMap
      fun k' => (mergeVal drop (tablesGet run k')).map fun v => (k', v) := by
  unfold mergeRun
  congr 1
  funext k'
  cases tablesGet run k' with
  | none => rfl
  | some x =>
    cases x with
    | none => cases drop <;> rfl
    | some v => cases drop <;> cases v <;> rfl

theorem mergeRun_get (run : List Tbl) (drop : Bool) (k : Key) :
    Layer.get (mergeRun run drop) k = mergeVal drop (tablesGet run k) := by
  rw [mergeRun_eq, layerGet_filterMap]
  split
  · rfl
  · next hn =>
    cases hts : tablesGet run k with
    | none => rfl
    | some v => exact absurd (tablesGet_some_mem _ _ _ hts) hn

theorem filterMap_keys_sublist {β : Type} (f : Key → Option β) : ∀ keys : List Key,
    ((keys.filterMap fun k => (f k).map fun v => (k, v)).map (·.1)).Sublist keys
  | [] => List.Sublist.slnil
  | k :: ks => by
    rw [List.filterMap_cons]
    cases f k with
    | none => exact (filterMap_keys_sublist f ks).cons _
    | some v => exact (filterMap_keys_sublist f ks).cons_cons _

theorem mergeRun_nodup (run : List Tbl) (drop : Bool) : ((mergeRun run drop).map (·.1)).Nodup := by
  rw [mergeRun_eq]
  apply List.Pairwise.sublist (filterMap_keys_sublist _ _)
  unfold keysOf
  exact nodup_eraseDups _

theorem vis_nonempty (v : Bytes) (h : v ≠ []) : vis (some (some v)) = some v := by
  cases v with
  | nil => exact absurd rfl h
  | cons _ _ => rfl

theorem vis_or_congr (a : Option GoBytes) {x y : Option GoBytes} (h : vis x = vis y) : vis (a.or x) = vis (a.or y) := by
  cases a with
  | none => exact h
  | some _ => rfl

/-- what the merge makes of a binding shows as the binding did: carried over, or dropped where nothing
older (`q`) could show through -/
theorem vis_mergeVal (drop : Bool) (p x q : Option GoBytes) (hq : drop = true → q = none) :
    vis (p.or ((mergeVal drop x).or q)) = vis (p.or (x.or q)) := by
  cases p with
  | some _ => rfl
  | none =>
    cases x with
    | none => rfl
    | some x =>
      cases drop with
      | false => cases x with
        | none => rfl
        | some v => cases v <;> rfl
      | true =>
        rw [hq rfl]
        cases x with
        | none => rfl
        | some v => cases v <;> rfl

/-- replacing a run of tables by its merge changes no key's visible value; tombstones may only be dropped when
nothing older is left -/
theorem vis_tablesGet_merge (pre sel post : List Tbl) (g : Nat) (drop : Bool) (hd : drop = true → pre = [])
    (k : Key) :
    vis (tablesGet (pre ++ [{ gen := g, cells := mergeRun sel drop }] ++ post) k) =
      vis (tablesGet (pre ++ sel ++ post) k) := by
  simp only [tablesGet_append, tablesGet_single, mergeRun_get]
  exact vis_mergeVal drop _ _ _ fun h => by rw [hd h]; rfl

end SST.Proofs.DB
