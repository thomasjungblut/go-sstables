/-
The vendored buffered writer (recordio/bufio_vendor.go, `Writer`): `Write` and its loop in closed form,
transparency, flush boundaries, aligned mode.
-/
import SST.Model.Wal
namespace SST.Proofs
open SST

/-- the chunk a flush of a non-empty buffer hands down -/
def chunkOf (b : BufW) : Bytes :=
  if b.aligned then b.buf ++ List.replicate (b.size - b.buf.length) 0 else b.buf

theorem flush_empty (b : BufW) (h : b.buf = []) : b.flush = (b, []) := by
  simp [BufW.flush, h]

theorem flush_ne (b : BufW) (h : b.buf ≠ []) : b.flush = ({ b with buf := [] }, [chunkOf b]) := by
  have : b.buf.length ≠ 0 := by
    intro h0; exact h (List.eq_nil_of_length_eq_zero h0)
  simp [BufW.flush, this, chunkOf]

/-- `Flush` changes the buffered bytes only -/
theorem flush_frame (b : BufW) : b.flush.1 = { b with buf := [] } := by
  by_cases h : b.buf = []
  · rw [flush_empty b h, ← h]
  · rw [flush_ne b h]

theorem flush_buf (b : BufW) : b.flush.1.buf = [] := by rw [flush_frame]

theorem flush_size (b : BufW) : b.flush.1.size = b.size := by rw [flush_frame]

theorem flush_aligned (b : BufW) : b.flush.1.aligned = b.aligned := by rw [flush_frame]

theorem flush_out (b : BufW) (ha : b.aligned = false) : b.flush.2.flatten = b.buf := by
  by_cases h : b.buf = []
  · rw [flush_empty b h]; simp [h]
  · rw [flush_ne b h]; simp [chunkOf, ha]

theorem chunkOf_full (b : BufW) (h : b.size ≤ b.buf.length) : chunkOf b = b.buf := by
  rw [chunkOf, Nat.sub_eq_zero_of_le h, List.replicate_zero, List.append_nil, ite_self]

theorem writeLoop_exit (fuel : Nat) (b : BufW) (p : Bytes) (out : List Bytes) (h : p.length ≤ b.avail) :
    BufW.writeLoop (fuel + 1) b p out = (b, p, out) := by
  have : ¬ p.length > b.avail := by omega
  simp only [BufW.writeLoop, this, if_false]

theorem writeLoop_direct (fuel : Nat) (b : BufW) (p : Bytes) (out : List Bytes) (h : p.length > b.avail)
    (hb : b.buf = []) : BufW.writeLoop (fuel + 1) b p out = BufW.writeLoop fuel b [] (out ++ [p]) := by
  simp only [BufW.writeLoop, h, if_true, hb, List.length_nil]

/-- the fill-and-flush path: the buffer `Write` has filled up goes down as it is, in either mode (only `Flush`
called on a partly filled buffer pads) -/
theorem writeLoop_fill (fuel : Nat) (b : BufW) (p : Bytes) (out : List Bytes) (h : p.length > b.avail)
    (hb : b.buf ≠ []) :
    BufW.writeLoop (fuel + 1) b p out =
      BufW.writeLoop fuel { b with buf := [] } (p.drop b.avail) (out ++ [b.buf ++ p.take b.avail]) := by
  have hl : b.buf.length ≠ 0 := fun h0 => hb (List.eq_nil_of_length_eq_zero h0)
  have hne : b.buf ++ p.take b.avail ≠ [] := by simp [hb]
  have hfull : b.size ≤ (b.buf ++ p.take b.avail).length := by
    rw [List.length_append, List.length_take, Nat.min_eq_left (Nat.le_of_lt h), BufW.avail]
    exact Nat.sub_le_iff_le_add'.mp (Nat.le_refl _)
  simp only [BufW.writeLoop, h, if_true, hl, if_false]
  rw [flush_ne _ hne, chunkOf_full _ hfull]

/-- closed form of the loop of `Write`, as the four ways through it: no iteration; a direct write; a fill+flush, then
a direct write; a fill+flush.  Then the exit test. -/
theorem writeLoop_cases (b : BufW) (p : Bytes) :
    (p.length ≤ b.avail ∧ BufW.writeLoop BufW.loopFuel b p [] = (b, p, [])) ∨
    (¬ p.length ≤ b.avail ∧
      ((b.buf = [] ∧ BufW.writeLoop BufW.loopFuel b p [] = (b, [], [p])) ∨
       ((p.drop b.avail).length > b.size ∧ BufW.writeLoop BufW.loopFuel b p [] =
          ({ b with buf := [] }, [], [b.buf ++ p.take b.avail, p.drop b.avail])) ∨
       (¬ (p.drop b.avail).length > b.size ∧ BufW.writeLoop BufW.loopFuel b p [] =
          ({ b with buf := [] }, p.drop b.avail, [b.buf ++ p.take b.avail])))) := by
  have e0 : ∀ (b : BufW), ([] : Bytes).length ≤ b.avail := fun b => Nat.zero_le _
  have hsz : BufW.avail { b with buf := [] } = b.size := Nat.sub_zero _
  unfold BufW.loopFuel
  by_cases h1 : p.length ≤ b.avail
  · exact .inl ⟨h1, writeLoop_exit _ _ _ _ h1⟩
  refine .inr ⟨h1, ?_⟩
  have h1' : p.length > b.avail := Nat.lt_of_not_le h1
  by_cases h2 : b.buf = []
  · exact .inl ⟨h2, by rw [writeLoop_direct _ _ _ _ h1' h2, writeLoop_exit _ _ _ _ (e0 _)]; rfl⟩
  rw [writeLoop_fill _ _ _ _ h1' h2]
  by_cases h3 : (p.drop b.avail).length > b.size
  · exact .inr (.inl ⟨h3, by
      rw [writeLoop_direct _ _ _ _ (hsz.symm ▸ h3) rfl, writeLoop_exit _ _ _ _ (e0 _)]; rfl⟩)
  · exact .inr (.inr ⟨h3, by rw [writeLoop_exit _ _ _ _ (hsz.symm ▸ Nat.le_of_not_lt h3)]; rfl⟩)

/-- the loop has left when the fuel of the model runs out: three iterations always suffice -/
theorem writeLoop_done (b : BufW) (p : Bytes) :
    (BufW.writeLoop BufW.loopFuel b p []).2.1.length ≤ (BufW.writeLoop BufW.loopFuel b p []).1.avail := by
  rcases writeLoop_cases b p with ⟨h1, e⟩ | ⟨-, ⟨-, e⟩ | ⟨-, e⟩ | ⟨h3, e⟩⟩ <;> rw [e]
  · exact h1
  · exact Nat.zero_le _
  · exact Nat.zero_le _
  · exact Nat.le_trans (Nat.le_of_not_lt h3) (Nat.le_of_eq (Nat.sub_zero _).symm)

/-- closed form of `Write`: the four ways through it -/
theorem write_cases (b : BufW) (p : Bytes) :
    (p.length ≤ b.avail ∧ b.write p = ({ b with buf := b.buf ++ p }, [])) ∨
    (¬ p.length ≤ b.avail ∧
      ((b.buf = [] ∧ b.write p = (b, [p])) ∨
       ((p.drop b.avail).length > b.size ∧
          b.write p = ({ b with buf := [] }, [b.buf ++ p.take b.avail, p.drop b.avail])) ∨
       (¬ (p.drop b.avail).length > b.size ∧
          b.write p = ({ b with buf := p.drop b.avail }, [b.buf ++ p.take b.avail])))) := by
  unfold BufW.write
  rcases writeLoop_cases b p with ⟨h1, e⟩ | ⟨h1, ⟨h2, e⟩ | ⟨h3, e⟩ | ⟨h3, e⟩⟩ <;> rw [e]
  · exact .inl ⟨h1, rfl⟩
  · refine .inr ⟨h1, .inl ⟨h2, ?_⟩⟩
    obtain ⟨size, al, buf⟩ := b
    subst h2
    rfl
  · exact .inr ⟨h1, .inr (.inl ⟨h3, rfl⟩)⟩
  · exact .inr ⟨h1, .inr (.inr ⟨h3, rfl⟩)⟩

/-- `Write` changes the buffered bytes only: `size` and (`write_aligned`) `aligned` stay -/
theorem write_size (b : BufW) (p : Bytes) : (b.write p).1.size = b.size := by
  rcases write_cases b p with ⟨-, e⟩ | ⟨-, ⟨-, e⟩ | ⟨-, e⟩ | ⟨-, e⟩⟩ <;> rw [e]

theorem write_aligned (b : BufW) (p : Bytes) : (b.write p).1.aligned = b.aligned := by
  rcases write_cases b p with ⟨-, e⟩ | ⟨-, ⟨-, e⟩ | ⟨-, e⟩ | ⟨-, e⟩⟩ <;> rw [e]

theorem write_buf_le (b : BufW) (p : Bytes) (h : b.buf.length ≤ b.size) :
    (b.write p).1.buf.length ≤ b.size := by
  rcases write_cases b p with ⟨h1, e⟩ | ⟨-, ⟨-, e⟩ | ⟨-, e⟩ | ⟨h3, e⟩⟩ <;> rw [e]
  · exact List.length_append ▸ Nat.add_le_of_le_sub' h h1
  · exact h
  · exact Nat.zero_le _
  · exact Nat.le_of_not_lt h3

/-- one `Write`, either mode: what was handed down plus what is buffered is what was buffered plus `p` -/
theorem write_transp (b : BufW) (p : Bytes) : (b.write p).2.flatten ++ (b.write p).1.buf = b.buf ++ p := by
  rcases write_cases b p with ⟨-, e⟩ | ⟨-, ⟨h2, e⟩ | ⟨-, e⟩ | ⟨-, e⟩⟩ <;> rw [e]
  · exact List.nil_append _
  · rw [h2]; simp
  · simp
  · simp

/-- a write that fits the buffer hands down full buffers only -/
theorem write_chunk_len (b : BufW) (p : Bytes) (h : b.buf.length ≤ b.size) (hp : p.length ≤ b.size) :
    ∀ ch ∈ (b.write p).2, ch.length = b.size := by
  have hrest : ¬ (p.drop b.avail).length > b.size :=
    Nat.not_lt.mpr (Nat.le_trans (by rw [List.length_drop]; exact Nat.sub_le _ _) hp)
  rcases write_cases b p with ⟨-, e⟩ | ⟨h1, ⟨h2, -⟩ | ⟨h3, -⟩ | ⟨-, e⟩⟩
  · rw [e]; exact fun _ hch => nomatch hch
  · exact absurd (by rw [BufW.avail, h2]; exact hp) h1
  · exact absurd h3 hrest
  · rw [e, List.forall_mem_singleton, List.length_append, List.length_take,
      Nat.min_eq_left (Nat.le_of_not_le h1), BufW.avail]
    exact Nat.add_sub_cancel' h

theorem run_size (b : BufW) (ops : List BufOp) : (b.run ops).1.size = b.size := by
  induction ops generalizing b with
  | nil => rfl
  | cons op ops ih =>
    cases op with
    | write p => simp only [BufW.run]; rw [ih, write_size]
    | flush => simp only [BufW.run]; rw [ih, flush_size]

theorem run_aligned (b : BufW) (ops : List BufOp) : (b.run ops).1.aligned = b.aligned := by
  induction ops generalizing b with
  | nil => rfl
  | cons op ops ih =>
    cases op with
    | write p => simp only [BufW.run]; rw [ih, write_aligned]
    | flush => simp only [BufW.run]; rw [ih, flush_aligned]

theorem run_buf_le (b : BufW) (ops : List BufOp) (h : b.buf.length ≤ b.size) :
    (b.run ops).1.buf.length ≤ b.size := by
  induction ops generalizing b with
  | nil => exact h
  | cons op ops ih =>
    cases op with
    | write p =>
      simp only [BufW.run]
      have := ih (b.write p).1 (by rw [write_size]; exact write_buf_le b p h)
      rw [write_size] at this; exact this
    | flush =>
      simp only [BufW.run]
      have := ih b.flush.1 (by rw [flush_buf]; simp)
      rw [flush_size] at this; exact this

theorem run_transp (b : BufW) (ops : List BufOp) (ha : b.aligned = false) :
    (b.run ops).2.flatten ++ (b.run ops).1.buf = b.buf ++ BufOp.logical ops := by
  induction ops generalizing b with
  | nil => simp [BufW.run, BufOp.logical]
  | cons op ops ih =>
    cases op with
    | write p =>
      have h1 := write_transp b p
      have h2 := ih (b.write p).1 (by rw [write_aligned]; exact ha)
      simp only [BufW.run, BufOp.logical, List.flatten_append, List.append_assoc]
      rw [h2, ← List.append_assoc, h1, List.append_assoc]
    | flush =>
      have h1 := flush_out b ha
      have h2 := ih b.flush.1 (by rw [flush_aligned]; exact ha)
      simp only [BufW.run, BufOp.logical, List.flatten_append, List.append_assoc]
      rw [h2, flush_buf, List.nil_append, h1]

theorem run_append (b : BufW) (xs ys : List BufOp) :
    b.run (xs ++ ys) = (((b.run xs).1.run ys).1, (b.run xs).2 ++ ((b.run xs).1.run ys).2) := by
  induction xs generalizing b with
  | nil => simp [BufW.run]
  | cons op xs ih =>
    cases op with
    | write p => simp only [BufW.run, List.cons_append]; rw [ih]; simp
    | flush => simp only [BufW.run, List.cons_append]; rw [ih]; simp

/-- every boundary between chunks lies at a prefix of the logical stream -/
theorem run_prefix (b : BufW) (ops : List BufOp) (ha : b.aligned = false) (k : Nat) :
    ((b.run ops).2.take k).flatten <+: b.buf ++ BufOp.logical ops := by
  rw [← run_transp b ops ha]
  refine List.IsPrefix.trans ?_ (List.prefix_append _ _)
  conv => rhs; rw [← List.take_append_drop k (b.run ops).2]
  rw [List.flatten_append]; exact List.prefix_append _ _

theorem logical_append (xs ys : List BufOp) :
    BufOp.logical (xs ++ ys) = BufOp.logical xs ++ BufOp.logical ys := by
  induction xs with
  | nil => rfl
  | cons op xs ih => cases op <;> simp [BufOp.logical, ih]

/-- after a `Flush` nothing is buffered and the underlying writer has received the whole logical stream -/
theorem run_then_flush (b : BufW) (ops : List BufOp) (ha : b.aligned = false) :
    (b.run (ops ++ [.flush])).1.buf = [] ∧
    (b.run (ops ++ [.flush])).2.flatten = b.buf ++ BufOp.logical ops := by
  have h1 := run_transp b (ops ++ [.flush]) ha
  have h2 : (b.run (ops ++ [.flush])).1.buf = [] := by
    rw [run_append]; simp only [BufW.run]; exact flush_buf _
  rw [h2, List.append_nil, logical_append] at h1
  exact ⟨h2, by rw [h1]; simp [BufOp.logical]⟩

theorem chunkOf_length (b : BufW) (ha : b.aligned = true) (h : b.buf.length ≤ b.size) :
    (chunkOf b).length = b.size := by
  simp only [chunkOf, ha, if_true, List.length_append, List.length_replicate]; omega

theorem flush_aligned_len (b : BufW) (ha : b.aligned = true) (h : b.buf.length ≤ b.size) :
    ∀ ch ∈ b.flush.2, ch.length = b.size := by
  by_cases hb : b.buf = []
  · rw [flush_empty b hb]; simp
  · rw [flush_ne b hb]; intro ch hch
    simp only [List.mem_singleton] at hch; subst hch; exact chunkOf_length b ha h

theorem flush_out_aligned (b : BufW) (ha : b.aligned = true) :
    b.flush.2.flatten = if b.buf = [] then [] else b.buf ++ List.replicate (b.size - b.buf.length) 0 := by
  by_cases h : b.buf = []
  · rw [flush_empty b h, if_pos h]; rfl
  · rw [flush_ne b h, if_neg h, chunkOf, if_pos ha]; exact List.append_nil _

/-- aligned mode, every write at most one buffer long: every chunk handed down is exactly one buffer -/
theorem run_aligned_len (b : BufW) (ops : List BufOp) (ha : b.aligned = true) (h : b.buf.length ≤ b.size)
    (hp : ∀ p, BufOp.write p ∈ ops → p.length ≤ b.size) : ∀ ch ∈ (b.run ops).2, ch.length = b.size := by
  induction ops generalizing b with
  | nil => simp [BufW.run]
  | cons op ops ih =>
    cases op with
    | write p =>
      simp only [BufW.run]
      intro ch hch
      rw [List.mem_append] at hch
      rcases hch with hch | hch
      · exact write_chunk_len b p h (hp p (by simp)) ch hch
      · have := ih (b.write p).1 (by rw [write_aligned]; exact ha)
          (by rw [write_size]; exact write_buf_le b p h)
          (by intro q hq; rw [write_size]; exact hp q (by simp [hq])) ch hch
        rw [write_size] at this; exact this
    | flush =>
      simp only [BufW.run]
      intro ch hch
      rw [List.mem_append] at hch
      rcases hch with hch | hch
      · exact flush_aligned_len b ha h ch hch
      · have := ih b.flush.1 (by rw [flush_aligned]; exact ha) (by rw [flush_buf]; simp)
          (by intro q hq; rw [flush_size]; exact hp q (by simp [hq])) ch hch
        rw [flush_size] at this; exact this

end SST.Proofs
