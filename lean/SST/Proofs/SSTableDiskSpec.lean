/-
Statement vocabulary for the read-like-a-map property of a reader whose index has STATE (the disk loader's
offset cache): the index states the property ranges over (`IndexState`: any cache of fresh reads, a superset of what
sequences of calls reach), the stateful form of `ReadsAsMap`, and the same property told over call sequences
(`ReadsAsMapFrom.calls`).  What makes the disk loader such a reader is in SST/Proofs/SSTableDiskLookup.lean.
-/
import SST.Spec.SSTable
namespace SST
open Generated

/-- the offset cache maps offsets only to the entry a fresh `SeekNext` at that offset returns WITHOUT error -/
def DiskCacheFresh (d : DiskIdx) : Prop :=
  ∀ p ∈ d.cache, ∃ o, diskSeekEntry d.c d.file p.1 = (.ok o, p.2)

/-- the index states that calls on a reader opened with index `idx0` may leave behind: an in-memory index
never changes; a disk index keeps its file and compressor, its cache may hold ANY set of fresh reads
(whatever lookups were made before, in whatever order, with the cache full or not) -/
def IndexState (idx0 idx : Index) : Prop :=
  match idx0 with
  | .disk d0 => ∃ d, idx = .disk d ∧ d.file = d0.file ∧ d.c = d0.c ∧ DiskCacheFresh d
  | _ => idx = idx0

/-- `ReadsAsMap` (all probes) for an index with state: IN EVERY STATE of `IndexState idx0` every call
answers exactly like the sorted map of `kvs` and leaves such a state behind.  Same five conjuncts as
`ReadsAsMap`, which implies it for an index without state (`IndexState idx0 idx ↔ idx = idx0`;
`ReadsAsMap.toFrom`). -/
structure ReadsAsMapFrom (comps : Nat → Compression) (r : Reader) (idx0 : Index) (kvs : List KV) : Prop where
  init : IndexState idx0 idx0
  get : ∀ idx, IndexState idx0 idx → ∀ k, ∃ idx', r.get idx k = (idx', some (specGetRes kvs k)) ∧ IndexState idx0 idx'
  contains : ∀ idx, IndexState idx0 idx → ∀ k,
    ∃ idx', r.contains idx k = (idx', some (.ok (specGet bytesCmp kvs k).isSome)) ∧ IndexState idx0 idx'
  scan : ∀ idx, IndexState idx0 idx → r.scan comps idx = .ok (kvs.map normKV, .done)
  scanFrom : ∀ idx, IndexState idx0 idx → ∀ k,
    ∃ idx', r.scanFrom idx k = (idx', specScanFrom kvs k) ∧ IndexState idx0 idx'
  scanRange : ∀ idx, IndexState idx0 idx → ∀ lo hi,
    ∃ idx', r.scanRange idx lo hi = (idx', specScanRange kvs lo hi) ∧ IndexState idx0 idx'

/-- one call of the reader API -/
inductive ReadCall where
  | get (k : Bytes)
  | contains (k : Bytes)
  | scan
  | scanFrom (k : Bytes)
  | scanRange (lo hi : Bytes)

/-- the answer to a `ReadCall` (`none` = the call panics) -/
inductive ReadAns where
  | get (r : Option (Except Err GoBytes))
  | contains (r : Option (Except Err Bool))
  | scan (r : Except Err ScanRes)

def Reader.call (comps : Nat → Compression) (r : Reader) (idx : Index) : ReadCall → Index × ReadAns
  | .get k => ((r.get idx k).1, .get (r.get idx k).2)
  | .contains k => ((r.contains idx k).1, .contains (r.contains idx k).2)
  | .scan => (idx, .scan (r.scan comps idx))
  | .scanFrom k => ((r.scanFrom idx k).1, .scan (r.scanFrom idx k).2)
  | .scanRange lo hi => ((r.scanRange idx lo hi).1, .scan (r.scanRange idx lo hi).2)

/-- a sequence of calls on one reader, the index state threaded through; the answers in call order -/
def Reader.calls (comps : Nat → Compression) (r : Reader) : Index → List ReadCall → List ReadAns
  | _, [] => []
  | idx, c :: cs => (r.call comps idx c).2 :: Reader.calls comps r (r.call comps idx c).1 cs

/-- what the sorted map of `kvs` answers to a call (no state) -/
def specAns (kvs : List KV) : ReadCall → ReadAns
  | .get k => .get (some (specGetRes kvs k))
  | .contains k => .contains (some (.ok (specGet bytesCmp kvs k).isSome))
  | .scan => .scan (.ok (kvs.map normKV, .done))
  | .scanFrom k => .scan (specScanFrom kvs k)
  | .scanRange lo hi => .scan (specScanRange kvs lo hi)

theorem ReadsAsMapFrom.call {comps : Nat → Compression} {r : Reader} {idx0 : Index} {kvs : List KV}
    (h : ReadsAsMapFrom comps r idx0 kvs) (idx : Index) (hi : IndexState idx0 idx) (c : ReadCall) :
    (r.call comps idx c).2 = specAns kvs c ∧ IndexState idx0 (r.call comps idx c).1 := by
  cases c with
  | get k =>
    obtain ⟨i, e, hi'⟩ := h.get idx hi k
    show ReadAns.get (r.get idx k).2 = _ ∧ IndexState idx0 (r.get idx k).1
    rw [e]; exact ⟨rfl, hi'⟩
  | contains k =>
    obtain ⟨i, e, hi'⟩ := h.contains idx hi k
    show ReadAns.contains (r.contains idx k).2 = _ ∧ IndexState idx0 (r.contains idx k).1
    rw [e]; exact ⟨rfl, hi'⟩
  | scan =>
    show ReadAns.scan (r.scan comps idx) = _ ∧ IndexState idx0 idx
    rw [h.scan idx hi]; exact ⟨rfl, hi⟩
  | scanFrom k =>
    obtain ⟨i, e, hi'⟩ := h.scanFrom idx hi k
    show ReadAns.scan (r.scanFrom idx k).2 = _ ∧ IndexState idx0 (r.scanFrom idx k).1
    rw [e]; exact ⟨rfl, hi'⟩
  | scanRange lo hi2 =>
    obtain ⟨i, e, hi'⟩ := h.scanRange idx hi lo hi2
    show ReadAns.scan (r.scanRange idx lo hi2).2 = _ ∧ IndexState idx0 (r.scanRange idx lo hi2).1
    rw [e]; exact ⟨rfl, hi'⟩

/-- EVERY sequence of calls gets the answers of the sorted map, call by call: no answer depends on the
calls made before it -/
theorem ReadsAsMapFrom.calls {comps : Nat → Compression} {r : Reader} {idx0 : Index} {kvs : List KV}
    (h : ReadsAsMapFrom comps r idx0 kvs) (cs : List ReadCall) :
    r.calls comps idx0 cs = cs.map (specAns kvs) := by
  have key : ∀ (cs : List ReadCall) (idx : Index), IndexState idx0 idx →
      r.calls comps idx cs = cs.map (specAns kvs) := by
    intro cs
    induction cs with
    | nil => intro _ _; rfl
    | cons c cs ih =>
      intro idx hi
      obtain ⟨h1, h2⟩ := h.call idx hi c
      simp only [Reader.calls, List.map_cons, h1, ih _ h2]
  exact key cs idx0 h.init

theorem ReadsAsMap.toFrom {comps : Nat → Compression} {r : Reader} {idx0 : Index} {kvs : List KV}
    (h : ReadsAsMap comps (fun _ => True) r idx0 kvs) (hst : ∀ idx, IndexState idx0 idx ↔ idx = idx0) :
    ReadsAsMapFrom comps r idx0 kvs where
  init := (hst idx0).mpr rfl
  get := fun idx hi k => by
    rw [(hst idx).mp hi]; exact ⟨idx0, h.get k trivial, (hst idx0).mpr rfl⟩
  contains := fun idx hi k => by
    rw [(hst idx).mp hi]; exact ⟨idx0, h.contains k trivial, (hst idx0).mpr rfl⟩
  scan := fun idx hi => by rw [(hst idx).mp hi]; exact h.scan
  scanFrom := fun idx hi k => by
    rw [(hst idx).mp hi]; exact ⟨idx0, h.scanFrom k, (hst idx0).mpr rfl⟩
  scanRange := fun idx hi lo hi2 => by
    rw [(hst idx).mp hi]; exact ⟨idx0, h.scanRange lo hi2, (hst idx0).mpr rfl⟩

end SST
