/-
L6-fs, synchronous WAL (C02).  The synchronous appender is the asynchronous one that writes out its buffer after
every record, so a step of a synchronous session is a step of the asynchronous one started with an empty buffer:
at every call boundary inside it the disk serves the reference before or after the step.
-/
import SST.Proofs.FSAsync
namespace SST.Proofs.FS
open SST SST.DBM SST.FS SST.Proofs.DB

/-- operation-boundary relation with an empty WAL buffer (always the case with the synchronous WAL) -/
def QS (x : Disk) (v : Vol) : Prop := (∃ junk ro rc tn, QW x v junk ro rc tn) ∧ v.queue = []

theorem QS.serves {x : Disk} {v : Vol} (h : QS x v) : logical x = abs v.s := by
  obtain ⟨⟨junk, ro, rc, tn, hq⟩, he⟩ := h
  exact hq.serves_sync he

theorem QS.diskOk {x : Disk} {v : Vol} (h : QS x v) : DiskOk x := by
  obtain ⟨⟨junk, ro, rc, tn, hq⟩, _⟩ := h
  exact hq.diskOk

theorem QS_init : QS {} {} := ⟨⟨_, _, _, _, QW_init⟩, rfl⟩

theorem writeEvs_sync (v : Vol) (m : Mutation) (rot : Bool) (dr : Nat) (tn : Bool) (hq : v.queue = []) :
    writeEvs false v m rot dr tn = writeEvs true v m rot 1 false := by
  obtain ⟨s, c, o, q⟩ := v
  subst hq
  rfl

theorem fsStep_sync (d : Disk) (v : Vol) (a : AStep) (hq : v.queue = []) :
    fsStep false d v a = fsStep true d v { a with drain := 1, torn := false } := by
  obtain ⟨st, dr, tn, jk⟩ := a
  cases st <;> simp only [fsStep, writeEvs_sync _ _ _ _ _ hq]

theorem fsStep_sync_queue (d : Disk) (v : Vol) (a : AStep) (hq : v.queue = []) : (fsStep false d v a).2.queue = [] := by
  cases fsStep_cases false d v a with
  | idle hf _ _ _ => rw [hf]; exact hq
  | write m rot _ _ _ _ hf _ =>
    rw [hf]
    cases rot with
    | false => exact hq
    | true => rfl
  | rotate _ _ hf _ => rw [hf]; rfl
  | flush _ hf _ => rw [hf, flushEvs_queue]; exact hq
  | compact sizes _ _ hf _ => rw [hf, compactEvs_queue]; exact hq
  | close _ _ hf _ => rw [hf]; show (flushEvs (rotateEvs v).2).2.queue = []; rw [flushEvs_queue]; rfl
  | reopen o _ _ hf =>
    rw [hf]
    cases recover d o with
    | ok p => rfl
    | error e => exact hq

theorem syncStep (d : Disk) (v : Vol) (sp : Spec) (a : AStep) (h : QS d v) (hr : Rel v.s sp) :
    Seg (fun x => DiskOk x ∧ (logical x = sp.m ∨ logical x = (specStep sp a.st).1.m)) (fun x => x = d)
      (fsStep false d v a).1 (fun x => QS x (fsStep false d v a).2) := by
  have hs := asyncStep sp.m d v { a with drain := 1, torn := false } ⟨h.1, by rw [h.serves]; exact funext hr.m⟩
  rw [← fsStep_sync d v a h.2] at hs
  refine (hs.good_mono ?_).weaken (fun _ hx => hx) ?_
  · rintro x ⟨hx, i, hi, hl⟩
    refine ⟨hx, ?_⟩
    have hl : logical x = applySpec sp.m ((v.queue ++ (stepMut v.s a.st).toList).take i) := hl
    rw [h.2] at hl hi
    rw [specStep_m v.s sp hr a.st, hl]
    -- the empty buffer plus at most one mutation of this step: none of it is durable yet, or all
    refine (FSI.take_acked_or_all (a := 0) _ (Nat.zero_le i) hi Option.length_toList_le).imp
      (fun e => by rw [e]; rfl) (fun e => ?_)
    rw [e]
    cases stepMut v.s a.st <;> rfl
  · rintro x ⟨j, hq', -⟩
    exact ⟨hq'.1, fsStep_sync_queue d v a h.2⟩

/-- C02, general form: from any operation boundary, after any number of events of any continuation -/
theorem sync_run (asteps : List AStep) : ∀ (d : Disk) (v : Vol) (sp : Spec), QS d v → Rel v.s sp → ∀ n,
    DiskOk (applyEvs d ((sessionFrom false d v asteps).flatten.take n)) ∧
    (logical (applyEvs d ((sessionFrom false d v asteps).flatten.take n)) =
        (specFold sp ((asteps.take (ackedCount (sessionFrom false d v asteps) n)).map (·.st))).m ∨
     logical (applyEvs d ((sessionFrom false d v asteps).flatten.take n)) =
        (specFold sp ((asteps.take (ackedCount (sessionFrom false d v asteps) n + 1)).map (·.st))).m) := by
  induction asteps with
  | nil =>
    intro d v sp h hr n
    simp only [sessionFrom, List.flatten_nil, List.take_nil, applyEvs_nil, ackedCount_nil, List.map_nil, specFold]
    refine ⟨h.diskOk, Or.inl ?_⟩
    rw [h.serves]; funext k; exact hr.m k
  | cons a rest ih =>
    intro d v sp h hr n
    have hseg := syncStep d v sp a h hr d rfl
    simp only [sessionFrom, List.flatten_cons, ackedCount]
    by_cases hn : (fsStep false d v a).1.length ≤ n
    · -- the step is complete: continue from the next operation boundary
      rw [if_pos hn, List.take_append, List.take_of_length_le hn, applyEvs_append]
      obtain ⟨junk, ro, rc, tn, hq⟩ := h.1
      have := ih (applyEvs d (fsStep false d v a).1) (fsStep false d v a).2 (specStep sp a.st).1
        hseg.2 (fsStep_rel false d v sp a hq hr) (n - (fsStep false d v a).1.length)
      rw [Nat.add_comm 1, Nat.add_right_comm]
      exact this
    · -- the crash falls inside the step
      rw [if_neg hn, List.take_append_of_le_length (by omega)]
      exact hseg.1 n

end SST.Proofs.FS
