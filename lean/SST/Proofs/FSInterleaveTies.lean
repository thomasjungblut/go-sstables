/-
L6-fs, interleaved: where the two invariants meet, and the ties with the sequential model.  `S` (FSInterleave.lean,
preserved in FSInterleaveStep.lean) and `G` (FSInterleaveGhost.lean) are kept by every move, hence along every
schedule (`SG_run`); `interleaved_good` is what that gives from the configuration right after `Open`.  Then the
per-thread call sequences of Model/FSInterleave.lean against those of the sequential model (`flushEvs`, `rotateEvs`,
`logEvs`, `compactEvs` of Model/FS.lean): `flushCalls` and `mergeCalls` are compared with them by theorems here, and
FSSched.lean runs the moves that make them (there also the three calls of a rotation's tail and the removal of a
compaction's inputs, `rotTail_steps`, `reflect_steps`); for the buffer flush of a rotation and the append the sequential list is written out
and the comparison with the calls of the `torn` / `append` moves is left to reading `FSI.move`.  Further: the compactor
works on the run `compactStep` selects.
-/
import SST.Proofs.FSInterleaveGhost
import SST.Proofs.FSInterleaveStep
namespace SST.Proofs.FSI
open SST SST.DBM SST.FS SST.FSI SST.Proofs.DB SST.Proofs.FS

theorem SG_run (async : Bool) (E : Key → Option Bytes) (sched : List Mv) :
    ∀ c, S c ∧ G async E c → S (FSI.run async c sched) ∧ G async E (FSI.run async c sched) :=
  run_invariant (fun h hm => ⟨S_step h.1 hm, G_step h.1 h.2 hm⟩) sched

/-- the conclusion shared by the two interleaving theorems: at every moment of every schedule the disk is as
`SG_good` says, the history is that of a prefix of the program, and `Open` succeeds on the disk -/
theorem interleaved_good (d0 : Disk) (h0 : DiskOk d0) (o0 : Opts) (d1 : Disk) (s1 : State)
    (hr0 : recover d0 o0 = .ok (d1, s1)) (prog : List Op) (async : Bool) (sched : List Mv) (o : Opts) :
    let c := FSI.run async (start d1 (openedVol s1) prog) sched
    DiskOk c.d ∧ c.acked ≤ c.hist.length ∧ c.hist.length ≤ c.acked + 1 ∧
      (∃ pre, prog = pre ++ c.prog ∧ c.hist = pre.filterMap Op.accepted) ∧
      ∃ d' s p, recover c.d o = .ok (d', s) ∧ c.mark ≤ p ∧ p ≤ c.hist.length ∧ (async = false → c.acked ≤ p) ∧
        abs s = applySpec (logical d0) (c.hist.take p) := by
  intro c
  obtain ⟨hS, hG⟩ := SG_run async (logical d0) sched _ (start_SG d0 h0 o0 d1 s1 hr0 prog async)
  obtain ⟨hok, a1, a2, p, hm, hle, hsy, _, hlog⟩ := SG_good hS hG
  obtain ⟨d', s, hr, ha⟩ := recover_serves c.d hok o
  exact ⟨hok, a1, a2, hist_is_program async sched _ prog [] rfl rfl, d', s, p, hr, hm, hle, hsy, ha.trans hlog⟩

theorem flushCalls_eq (v : Vol) (on : Nat) (ro : List Mutation) (hp : v.s.flushPending = true) (hr : v.s.r ≠ [])
    (ho : v.walOld = some on) :
    (flushEvs v).1 = flushCalls { r := v.s.r, ro := ro, on := on, g := v.s.gen + 1, stage := 0 } := by
  unfold flushEvs flushCalls
  cases hr' : v.s.r with
  | nil => exact absurd hr' hr
  | cons p l => simp [hp, ho]

/-- `rotateEvs` written out: the previous flush, the buffer flush `drainEvs` (what `torn` / `append` moves do), then the
three calls that the `close`, `create` and `header` moves make -/
theorem rotateCalls_eq (v : Vol) :
    (rotateEvs v).1 = (flushEvs v).1 ++ drainEvs (flushEvs v).2.walCur (flushEvs v).2.queue ++
      [.walClose (flushEvs v).2.walCur, .walCreate ((flushEvs v).2.walCur + 1), .walHeader ((flushEvs v).2.walCur + 1)] := rfl

/-- `logEvs` of the synchronous WAL written out: the call of a `torn` move, then the call of an `append` move -/
theorem logCalls_eq (v : Vol) (m : Mutation) (dr : Nat) (tn : Bool) :
    (logEvs false v m dr tn).1 = [.walTorn v.walCur, .walAppend v.walCur m] := rfl

/-- for a cycle of the shape `compactStep_spec2` gives (`htab`, `he`): `compactEvs` is `mergeCalls` (the merge phase's
`kstep` moves), then for every input the chain `rmAll` (whose calls the reflecting `kstep` moves make one at a time),
then the rename of the last `kstep`; `hd` makes the directory name `compactEvs` picks, `freshId d`, the machine's `kId` -/
theorem compactCalls_eq (d : Disk) (hd : d.comps = []) (v : Vol) (sizes : List Nat) (jk : List (Nat × Layer))
    (hg : (v.s.tables.map (·.gen)).Pairwise (· < ·)) (pre post sel' : List Tbl) (t0 : Tbl)
    (htab : v.s.tables = pre ++ (t0 :: sel') ++ post)
    (he : compactStep v.s sizes = ({ v.s with tables :=
        pre ++ [{ gen := t0.gen, cells := mergeRun (t0 :: sel') (pre.length == 0) }] ++ post },
        (t0 :: sel').map (·.gen))) :
    (compactEvs d v sizes jk).1 =
      mergeCalls { inputs := (t0 :: sel').map (·.gen), replacement := t0.gen } (mergeRun (t0 :: sel') (pre.length == 0)) ++
        ((t0 :: sel').map (·.gen)).flatMap (fun g => rmAll g (lookupJ jk g)) ++ [.compRename kId t0.gen] := by
  have hfresh : freshId d = 1 := by simp [freshId, hd]
  rw [htab] at hg
  have hfind : (pre ++ [({ gen := t0.gen, cells := mergeRun (t0 :: sel') (pre.length == 0) } : Tbl)] ++ post).find?
      (fun x => x.gen == t0.gen) = some { gen := t0.gen, cells := mergeRun (t0 :: sel') (pre.length == 0) } := by
    rw [List.append_assoc, List.find?_append]
    have : pre.find? (fun x => x.gen == t0.gen) = none := by
      rw [List.find?_eq_none]
      intro t ht
      have := (gens_split hg).1 t ht t0 List.mem_cons_self
      simp; omega
    rw [this]
    simp
  unfold compactEvs mergeCalls
  rw [he]
  simp only [List.map_cons, hfresh, kId]
  rw [show (({ v.s with tables := pre ++ [{ gen := t0.gen, cells := mergeRun (t0 :: sel') (pre.length == 0) }] ++ post } : State).tables.find?
    (fun x => x.gen == t0.gen)) = some { gen := t0.gen, cells := mergeRun (t0 :: sel') (pre.length == 0) } from hfind]

/-- `compactStep` selects a gap-free run `t0 :: sel'` of the reader list (`compactStep_spec2`, Proofs/DBCompact.lean);
for such a run `Mv.kstart` finds where it starts, its guard holds, and `kIns` is the run -/
theorem kstart_run (tables : List Tbl) (hg : (tables.map (·.gen)).Pairwise (· < ·)) (pre post sel' : List Tbl) (t0 : Tbl)
    (htab : tables = pre ++ (t0 :: sel') ++ post) :
    (tables.takeWhile (·.gen != t0.gen)).length = pre.length ∧
      pre.length + ((t0 :: sel').map (·.gen)).length ≤ tables.length ∧
      kIns tables pre.length ((t0 :: sel').map (·.gen)).length = t0 :: sel' := by
  rw [htab] at hg
  have hpre : ∀ t ∈ pre, (t.gen != t0.gen) = true := by
    intro t ht
    have := (gens_split hg).1 t ht t0 List.mem_cons_self
    simp; omega
  have htw : (pre ++ (t0 :: sel') ++ post).takeWhile (·.gen != t0.gen) = pre := by
    rw [List.append_assoc, List.takeWhile_append_of_pos hpre]
    simp
  refine ⟨by rw [htab, htw], by rw [htab]; simp, ?_⟩
  rw [htab]
  unfold kIns
  rw [List.append_assoc, List.drop_left, List.length_map, List.take_left]

end SST.Proofs.FSI
