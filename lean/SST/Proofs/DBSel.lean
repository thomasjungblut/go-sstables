/-
L6, compaction for an arbitrary per-table selection (`DBM.compactStepSel`, SST/Spec/DBSel.lean; the shape of a
cycle is in DBCompact): reads preserved in EVERY state, what the merged table holds, and the selection quirk of
all-zero (version-0, metadata file missing) table metadata in `Stack.candidateMd`.
-/
import SST.Spec.DBSel
import SST.Proofs.DBInv
import SST.Model.Stack
namespace SST.Proofs.DB
open SST SST.DBM

theorem raw_le_floodFill (raw : List Bool) (i : Nat) (h : raw.getD i false = true) :
    (floodFill raw).getD i false = true :=
  (floodFill_getD raw i).2 ⟨i, i, Nat.le_refl _, Nat.le_refl _, h, h⟩

/-- in EVERY state (reachable or not), for every selection and every key: a cycle changes neither the result of
`Get` nor the abstract map -/
theorem compactSel_preserves_reads (s : State) (raw : List Bool) (k : Key) :
    get (compactStepSel s raw).1 k = get s k ∧ abs (compactStepSel s raw).1 k = abs s k := by
  exact ⟨(compactStepSel_retabled s raw).get k, (compactStepSel_retabled s raw).abs k⟩

/-- for a table `t` of the merged run and a key bound in `t` and in no newer table of the run, the merged table
binds the key to `t`'s value: as it is when it is a non-empty value; a tombstone or an empty value is dropped
(`drop = true`: the run starts at the oldest table) or carried as an EMPTY value (`drop = false`) -/
theorem mergeRun_newest (older : List Tbl) (t : Tbl) (newer : List Tbl) (drop : Bool) (k : Key) (v : GoBytes)
    (ht : Layer.get t.cells k = some v) (hn : ∀ u ∈ newer, Layer.get u.cells k = none) :
    Layer.get (mergeRun (older ++ t :: newer) drop) k = mergeVal drop (some v) := by
  rw [mergeRun_get, tablesGet_newest older t newer k v ht hn]

theorem mergeVal_value (drop : Bool) (v : Bytes) (hv : v ≠ []) :
    mergeVal drop (some (some v)) = some (some v) := by
  cases v with
  | nil => exact absurd rfl hv
  | cons _ _ => rfl

/-- … in particular a non-empty value always reaches the merged table, whatever `drop` is -/
theorem mergeRun_newest_value (older : List Tbl) (t : Tbl) (newer : List Tbl) (drop : Bool) (k : Key) (v : Bytes)
    (hv : v ≠ []) (ht : Layer.get t.cells k = some (some v))
    (hn : ∀ u ∈ newer, Layer.get u.cells k = none) :
    Layer.get (mergeRun (older ++ t :: newer) drop) k = some (some v) := by
  rw [mergeRun_newest older t newer drop k (some v) ht hn, mergeVal_value drop v hv]

/-- when a cycle does something, the table that takes the place of the selected run `t0 :: sel'` holds, for every
key, the newest binding inside the run (`mergeVal` says what becomes of tombstones and empty values); and for any
table `t` of the run and a key bound in `t` and in no newer table of the run that is `t`'s value -/
theorem compactSel_records_reach_merged (s : State) (raw : List Bool) :
    compactStepSel s raw = (s, []) ∨
    ∃ pre t0 sel' post merged, s.tables = pre ++ (t0 :: sel') ++ post ∧
      (compactStepSel s raw).1 = { s with tables := pre ++ [merged] ++ post } ∧
      (compactStepSel s raw).2 = (t0 :: sel').map (·.gen) ∧
      merged.gen = t0.gen ∧
      (∀ k, Layer.get merged.cells k = mergeVal (pre.length == 0) (tablesGet (t0 :: sel') k)) ∧
      (∀ older t newer, t0 :: sel' = older ++ t :: newer → ∀ k v, Layer.get t.cells k = some v →
        (∀ u ∈ newer, Layer.get u.cells k = none) →
        Layer.get merged.cells k = mergeVal (pre.length == 0) (some v)) ∧
      (∀ older t newer, t0 :: sel' = older ++ t :: newer → ∀ k v, v ≠ [] →
        Layer.get t.cells k = some (some v) → (∀ u ∈ newer, Layer.get u.cells k = none) →
        Layer.get merged.cells k = some (some v)) := by
  rcases compactStepSel_full s raw with (h | ⟨pre, t0, sel', post, htab, _, _, h⟩)
  · left; exact h
  · right
    refine ⟨pre, t0, sel', post, { gen := t0.gen, cells := mergeRun (t0 :: sel') (pre.length == 0) }, htab,
      by rw [h], by rw [h], rfl, ?_, ?_, ?_⟩
    · intro k; exact mergeRun_get _ _ k
    · intro older t newer e k v ht hn
      show Layer.get (mergeRun (t0 :: sel') (pre.length == 0)) k = _
      rw [e]; exact mergeRun_newest older t newer _ k v ht hn
    · intro older t newer e k v hv ht hn
      show Layer.get (mergeRun (t0 :: sel') (pre.length == 0)) k = _
      rw [e]; exact mergeRun_newest_value older t newer _ k v hv ht hn

/-- when table 0 of the database is flagged in `raw` (e.g. the legacy table, selected by its all-zero
metadata): if the cycle does anything, table 0 is the first of the merged run, its number is kept and every
non-empty value of it that the rest of the run does not rebind is bound in the table that replaces the run -/
theorem compactSel_oldest_flagged (s : State) (raw : List Bool) (h0 : raw.getD 0 false = true) :
    compactStepSel s raw = (s, []) ∨
    ∃ t0 sel' post merged, s.tables = (t0 :: sel') ++ post ∧
      (compactStepSel s raw).1 = { s with tables := merged :: post } ∧
      (compactStepSel s raw).2 = (t0 :: sel').map (·.gen) ∧
      merged.gen = t0.gen ∧
      (∀ k, Layer.get merged.cells k = mergeVal true (tablesGet (t0 :: sel') k)) ∧
      (∀ k v, v ≠ [] → Layer.get t0.cells k = some (some v) → (∀ u ∈ sel', Layer.get u.cells k = none) →
        Layer.get merged.cells k = some (some v)) := by
  rcases compactStepSel_full s raw with (h | ⟨pre, t0, sel', post, htab, hfl, _, h⟩)
  · left; exact h
  · right
    have hpre : pre = [] := by
      have hlen : 0 < s.tables.length := by
        rw [htab, List.length_append, List.length_append, List.length_cons]
        exact Nat.lt_of_lt_of_le (Nat.succ_pos _) (Nat.le_trans (Nat.le_add_left _ _) (Nat.le_add_right _ _))
      have := (hfl 0 hlen).1 (raw_le_floodFill raw 0 h0)
      exact List.eq_nil_of_length_eq_zero (Nat.le_zero.1 this.1)
    subst hpre
    refine ⟨t0, sel', post, { gen := t0.gen, cells := mergeRun (t0 :: sel') true }, by simpa using htab,
      by rw [h]; rfl, by rw [h], rfl, ?_, ?_⟩
    · intro k; exact mergeRun_get _ _ k
    · intro k v hv ht hn
      exact mergeRun_newest_value [] t0 sel' true k v hv ht hn

/-! ## the metadata quirk: all-zero (version-0, no metadata file) metadata in `Stack.candidateMd` -/

/-- a table whose metadata report 0 records and 0 bytes is a candidate exactly through the size limit -/
theorem v0_selected_by_size_never_by_ratio (o : DBM.Opts) (md : Meta) (h0 : md.totalBytes = 0)
    (hn : md.numRecords = 0) : Stack.candidateMd o md = decide (0 < o.maxSize) := by
  unfold Stack.candidateMd
  rw [h0, hn]
  simp

theorem v0_size_candidate_iff (o : DBM.Opts) (md : Meta) (h0 : md.totalBytes = 0) (hn : md.numRecords = 0) :
    Stack.candidateMd o md = true ↔ 0 < o.maxSize := by
  rw [v0_selected_by_size_never_by_ratio o md h0 hn, decide_eq_true_iff]

theorem v0_default_meta (o : DBM.Opts) : Stack.candidateMd o ({} : Meta) = decide (0 < o.maxSize) :=
  v0_selected_by_size_never_by_ratio o {} rfl rfl

/-- version-0 metadata file present: it has counts but no sizes -/
theorem v0_meta_with_counts (o : DBM.Opts) (md : Meta) (h0 : md.totalBytes = 0) (hz : md.nullValues = 0)
    (hn : md.numRecords > 0) :
    Stack.candidateMd o md = (decide (0 < o.maxSize) || decide (o.ratioNum = 0)) := by
  unfold Stack.candidateMd
  rw [h0, hz]
  have h1 : decide (md.numRecords > 0) = true := decide_eq_true hn
  have h2 : decide (0 * o.ratioDen ≥ o.ratioNum * md.numRecords) = decide (o.ratioNum = 0) := by
    apply decide_eq_decide.2
    rw [Nat.zero_mul]
    constructor
    · intro h
      have h3 : o.ratioNum * md.numRecords = 0 := Nat.le_zero.1 h
      rcases Nat.mul_eq_zero.1 h3 with (h4 | h4)
      · exact h4
      · omega
    · intro h; rw [h, Nat.zero_mul]; exact Nat.le_refl 0
  rw [h1, h2, Bool.true_and]

/-- selection on all-zero metadata is what the layer model computes for an EMPTY table of size 0 -/
theorem candidate_zero_meta_matches_layer_model (o : DBM.Opts) (g : Nat) :
    Stack.candidateMd o {} = DBM.candidate o { gen := g, cells := [] } 0 := by
  rw [v0_default_meta]
  unfold DBM.candidate
  simp [numRecords]

end SST.Proofs.DB
