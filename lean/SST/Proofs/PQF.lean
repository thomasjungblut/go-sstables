/-
The heap over inputs that can fail (SST/Model/PQF.lean): the (available items, how it ends) view of a failing
iterator, `init`, and `source`, everything the heap ever shows of its inputs to the consumers of sstable_merger.go.
Without a reachable fault that is the complete merge of SST/Proofs/PQ.lean (`source_clean`); in general it is a
sequence of `Next` results (`Yields`, with `yields_spec`) that reaches Done only without one (`source_ok`).
-/
import SST.Model.PQF
import SST.Proofs.PQ
namespace SST.Proofs.FH
open SST PQ SST.Proofs.PQB

variable {K V : Type}

theorem nextAt_avail (i : FInput K V) (n : Nat) (h : n < i.avail.length) :
    i.nextAt n = .item i.avail[n].1 i.avail[n].2 := by
  unfold FInput.nextAt
  cases hf : i.failAt with
  | none =>
    have ha : i.avail = i.items := by simp [FInput.avail, hf]
    have hn : n < i.items.length := by rw [ha] at h; exact h
    simp [ha, List.getElem?_eq_getElem hn]
  | some p =>
    have ha : i.avail = i.items.take p := by simp [FInput.avail, hf]
    have hl : n < (i.items.take p).length := by rw [ha] at h; exact h
    have hn : n < p ∧ n < i.items.length := Nat.lt_min.mp (List.length_take ▸ hl)
    have hne : ¬ (p = n) := Nat.ne_of_gt hn.1
    simp [ha, hne, List.getElem?_eq_getElem hn.2, List.getElem_take]

theorem nextAt_end (i : FInput K V) :
    i.nextAt i.avail.length = (match i.endErr with | some e => .err e | none => .done) := by
  unfold FInput.nextAt FInput.endErr
  cases hf : i.failAt with
  | none => simp [FInput.avail, hf]
  | some p =>
    simp only [FInput.avail, hf, List.length_take]
    by_cases hp : p ≤ i.items.length
    · simp [Nat.min_eq_left hp, hp]
    · have h2 : ¬ (p = i.items.length) := fun e => hp (e ▸ Nat.le_refl _)
      simp [Nat.min_eq_right (Nat.le_of_not_le hp), h2, hp]

theorem avail_of_clean {i : FInput K V} (h : i.endErr = none) : i.avail = i.items := by
  unfold FInput.endErr at h
  unfold FInput.avail
  cases hf : i.failAt with
  | none => rfl
  | some p =>
    rw [hf] at h
    simp only [] at h
    split at h
    · cases h
    · simp only []
      exact List.take_of_length_le (Nat.le_of_not_le ‹_›)

variable {cmp : K → K → Ordering} {ee : Nat → Option Err}

/-- `init` fails at the first input that is exhausted from the start and ends in an error; otherwise it is the
infallible `init` over the available items -/
theorem initAux_eq : ∀ (ins : List (FInput K V)) (h : Heap K V) (n : Nat),
    PQF.initAux cmp h n ins =
      match ins.findSome? (fun i => if i.avail.isEmpty then i.endErr else none) with
      | some e => .error e
      | none => .ok (PQ.initAux cmp h n (ins.map FInput.avail)) := by
  intro ins
  induction ins with
  | nil => intro h n; rfl
  | cons inp ins ih =>
    intro h n
    unfold PQF.initAux
    cases ha : inp.avail with
    | nil =>
      cases he : inp.endErr with
      | some e => simp [ha, he]
      | none => simp [ha, he, PQ.initAux, ih]
    | cons kv rest =>
      obtain ⟨k, v⟩ := kv
      simp [ha, PQ.initAux, ih]

theorem initAux_ok {ins : List (FInput K V)} {h h' : Heap K V} {n : Nat}
    (hi : PQF.initAux cmp h n ins = .ok h') :
    h' = PQ.initAux cmp h n (ins.map FInput.avail) ∧ ∀ i ∈ ins, i.avail = [] → i.endErr = none := by
  rw [initAux_eq] at hi
  split at hi
  · cases hi
  · rename_i hf
    refine ⟨(Except.ok.inj hi).symm, fun i hm hav => ?_⟩
    simpa [hav] using List.findSome?_eq_none_iff.mp hf i hm

theorem initAux_err {ins : List (FInput K V)} {h : Heap K V} {n : Nat} {e : Err}
    (hi : PQF.initAux cmp h n ins = .error e) : ∃ i ∈ ins, i.endErr = some e := by
  rw [initAux_eq] at hi
  split at hi
  · rename_i hf
    cases hi
    obtain ⟨i, hm, hie⟩ := List.exists_of_findSome?_eq_some hf
    split at hie
    · exact ⟨i, hm, hie⟩
    · cases hie
  · cases hi

theorem initAux_clean {ins : List (FInput K V)} (hc : ∀ i ∈ ins, i.endErr = none) (h : Heap K V) (n : Nat) :
    PQF.initAux cmp h n ins = .ok (PQ.initAux cmp h n (ins.map FInput.items)) := by
  rw [initAux_eq, List.findSome?_eq_none_iff.mpr fun i hi => by simp [hc i hi],
    List.map_congr_left fun i hi => avail_of_clean (hc i hi)]

theorem pendingCount_init (hl : LawfulCmp cmp) (ls : List (List (K × V))) :
    PQF.pendingCount (PQ.init cmp ls) = PQ.total ls := by
  rw [pendingCount_eq, (pending_init hl ls).2]

theorem endErrOf_clean {ins : List (FInput K V)} (hc : ∀ i ∈ ins, i.endErr = none) (c : Nat) :
    PQF.endErrOf ins c = none := by
  unfold PQF.endErrOf
  cases h : ins[c]? with
  | none => rfl
  | some i => exact hc i (List.mem_of_getElem? h)

theorem init_err (ins : List (FInput K V)) (e : Err) (hi : PQF.init cmp ins = .error e) :
    ∃ i ∈ ins, i.endErr = some e := initAux_err hi

/-- `run` (the executable form) coincides with `PQ.drain` when nothing fails -/
theorem run_eq_drain (hl : LawfulCmp cmp) (ins : List (FInput K V)) (hc : ∀ i ∈ ins, i.endErr = none) :
    PQF.run cmp (PQF.endErrOf ins) (PQ.total (ins.map FInput.items) + 1) (PQ.init cmp (ins.map FInput.items))
      = (PQ.drain cmp (ins.map FInput.items), .done) :=
  run_clean (endErrOf_clean hc) _ _ (Nat.lt_succ_of_le (Nat.le_of_eq (pending_init hl _).2))

/-- what the heap delivers for these inputs: `init`'s error, or the items `Next` returns and how they end.  The
consumers are functions of this value. -/
def source (cmp : K → K → Ordering) (ins : List (FInput K V)) : Except Err (List (K × V × Nat) × PQF.Term) :=
  match PQF.init cmp ins with
  | .error e => .error e
  | .ok h => .ok (PQF.run cmp (PQF.endErrOf ins) (PQF.pendingCount h + 1) h)

theorem source_error {ins : List (FInput K V)} {e : Err} (h : source cmp ins = .error e) :
    PQF.init cmp ins = .error e := by
  unfold source at h
  split at h
  · rename_i hi; cases h; exact hi
  · cases h

/-- no reachable fault: `init` gives the infallible heap, and what is delivered is the complete merge -/
theorem source_clean (hl : LawfulCmp cmp) {ins : List (FInput K V)} (hc : ∀ i ∈ ins, i.endErr = none) :
    PQF.init cmp ins = .ok (PQ.init cmp (ins.map FInput.items)) ∧
    source cmp ins = .ok (PQ.drain cmp (ins.map FInput.items), .done) := by
  have hi : PQF.init cmp ins = .ok (PQ.init cmp (ins.map FInput.items)) := initAux_clean hc [] 0
  refine ⟨hi, ?_⟩
  unfold source
  rw [hi]
  simp only []
  rw [pendingCount_init hl, run_eq_drain hl ins hc]

/-- in general: a sequence of `Next` results, never longer than `pendingCount`, that ends in Done only without
reachable faults — and then `source_clean` says what was delivered -/
theorem source_ok (hl : LawfulCmp cmp) {ins : List (FInput K V)} {xs : List (K × V × Nat)} {t : PQF.Term}
    (h : source cmp ins = .ok (xs, t)) :
    ∃ hp, PQF.init cmp ins = .ok hp ∧ Yields cmp (PQF.endErrOf ins) hp xs t ∧
      xs.length ≤ PQF.pendingCount hp ∧
      (t = .done → (∀ i ∈ ins, i.endErr = none) ∧ xs = PQ.drain cmp (ins.map FInput.items)) := by
  unfold source at h
  split at h
  · cases h
  rename_i hp hi
  obtain ⟨hh, hempty⟩ := initAux_ok hi
  have hh' : hp = PQ.init cmp (ins.map FInput.avail) := hh
  have hperm := (init_spec hl (ins.map FInput.avail)).2
  rw [← hh'] at hperm
  have hy := run_yields (cmp := cmp) (ee := PQF.endErrOf ins) (PQF.pendingCount hp + 1) hp
    (by rw [pendingCount_eq]; exact Nat.lt_succ_self _)
  rw [Except.ok.inj h] at hy
  refine ⟨hp, hi, hy, yields_length hy, fun ht => ?_⟩
  -- every input is on the heap, or was exhausted (and ended in Done) at `init`
  have hall : ∀ i ∈ ins, i.endErr = none := by
    intro i hmem
    cases hav : i.avail with
    | nil => exact hempty i hmem hav
    | cons kv rest =>
      obtain ⟨j, hj⟩ := List.getElem?_of_mem hmem
      have he : ⟨kv.1, kv.2, j, rest⟩ ∈ (ins.map FInput.avail).zipIdx.filterMap elemOf :=
        List.mem_filterMap.mpr ⟨(kv :: rest, j),
          List.mk_mem_zipIdx_iff_getElem?.mpr (by rw [List.getElem?_map, hj, Option.map_some, hav]), rfl⟩
      have := (yields_spec hy).2.2 ht _ (hperm.mem_iff.mpr he)
      simpa [PQF.endErrOf, hj] using this
  have := (source_clean hl hall).2
  unfold source at this
  rw [hi] at this
  exact ⟨hall, (Prod.mk.inj (Except.ok.inj (h.symm.trans this))).1⟩

end SST.Proofs.FH
