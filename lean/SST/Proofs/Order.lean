/-
The regenerated call table against the model.  The representative path of an accepted synchronous `PutBytes` is
executed once, for the order ties of C02, C13 and C17, which all rest on it; then facts about the representative
execution `OrderSpec.trace` that hold for every table and every path.
-/
import SST.Spec.Order
namespace SST.OrderSpec

open SST.FS SST.DBM in
/-- MODEL = SOURCE for `PutBytes` with the synchronous WAL: log (buffered write, flush, fsync), memstore, then the
rotation (close the file, create the next one, write its header) -/
theorem put_path_matches_model :
    srcKinds .table cfgPut "DB.PutBytes" = some (modelKinds (fsStep false {} vOpen { st := .putB (some [1]) (some [2]) true }).1) := by
  decide +kernel

open SST.Generated.Order

theorem head_of_firstIdx_zero {l : Label} {xs : List Item} (h : firstIdx l xs = some 0) :
    xs.head? = some (.act l) := by
  cases xs with
  | nil => cases h
  | cons x ys =>
    cases hx : isAct l x with
    | false => simp [firstIdx, List.findIdx_cons, hx] at h
    | true =>
      unfold isAct at hx
      split at hx
      · rw [beq_iff_eq.mp hx]; rfl
      · cases hx

theorem run_func_head {cfg : Cfg} {n : Nat} {fn : String} {l : Label} {xs : List Item} {r : Res}
    (hl : cfg.inline l = none) (h : run cfg (n + 2) (.func fn (.act l :: xs)) = some r) :
    r.tr.head? = some (.act l) := by
  simp only [run, hl, Option.bind_eq_some_iff, Option.map_eq_some_iff] at h
  obtain ⟨_, ⟨_, _, rfl⟩, _, _, rfl⟩ := h
  rfl

/-- a listed function whose first item is an action that stands for no listed callee: every path begins with it -/
theorem trace_head {cfg : Cfg} {fn : String} {l : Label} {t : List Item}
    (hx : firstIdx l (itemsOf fn) = some 0) (hl : cfg.inline l = none) (h : trace cfg fn = some t) :
    (acts t).head? = some l := by
  unfold trace at h
  split at h
  · cases hi : itemsOf fn with
    | nil => rw [hi] at hx; cases hx
    | cons x xs =>
      have hx' := head_of_firstIdx_zero hx
      rw [hi] at h hx'
      cases hx'
      rw [Option.map_eq_some_iff] at h
      obtain ⟨r, hr, rfl⟩ := h
      have hh := run_func_head (n := 3998) hl hr    -- `trace` runs with fuel 4000 = 3998 + 2
      cases hrt : r.tr with
      | nil => rw [hrt] at hh; cases hh
      | cons y ys => rw [hrt] at hh; cases hh; rfl
  · cases h

end SST.OrderSpec
