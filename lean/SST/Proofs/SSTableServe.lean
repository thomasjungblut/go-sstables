/-
What the two table formats and all loaders share (C03): a value read is the raw read handed through the checksum
decision `gate`; an index answers like the sorted map of its entries (`IdxRefines`, per loader from
SST/Proofs/SSTableIndex.lean; an in-memory loader is "load the entry list, then build": `buildIndex`, `build_refines`);
and a reader whose values sit behind those entries turns such answers into the map's: `get_trips`, `from_trips`,
`between_trips` and `bloom_contains` are told without the reader and serve the version-0 reader as well; section
`Calls` and `reads_as_map_of_trips` apply them to the current-format `Reader` (`reads_as_map_from_of_trips`: with the
index state threaded, for the disk loader).  Nothing here knows how a table is laid out in its files.
-/
import SST.Proofs.SSTableIndex
import SST.Proofs.SSTableDiskSpec
namespace SST.Proofs.Sst
open SST Generated SST.Proofs

/-- an entry of a table seen from both sides: key, value, and the index value that points at the value -/
abbrev Trip := Bytes × GoBytes × IndexVal

def Trip.kv (t : Trip) : KV := (t.1, t.2.1)
/-- the index entry as a loader keeps it -/
def Trip.ie (t : Trip) : IEntry := (normKey t.1, t.2.2)
/-- the pair as a scan delivers it -/
def Trip.out (t : Trip) : GoBytes × GoBytes := (normKey t.1, t.2.1)

theorem normKey_getD (k : Bytes) : (normKey k).getD [] = k := by
  unfold normKey
  split
  · rename_i h; simp [List.eq_nil_of_length_eq_zero h]
  · rfl

theorem keyCmp_norm (a b : Bytes) : keyCmp (normKey a) (normKey b) = bytesCmp a b := by
  simp [keyCmp, normKey_getD]

theorem keyCmp_some_norm (a b : Bytes) : keyCmp (some a) (normKey b) = bytesCmp a b := by
  simp [keyCmp, normKey_getD]

theorem keyCmp_norm_some (a b : Bytes) : keyCmp (normKey a) (some b) = bytesCmp a b := by
  simp [keyCmp, normKey_getD]

theorem strictAsc_ie {T : List Trip} (hs : StrictAsc bytesCmp (T.map Trip.kv)) : StrictAsc keyCmp (T.map Trip.ie) := by
  unfold StrictAsc at *
  rw [List.pairwise_map] at hs ⊢
  exact hs.imp (fun {a b} h => by simpa [Trip.ie, Trip.kv, keyCmp_norm] using h)

theorem keys_ie (T : List Trip) : (T.map Trip.ie).map (fun e => e.1.getD []) = (T.map Trip.kv).map (·.1) := by
  rw [List.map_map, List.map_map]
  exact List.map_congr_left fun t _ => normKey_getD t.1

/-- what a read does with the value `v` it found for an index entry with checksum `sum`: the check is skipped,
passes, is bypassed (stored checksum 0, the "legacy" value), or fails -/
def gate (skip : Bool) (sum : Nat) (v : GoBytes) : Except Err GoBytes :=
  if skip then .ok v else if valueSum v ≠ sum then (if sum = 0 then .ok v else .error .checksum) else .ok v

/-- `ReadNextAt` as `getValueAtOffset` takes it: the bare `io.EOF` at the end of the file is the nil value -/
def rawAt (dc : Compression) (data : Bytes) (off : Nat) : Except Err GoBytes :=
  if off = data.length then .ok none else readAt dc data off

theorem getValueAtOffset_eq (dc : Compression) (data : Bytes) (iv : IndexVal) (skip : Bool) :
    getValueAtOffset dc data iv skip = (rawAt dc data iv.off).bind (gate skip iv.sum) := by
  unfold getValueAtOffset rawAt
  generalize (if iv.off = data.length then (Except.ok none : Except Err GoBytes) else readAt dc data iv.off) = r
  cases r <;> rfl

theorem gate_ok_iff {skip : Bool} {sum : Nat} {v v' : GoBytes} :
    gate skip sum v = .ok v' ↔ v' = v ∧ (skip = true ∨ valueSum v = sum ∨ sum = 0) := by
  unfold gate
  cases skip
  · by_cases h1 : valueSum v = sum
    · simp [h1, eq_comm]
    · by_cases h2 : sum = 0 <;> simp [h1, h2, eq_comm]
  · simp [eq_comm]

theorem gate_self (skip : Bool) (v : GoBytes) : gate skip (valueSum v) v = .ok v :=
  gate_ok_iff.2 ⟨rfl, .inr (.inl rfl)⟩

theorem gate_zero (skip : Bool) (v : GoBytes) : gate skip 0 v = .ok v := gate_ok_iff.2 ⟨rfl, .inr (.inr rfl)⟩

theorem gate_bad {sum : Nat} {v : GoBytes} (h1 : valueSum v ≠ sum) (h2 : sum ≠ 0) :
    gate false sum v = .error .checksum := by
  simp [gate, h1, h2]

theorem scanWith_good (dc : Compression) (data : Bytes) (skip : Bool) (ts : List Trip)
    (h : ∀ t ∈ ts, getValueAtOffset dc data t.2.2 skip = .ok t.2.1) :
    scanWith dc data skip (ts.map Trip.ie) .done = (ts.map Trip.out, .done) := by
  induction ts with
  | nil => rfl
  | cons t ts ih =>
    have h1 := h t (by simp)
    have h2 := ih (fun x hx => h x (by simp [hx]))
    simp only [List.map_cons, scanWith, Trip.ie, h1]
    rw [h2]
    rfl

/-- the loaded index answers like the sorted map of its entries (`P` restricts the point lookups: the map
loader only promises them for probes that zero padding keeps apart) -/
structure IdxRefines (P : Bytes → Prop) (idx : Index) (E : List IEntry) : Prop where
  get : ∀ k, P k → idx.get k = (idx, some (getRes (specGet keyCmp E (some k))))
  contains : ∀ k, P k → idx.contains k = (idx, some (.ok (specGet keyCmp E (some k)).isSome))
  all : idx.all = (E, .done)
  from_ : ∀ k, idx.from k = (idx, .ok (specFrom keyCmp E (some k), .done))
  between : ∀ lo hi, idx.between lo hi = (idx, betweenRes (specBetween keyCmp E (some lo) (some hi)))

/-- `IdxRefines` for an index with state (the disk loader's offset cache): in every reachable state the index
answers like the sorted map of its entries and the state stays reachable -/
structure IdxRefinesFrom (idx0 : Index) (E : List IEntry) : Prop where
  init : IndexState idx0 idx0
  get : ∀ idx, IndexState idx0 idx → ∀ k,
    ∃ idx', idx.get k = (idx', some (getRes (specGet keyCmp E (some k)))) ∧ IndexState idx0 idx'
  contains : ∀ idx, IndexState idx0 idx → ∀ k,
    ∃ idx', idx.contains k = (idx', some (.ok (specGet keyCmp E (some k)).isSome)) ∧ IndexState idx0 idx'
  all : ∀ idx, IndexState idx0 idx → idx.all = (E, .done)
  from_ : ∀ idx, IndexState idx0 idx → ∀ k,
    ∃ idx', idx.from k = (idx', .ok (specFrom keyCmp E (some k), .done)) ∧ IndexState idx0 idx'
  between : ∀ idx, IndexState idx0 idx → ∀ lo hi,
    ∃ idx', idx.between lo hi = (idx', betweenRes (specBetween keyCmp E (some lo) (some hi))) ∧
      IndexState idx0 idx'

theorem IdxRefines.slice {E : List IEntry} (hs : StrictAsc keyCmp E) :
    IdxRefines (fun _ => True) (.slice E) E := by
  obtain ⟨h1, h2, h3, h4, h5⟩ := slice_refines E hs
  exact ⟨fun k _ => congrArg (fun x => (Index.slice E, some x)) (h1 k),
    fun k _ => congrArg (fun x => (Index.slice E, some (Except.ok x))) (h2 k), h3,
    fun k => congrArg (fun x => (Index.slice E, Except.ok x)) (h4 k),
    fun lo hi => congrArg (fun x => (Index.slice E, x)) (h5 lo hi)⟩

theorem IdxRefines.skip {E : List IEntry} (hs : StrictAsc keyCmp E) (heights : List Nat)
    (hh : ∀ h ∈ heights, 1 ≤ h) :
    ∃ sl, skipLoad E heights = .ok sl ∧ IdxRefines (fun _ => True) (.skip sl) E := by
  obtain ⟨sl, h0, h1, h2, h3, h4, h5⟩ := skip_refines E hs heights hh
  exact ⟨sl, h0, fun k _ => congrArg (fun x => (Index.skip sl, some x)) (h1 k),
    fun k _ => congrArg (fun x => (Index.skip sl, some (Except.ok x))) (h2 k), h3,
    fun k => congrArg (fun x => (Index.skip sl, Except.ok x)) (h4 k),
    fun lo hi => congrArg (fun x => (Index.skip sl, x)) (h5 lo hi)⟩

/-- the map loader: its iterators are the slice loader's, its point lookups go through the padded keys -/
theorem IdxRefines.map {E : List IEntry} (hs : StrictAsc keyCmp E) (n : Nat) :
    IdxRefines (fun k => PadInjective n (E.map fun e => e.1.getD []) k) (.map n E) E := by
  obtain ⟨_, _, h3, h4, h5⟩ := slice_refines E hs
  exact ⟨fun k hk => congrArg (fun x => (Index.map n E, x)) (map_refines n E hs k hk).1,
    fun k hk => congrArg (fun x => (Index.map n E, Option.map Except.ok x)) (map_refines n E hs k hk).2, h3,
    fun k => congrArg (fun x => (Index.map n E, Except.ok x)) (h4 k),
    fun lo hi => congrArg (fun x => (Index.map n E, x)) (h5 lo hi)⟩

/-- what `IndexLoader.Load` of an in-memory loader makes of the entries read from the index file: the entry list is
a matter of the file format (`loadEntries`, `V0.loadEntriesL`), the index built from it a matter of the loader (the
disk loader reads no entry list) -/
def buildIndex : LoaderKind → List IEntry → Except Err Index
  | .slice, es => .ok (.slice es)
  | .skip hs, es => (skipLoad es hs).map Index.skip
  | .map n, es => if mapLoadOk n es then .ok (.map n es) else .error .other
  | .disk, _ => .error .other

/-- what a loader asks of the keys (the skip list: of the node heights) -/
def kindFits : LoaderKind → List Bytes → Prop
  | .slice, _ => True
  | .skip hs, _ => ∀ h ∈ hs, 1 ≤ h
  | .map n, keys => ∀ k ∈ keys, k.length ≤ n
  | .disk, _ => False

/-- the probes a loader promises point lookups for -/
def kindProbes : LoaderKind → List Bytes → Bytes → Prop
  | .map n, keys => PadInjective n keys
  | _, _ => fun _ => True

theorem loadIndex_of_build {comps : Nat → Compression} {k : LoaderKind} {f : Bytes} {E : List IEntry} {idx : Index}
    (h : loadEntries comps f = .ok E) (hb : buildIndex k E = .ok idx) : loadIndex comps k f = .ok idx := by
  cases k with
  | slice | skip _ | map _ => simp only [loadIndex, h]; exact hb
  | disk => cases hb

/-- every in-memory loader, on a strictly ascending entry list it accepts, answers like the sorted map of the list -/
theorem build_refines {E : List IEntry} (hs : StrictAsc keyCmp E) :
    ∀ k : LoaderKind, kindFits k (E.map fun e => e.1.getD []) →
      ∃ idx, buildIndex k E = .ok idx ∧ IdxRefines (kindProbes k (E.map fun e => e.1.getD [])) idx E
  | .slice, _ => ⟨_, rfl, .slice hs⟩
  | .skip heights, hh => by
    obtain ⟨sl, h0, href⟩ := IdxRefines.skip hs heights hh
    exact ⟨_, by rw [buildIndex, h0]; rfl, href⟩
  | .map n, hn =>
    ⟨_, if_pos (List.all_eq_true.2 fun e he =>
        decide_eq_true (hn _ (List.mem_map_of_mem (f := fun e : IEntry => e.1.getD []) he))), .map hs n⟩
  | .disk, h => h.elim

/-! The answers of a reader whose values sit behind the index entries `T`, told without the reader: `g` is its
`getWith`, `sc` its `scanIter` (the current and the version-0 reader differ in these only). -/

theorem specGet_E (T : List Trip) (k : Bytes) :
    specGet keyCmp (T.map Trip.ie) (some k) = (T.find? fun t => bytesCmp k t.1 == .eq).map (·.2.2) := by
  unfold specGet
  rw [List.find?_map]
  have : ((fun p : IEntry => keyCmp (some k) p.1 == .eq) ∘ Trip.ie) = fun t : Trip => bytesCmp k t.1 == .eq := by
    funext t; simp [Trip.ie, keyCmp_some_norm]
  rw [this, Option.map_map]
  rfl

theorem specGet_kvs (T : List Trip) (k : Bytes) :
    specGet bytesCmp (T.map Trip.kv) k = (T.find? fun t => bytesCmp k t.1 == .eq).map (·.2.1) := by
  unfold specGet
  rw [List.find?_map, Option.map_map]
  rfl

theorem isSome_spec (T : List Trip) (k : Bytes) :
    (specGet keyCmp (T.map Trip.ie) (some k)).isSome = (specGet bytesCmp (T.map Trip.kv) k).isSome := by
  rw [specGet_E, specGet_kvs]; simp

theorem filter_E (T : List Trip) (q : Bytes → Bool) (q' : GoBytes → Bool) (h : ∀ k, q' (normKey k) = q k) :
    (T.map Trip.ie).filter (fun p => q' p.1) = (T.filter fun t => q t.1).map Trip.ie := by
  rw [List.filter_map]
  congr 1
  apply List.filter_congr
  intro t _
  simp [Trip.ie, h]

theorem filter_kvs (T : List Trip) (q : Bytes → Bool) :
    ((T.map Trip.kv).filter (fun p => q p.1)).map normKV = (T.filter fun t => q t.1).map Trip.out := by
  rw [List.filter_map, List.map_map]
  rfl

theorem get_trips (T : List Trip) {g : Except Err IndexVal → Except Err GoBytes}
    (hnf : g (.error .notFound) = .error .notFound) (hv : ∀ t ∈ T, g (.ok t.2.2) = .ok t.2.1) (k : Bytes) :
    g (getRes (specGet keyCmp (T.map Trip.ie) (some k))) = specGetRes (T.map Trip.kv) k := by
  unfold specGetRes
  rw [specGet_E, specGet_kvs]
  cases hfd : T.find? (fun t => bytesCmp k t.1 == .eq) with
  | none => exact hnf
  | some t => exact hv t (List.mem_of_find?_eq_some hfd)

theorem from_trips (T : List Trip) {sc : Iter → ScanRes}
    (hsc : ∀ q : Bytes → Bool,
      sc ((T.filter fun t => q t.1).map Trip.ie, .done) = ((T.filter fun t => q t.1).map Trip.out, .done))
    (k : Bytes) :
    (Except.ok (specFrom keyCmp (T.map Trip.ie) (some k), IterEnd.done) : Except Err Iter).map sc =
      specScanFrom (T.map Trip.kv) k := by
  unfold specScanFrom SST.specFrom
  rw [filter_E T (fun b => bytesCmp k b != .gt) (fun g => keyCmp (some k) g != .gt)
      (fun b => by rw [keyCmp_some_norm]),
    filter_kvs T (fun b => bytesCmp k b != .gt)]
  exact congrArg Except.ok (hsc fun b => bytesCmp k b != .gt)

theorem between_trips (T : List Trip) {sc : Iter → ScanRes}
    (hsc : ∀ q : Bytes → Bool,
      sc ((T.filter fun t => q t.1).map Trip.ie, .done) = ((T.filter fun t => q t.1).map Trip.out, .done))
    (lo hi : Bytes) :
    (betweenRes (specBetween keyCmp (T.map Trip.ie) (some lo) (some hi))).map sc =
      specScanRange (T.map Trip.kv) lo hi := by
  unfold specScanRange SST.specBetween
  rw [show keyCmp (some lo) (some hi) = bytesCmp lo hi from rfl]
  by_cases hgt : (bytesCmp lo hi == .gt) = true
  · rw [if_pos hgt, if_pos hgt]; rfl
  · rw [if_neg hgt, if_neg hgt]
    show Except.ok (sc (_, IterEnd.done)) = Except.ok (List.map normKV _, IterEnd.done)
    rw [filter_E T (fun b => bytesCmp lo b != .gt && bytesCmp b hi != .gt)
        (fun g => keyCmp (some lo) g != .gt && keyCmp g (some hi) != .gt)
        (fun b => by rw [keyCmp_some_norm, keyCmp_norm_some]),
      filter_kvs T (fun b => bytesCmp lo b != .gt && bytesCmp b hi != .gt)]
    exact congrArg Except.ok (hsc fun b => bytesCmp lo b != .gt && bytesCmp b hi != .gt)

theorem bloom_miss {bloom : Option (Bytes → Bool)} {kvs : List KV} (hb : BloomOk bloom kvs)
    {bf : Bytes → Bool} (hbl : bloom = some bf) {k : Bytes} (hbf : ¬ bf k = true) :
    (specGet bytesCmp kvs k).isSome = false := by
  rw [specGet, Option.isSome_map, Bool.eq_false_iff, Ne, List.find?_isSome]
  rintro ⟨p, hp, heq⟩
  rw [bytesCmp_eq_iff.mp (eq_of_beq heq)] at hbf
  exact hbf (hb bf hbl p hp)

/-- `Contains`: the bloom filter in front of an index answer `x` that is the map's -/
theorem bloom_contains {bloom : Option (Bytes → Bool)} {kvs : List KV} (hb : BloomOk bloom kvs) (k : Bytes)
    (idx : Index) {idx' : Index} {x : Index × Option (Except Err Bool)}
    (hx : x = (idx', some (.ok (specGet bytesCmp kvs k).isSome))) :
    ∃ i, (i = idx ∨ i = idx') ∧
      (match bloom with
        | some bf => if bf k then x else (idx, some (.ok false))
        | none => x) = (i, some (.ok (specGet bytesCmp kvs k).isSome)) := by
  cases hbl : bloom with
  | none => exact ⟨idx', Or.inr rfl, hx⟩
  | some bf =>
    by_cases hbf : bf k = true
    · exact ⟨idx', Or.inr rfl, by simp only [hbf, if_true, hx]⟩
    · exact ⟨idx, Or.inl rfl, by simp only [hbf, bloom_miss hb hbl hbf]; rfl⟩

theorem fullScan_of (comps : Nat → Compression) (r : Reader) (it : Iter) (c : Compression) (st : Bytes)
    (h : openSeq comps r.data = .ok (c, st)) :
    r.fullScan comps it = .ok (fullScanS c r.skipHashOnRead it.1 it.2 st) := by
  unfold Reader.fullScan; rw [h]

/-! the calls of a reader whose values sit behind the index entries `T`, given the index answer -/

section Calls
variable {r : Reader} {T : List Trip}
  (hv : ∀ t ∈ T, getValueAtOffset r.dc r.data t.2.2 r.skipHashOnRead = .ok t.2.1)
include hv

theorem scanIter_filter (q : Bytes → Bool) :
    r.scanIter ((T.filter fun t => q t.1).map Trip.ie, .done) = ((T.filter fun t => q t.1).map Trip.out, .done) :=
  scanWith_good r.dc r.data r.skipHashOnRead _ (fun t ht => hv t (List.mem_filter.mp ht).1)

theorem get_of {idx idx' : Index} {k : Bytes}
    (h : idx.get k = (idx', some (getRes (specGet keyCmp (T.map Trip.ie) (some k))))) :
    r.get idx k = (idx', some (specGetRes (T.map Trip.kv) k)) := by
  unfold Reader.get
  rw [h]
  exact congrArg (fun x => (idx', some x)) (get_trips T (g := r.getWith) rfl hv k)

theorem scanFrom_of {idx idx' : Index} {k : Bytes}
    (h : idx.from k = (idx', .ok (specFrom keyCmp (T.map Trip.ie) (some k), .done))) :
    r.scanFrom idx k = (idx', specScanFrom (T.map Trip.kv) k) := by
  unfold Reader.scanFrom
  rw [h]
  exact congrArg (fun x => (idx', x)) (from_trips T (scanIter_filter hv) k)

theorem scanRange_of {idx idx' : Index} {lo hi : Bytes}
    (h : idx.between lo hi = (idx', betweenRes (specBetween keyCmp (T.map Trip.ie) (some lo) (some hi)))) :
    r.scanRange idx lo hi = (idx', specScanRange (T.map Trip.kv) lo hi) := by
  unfold Reader.scanRange
  rw [h]
  exact congrArg (fun x => (idx', x)) (between_trips T (scanIter_filter hv) lo hi)

omit hv in
theorem contains_of (hb : BloomOk r.bloom (T.map Trip.kv)) {idx idx' : Index} {k : Bytes}
    (h : idx.contains k = (idx', some (.ok (specGet keyCmp (T.map Trip.ie) (some k)).isSome))) :
    ∃ i, (i = idx ∨ i = idx') ∧ r.contains idx k = (i, some (.ok (specGet bytesCmp (T.map Trip.kv) k).isSome)) :=
  bloom_contains hb k idx (h.trans (by rw [isSome_spec]))

theorem reads_as_map_of_trips (comps : Nat → Compression)
    (hscan : r.fullScan comps (T.map Trip.ie, .done) = .ok ((T.map Trip.kv).map normKV, .done))
    (hb : BloomOk r.bloom (T.map Trip.kv)) (P : Bytes → Prop) (idx : Index)
    (hr : IdxRefines P idx (T.map Trip.ie)) : ReadsAsMap comps P r idx (T.map Trip.kv) where
  get := fun k hk => get_of hv (hr.get k hk)
  contains := fun k hk => by
    obtain ⟨i, hi | hi, e⟩ := contains_of hb (hr.contains k hk) <;> rw [e, hi]
  scan := by rw [Reader.scan, hr.all]; exact hscan
  scanFrom := fun k => scanFrom_of hv (hr.from_ k)
  scanRange := fun lo hi => scanRange_of hv (hr.between lo hi)

theorem reads_as_map_from_of_trips (comps : Nat → Compression)
    (hscan : r.fullScan comps (T.map Trip.ie, .done) = .ok ((T.map Trip.kv).map normKV, .done))
    (hb : BloomOk r.bloom (T.map Trip.kv)) (idx0 : Index)
    (hr : IdxRefinesFrom idx0 (T.map Trip.ie)) : ReadsAsMapFrom comps r idx0 (T.map Trip.kv) where
  init := hr.init
  get := fun idx hi k => by
    obtain ⟨idx', e, hi'⟩ := hr.get idx hi k
    exact ⟨idx', get_of hv e, hi'⟩
  contains := fun idx hi k => by
    obtain ⟨idx', e, hi'⟩ := hr.contains idx hi k
    obtain ⟨i, h | h, e'⟩ := contains_of hb e
    · exact ⟨i, e', h ▸ hi⟩
    · exact ⟨i, e', h ▸ hi'⟩
  scan := fun idx hi => by rw [Reader.scan, hr.all idx hi]; exact hscan
  scanFrom := fun idx hi k => by
    obtain ⟨idx', e, hi'⟩ := hr.from_ idx hi k
    exact ⟨idx', scanFrom_of hv e, hi'⟩
  scanRange := fun idx hi lo hi2 => by
    obtain ⟨idx', e, hi'⟩ := hr.between idx hi lo hi2
    exact ⟨idx', scanRange_of hv e, hi'⟩

end Calls

end SST.Proofs.Sst
