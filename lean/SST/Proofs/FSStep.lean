/-
L6-fs: what a step of a session is (`FsCase`, `fsStep_cases`: the one case distinction over `fsStep`, `stepMut`,
`stepRotates` and the L6 `step`), and what it does to the process state.  Apart from `reopen`, which reads the disk,
it is the step of the L6 model; a call the model rejects makes no file-system call; and the reference moves by
exactly the mutation the step logs.  (Of the boundary relation `QW` only what FSInterleave.lean derives from it is
used: its disk is well-formed and serves the process state.)
-/
import SST.Proofs.FSInterleave
import SST.Proofs.DB
namespace SST.Proofs.FS
open SST SST.DBM SST.FS SST.Proofs.DB

theorem usable_not (s : State) : (!s.isOpen || s.closed) = !usable s := DB.not_usable s

/-- the guard under which `fsStep` re-opens -/
theorem usable_eq_false {s : State} (h : (s.closed || !s.isOpen) = true) : usable s = false := by
  unfold usable
  revert h
  cases s.isOpen <;> cases s.closed <;> decide

/-- the client writes, each with the rotation flag it carries -/
inductive IsWrite : Step → Bool → Prop
  | putB (k v : GoBytes) (rot : Bool) : IsWrite (.putB k v rot) rot
  | putS (k v : Bytes) (rot : Bool) : IsWrite (.putS k v rot) rot
  | delB (k : GoBytes) : IsWrite (.delB k) false
  | delS (k : Bytes) : IsWrite (.delS k) false

/-- `PutBytes` in terms of the record it logs: accepted exactly when there is one -/
theorem step_putB (s : State) (k v : GoBytes) (rot : Bool) :
    match stepMut s (.putB k v rot) with
    | some m => step s (.putB k v rot) =
        (if rot then rotate { s with w := m.apply s.w } else { s with w := m.apply s.w }, some .ok, [])
    | none => (step s (.putB k v rot)).1 = s ∧ (step s (.putB k v rot)).2.1 ≠ some .ok := by
  cases k with
  | none => exact ⟨rfl, fun h => nomatch h⟩
  | some kb =>
    cases v with
    | none => exact ⟨rfl, fun h => nomatch h⟩
    | some vb =>
      simp only [stepMut, step, putBytes, usable_not]
      by_cases he : (kb.isEmpty || vb.isEmpty) = true
      · simp [he]
      · cases hu : usable s <;> simp [he]
        rfl

theorem step_delB (s : State) (k : GoBytes) :
    match stepMut s (.delB k) with
    | some m => step s (.delB k) = ({ s with w := m.apply s.w }, some .ok, [])
    | none => (step s (.delB k)).1 = s ∧ (step s (.delB k)).2.1 ≠ some .ok := by
  simp only [stepMut, step, deleteBytes, usable_not]
  cases usable s
  · exact ⟨rfl, fun h => nomatch h⟩
  · rfl

/-- a client write in terms of the record it logs: accepted exactly when there is one -/
theorem IsWrite.step {st : Step} {rot : Bool} (h : IsWrite st rot) (s : State) :
    match stepMut s st with
    | some m => step s st =
        (if rot then rotate { s with w := m.apply s.w } else { s with w := m.apply s.w }, some .ok, [])
    | none => (step s st).1 = s ∧ (step s st).2.1 ≠ some .ok := by
  cases h with
  | putB k v rot => exact step_putB s k v rot
  | putS k v rot =>
    have e : DBM.step s (.putS k v rot) = DBM.step s (.putB (some k) (some v) rot) := by
      simp only [DBM.step, (api_flavours_agree s k v rot).1]
    rw [e]
    exact step_putB s (some k) (some v) rot
  | delB k => exact step_delB s k
  | delS k => exact step_delB s (some k)

theorem IsWrite.fsStep {st : Step} {rot : Bool} (h : IsWrite st rot) (async : Bool) (d : Disk) (v : Vol) (dr : Nat)
    (tn : Bool) (jk : List (Nat × Layer)) :
    fsStep async d v { st := st, drain := dr, torn := tn, junk := jk } =
      match stepMut v.s st with
      | some m => writeEvs async v m rot dr tn
      | none => ([], v) := by
  cases h <;> rfl

theorem IsWrite.rotates {st : Step} {rot : Bool} (h : IsWrite st rot) (s : State) :
    stepRotates s st = (rot && (stepMut s st).isSome) := by
  cases h <;> rfl

theorem stepMut_ok {s : State} {st : Step} {m : Mutation} (h : stepMut s st = some m) :
    usable s = true ∧ m.ok = true := by
  unfold stepMut at h
  split at h
  · split at h
    · split at h
      · cases h
      · rename_i hc; cases h; simp [Mutation.ok] at hc ⊢; exact ⟨hc.2, hc.1.2⟩
    · cases h
  · split at h
    · cases h
    · rename_i hc; cases h; simp [Mutation.ok] at hc ⊢; exact ⟨hc.2, hc.1.2⟩
  · split at h
    · rename_i hu; cases h; exact ⟨hu, rfl⟩
    · cases h
  · split at h
    · rename_i hu; cases h; exact ⟨hu, rfl⟩
    · cases h
  · cases h

/-- The seven things a step of a session can be, each with what `fsStep`, `stepMut`, `stepRotates` and the L6 `step`
say of it: the four functions go by cases on the same `Step` under the same guards, and every statement about a step
starts from this one case distinction. -/
inductive FsCase (async : Bool) (d : Disk) (v : Vol) (a : AStep) : Prop
  /-- no call, no effect: a `Get`, a refused call, a background step of a database that is not usable -/
  | idle : fsStep async d v a = ([], v) → stepMut v.s a.st = none → stepRotates v.s a.st = false →
      (step v.s a.st).1 = v.s → FsCase async d v a
  /-- an accepted client write logging `m` -/
  | write (m : Mutation) (rot : Bool) : usable v.s = true → m.ok = true → stepMut v.s a.st = some m →
      stepRotates v.s a.st = rot → fsStep async d v a = writeEvs async v m rot a.drain a.torn →
      step v.s a.st = (if rot then rotate { v.s with w := m.apply v.s.w } else { v.s with w := m.apply v.s.w }, some .ok, []) →
      FsCase async d v a
  | rotate : usable v.s = true → a.st = .rotate → fsStep async d v a = rotateEvs v →
      step v.s a.st = (DBM.rotate v.s, none, []) → FsCase async d v a
  | flush : a.st = .flush → fsStep async d v a = flushEvs v → step v.s a.st = (flushStep v.s, none, []) →
      FsCase async d v a
  | compact (sizes : List Nat) : usable v.s = true → a.st = .compact sizes →
      fsStep async d v a = compactEvs d v sizes a.junk →
      step v.s a.st = ((compactStep v.s sizes).1, none, (compactStep v.s sizes).2) → FsCase async d v a
  | close : usable v.s = true → a.st = .close →
      fsStep async d v a = ((rotateEvs v).1 ++ (flushEvs (rotateEvs v).2).1 ++ [.walClose (flushEvs (rotateEvs v).2).2.walCur],
        { (flushEvs (rotateEvs v).2).2 with s := { (flushEvs (rotateEvs v).2).2.s with closed := true } }) →
      step v.s a.st = ({ flushStep (DBM.rotate v.s) with closed := true }, some .ok, []) → FsCase async d v a
  | reopen (o : Opts) : usable v.s = false → a.st = .reopen o →
      fsStep async d v a = (recoverEvents d a.junk, match recover d o with
        | .ok (_, s') => { s := s', walCur := 0, walOld := none, queue := [] }
        | .error _ => v) → FsCase async d v a

theorem fsStep_cases (async : Bool) (d : Disk) (v : Vol) (a : AStep) : FsCase async d v a := by
  obtain ⟨st, dr, tn, jk⟩ := a
  have hw : ∀ {st rot}, IsWrite st rot → FsCase async d v { st := st, drain := dr, torn := tn, junk := jk } := by
    intro st rot h
    have hs := h.step v.s
    have hf := h.fsStep async d v dr tn jk
    have hr := h.rotates v.s
    cases hm : stepMut v.s st with
    | none =>
      rw [hm] at hs hf hr
      exact .idle hf hm (by rw [hr]; simp) hs.1
    | some m =>
      rw [hm] at hs hf hr
      exact .write m rot (stepMut_ok hm).1 (stepMut_ok hm).2 hm (by rw [hr]; simp) hf hs
  cases st with
  | putB k val rot => exact hw (.putB k val rot)
  | putS k val rot => exact hw (.putS k val rot)
  | delB k => exact hw (.delB k)
  | delS k => exact hw (.delS k)
  | get k => exact .idle rfl rfl rfl rfl
  | flush => exact .flush rfl rfl rfl
  | rotate =>
    cases hu : usable v.s with
    | true => exact .rotate hu rfl (if_pos hu) (if_pos hu)
    | false => exact .idle (if_neg (Bool.eq_false_iff.1 hu)) rfl hu (congrArg Prod.fst (if_neg (Bool.eq_false_iff.1 hu)))
  | compact sizes =>
    cases hu : usable v.s with
    | true => exact .compact sizes hu rfl (if_pos hu) (if_pos hu)
    | false => exact .idle (if_neg (Bool.eq_false_iff.1 hu)) rfl rfl (congrArg Prod.fst (if_neg (Bool.eq_false_iff.1 hu)))
  | close =>
    have hc : step v.s .close = ((close v.s).1, some (close v.s).2, []) := rfl
    cases hu : usable v.s with
    | true =>
      have hcl : close v.s = ({ flushStep (DBM.rotate v.s) with closed := true }, .ok) :=
        if_neg (by rw [usable_not, hu]; nofun)
      exact .close hu rfl (by simp [fsStep, hu]) (by rw [hc, hcl])
    | false =>
      have hcl : close v.s = (v.s, .notOpen) := if_pos (by rw [usable_not, hu]; rfl)
      exact .idle (if_neg (Bool.eq_false_iff.1 hu)) rfl hu (by rw [hc, hcl])
  | reopen o =>
    cases hn : (v.s.closed || !v.s.isOpen) with
    | true =>
      refine .reopen o (usable_eq_false hn) rfl ?_
      simp only [fsStep, hn, if_true]
      cases recover d o with
      | ok p => rfl
      | error e => rfl
    | false => exact .idle (if_neg (Bool.eq_false_iff.1 hn)) rfl rfl (congrArg Prod.fst (if_neg (Bool.eq_false_iff.1 hn)))

theorem logEvs_s (async : Bool) (v : Vol) (m : Mutation) (dr : Nat) (tn : Bool) :
    (logEvs async v m dr tn).2.s = v.s := by
  unfold logEvs; cases async <;> rfl

/-- the process state after an accepted write -/
def wrote (v : Vol) (m : Mutation) : Vol := { v with s := { v.s with w := m.apply v.s.w } }

theorem writeEvs_false (async : Bool) (v : Vol) (m : Mutation) (dr : Nat) (tn : Bool) :
    writeEvs async v m false dr tn = logEvs async (wrote v m) m dr tn := rfl

theorem writeEvs_true (async : Bool) (v : Vol) (m : Mutation) (dr : Nat) (tn : Bool) :
    writeEvs async v m true dr tn =
      ((logEvs async (wrote v m) m dr tn).1 ++ (rotateEvs (logEvs async (wrote v m) m dr tn).2).1,
        (rotateEvs (logEvs async (wrote v m) m dr tn).2).2) := by
  simp only [writeEvs, wrote, if_true]

theorem writeEvs_s (async : Bool) (v : Vol) (m : Mutation) (rot : Bool) (dr : Nat) (tn : Bool) :
    (writeEvs async v m rot dr tn).2.s =
      if rot then rotate { v.s with w := m.apply v.s.w } else { v.s with w := m.apply v.s.w } := by
  cases rot with
  | false => rw [writeEvs_false]; exact logEvs_s _ _ _ _ _
  | true =>
    rw [writeEvs_true]
    show rotate (logEvs async _ m dr tn).2.s = _
    rw [logEvs_s]
    rfl

theorem flushEvs_s (v : Vol) : (flushEvs v).2.s = flushStep v.s := by
  unfold flushEvs
  split
  · rename_i h
    rw [flushStep_not_pending v.s (by simpa using h)]
  · split <;> rfl

theorem flushEvs_queue (v : Vol) : (flushEvs v).2.queue = v.queue := by
  unfold flushEvs
  split
  · rfl
  · split <;> rfl

theorem flushEvs_cur (v : Vol) : (flushEvs v).2.walCur = v.walCur := by
  unfold flushEvs
  split
  · rfl
  · split <;> rfl

/-- a compaction cycle moves only the database state of the volume -/
theorem compactEvs_vol (d : Disk) (v : Vol) (sizes : List Nat) (jk : List (Nat × Layer)) :
    (compactEvs d v sizes jk).2 = { v with s := (compactStep v.s sizes).1 } := by
  rcases compactStep_spec2 v.s sizes with (he | ⟨pre, t0, sel', post, _, he⟩)
  · simp [compactEvs, he]
  · unfold compactEvs
    rw [he]
    rfl

theorem compactEvs_queue (d : Disk) (v : Vol) (sizes : List Nat) {jk : List (Nat × Layer)} :
    (compactEvs d v sizes jk).2.queue = v.queue := by rw [compactEvs_vol]

theorem compactEvs_s (d : Disk) (v : Vol) (sizes : List Nat) {jk : List (Nat × Layer)} :
    (compactEvs d v sizes jk).2.s = (compactStep v.s sizes).1 := by rw [compactEvs_vol]

/-- apart from `reopen` (which reads the disk), a step changes the process state exactly as in the L6 model -/
theorem fsStep_s (async : Bool) (d : Disk) (v : Vol) (a : AStep) (hno : ∀ o, a.st ≠ .reopen o) :
    (fsStep async d v a).2.s = (step v.s a.st).1 := by
  cases fsStep_cases async d v a with
  | idle hf _ _ hs => rw [hf, hs]
  | write m rot _ _ _ _ hf hs => rw [hf, hs]; exact writeEvs_s _ _ _ _ _ _
  | rotate _ _ hf hs => rw [hf, hs]; rfl
  | flush _ hf hs => rw [hf, hs]; exact flushEvs_s v
  | compact sizes _ _ hf hs => rw [hf, hs]; exact compactEvs_s d v sizes
  | close _ _ hf hs =>
    rw [hf, hs]
    show ({ (flushEvs (rotateEvs v).2).2.s with closed := true } : State) = _
    rw [flushEvs_s]
    rfl
  | reopen o _ hst _ => exact absurd hst (hno o)

theorem abs_flush {s : State} (h : Inv s) : abs (flushStep s) = abs s := by
  funext k
  rw [abs_eq_stack _ (flushStep_inv s h), flushStep_stack, ← abs_eq_stack s h]

theorem abs_rotate {s : State} (h : Inv s) (hu : usable s = true) : abs (rotate s) = abs s := by
  funext k
  rw [abs_eq_stack _ (rotate_inv s h hu), rotate_stack s h, ← abs_eq_stack s h]

/-- a call the model rejects makes no file-system call (the crash part of C17): besides the idle steps only a write
and a `Close` return a result, and theirs is `ok` -/
theorem rejected_no_events (async : Bool) (d : Disk) (v : Vol) (a : AStep) (r : Res)
    (hr : (step v.s a.st).2.1 = some r) (hbad : r = .rejected ∨ r = .notOpen) : fsStep async d v a = ([], v) := by
  have hnotok : r ≠ .ok := by rcases hbad with (h | h) <;> rw [h] <;> nofun
  cases fsStep_cases async d v a with
  | idle hf _ _ _ => exact hf
  | write m rot _ _ _ _ _ hs => rw [hs] at hr; cases hr; exact absurd rfl hnotok
  | rotate _ _ _ hs => rw [hs] at hr; cases hr
  | flush _ _ hs => rw [hs] at hr; cases hr
  | compact sizes _ _ _ hs => rw [hs] at hr; cases hr
  | close _ _ _ hs => rw [hs] at hr; cases hr; exact absurd rfl hnotok
  | reopen o hu hst _ =>
    rw [hst] at hr
    simp only [step] at hr
    split at hr <;> cases hr

theorem wrote_inv {v : Vol} (h : Inv v.s) (hu : usable v.s = true) (m : Mutation) (hm : m.ok = true) :
    Inv (wrote v m).s := by
  show Inv { v.s with w := m.apply v.s.w }
  rw [apply_eq_set]
  apply setW_inv v.s h hu
  intro b hb
  cases m with
  | put k x =>
    simp only [Mutation.val, Option.some.injEq] at hb
    subst hb
    intro he; subst he
    simp [Mutation.ok] at hm
  | del k => simp [Mutation.val] at hb

/-- the reference moves by exactly the mutation the step logs: by the simulation `step_sim` the reference map is `abs`
of the stepped state, and `FsCase` says what that state is -/
theorem specStep_m (s : State) (sp : Spec) (h : Rel s sp) (st : Step) :
    (specStep sp st).1.m = match stepMut s st with
      | some m => Mutation.spec sp.m m
      | none => sp.m := by
  have hm : (specStep sp st).1.m = abs (step s st).1 := funext fun k => ((step_sim s sp h st).1.m k).symm
  cases fsStep_cases false {} { s := s } { st := st } with
  | idle _ hmut _ hs => rw [hmut, hm, hs]; exact funext h.m
  | write m rot hu hmo hmut _ _ hs =>
    rw [hmut, hm, hs]
    have hw : abs { s with w := m.apply s.w } = Mutation.spec sp.m m := by
      funext k
      rw [apply_eq_set, setW_abs, h.m k]
      cases m <;> rfl
    cases rot with
    | false => exact hw
    | true => exact (abs_rotate (wrote_inv (v := { s := s }) h.inv hu m hmo) hu).trans hw
  | rotate _ hst _ _ => subst hst; rfl
  | flush hst _ _ => subst hst; rfl
  | compact sizes _ hst _ _ => subst hst; rfl
  | close hu hst _ _ =>
    have hst : st = .close := hst
    subst hst
    simp only [specStep, stepMut]; split <;> rfl
  | reopen o _ hst _ =>
    have hst : st = .reopen o := hst
    subst hst
    simp only [specStep, stepMut]; split <;> rfl

/-- one step keeps the process state in the simulation relation with the reference -/
theorem fsStep_rel (async : Bool) (d : Disk) (v : Vol) (sp : Spec) (a : AStep) {junk : List WalFile}
    {ro rc : List Mutation} {tn : Bool} (hq : QW d v junk ro rc tn) (hr : Rel v.s sp) :
    Rel (fsStep async d v a).2.s (specStep sp a.st).1 := by
  by_cases hro : ∃ o, a.st = .reopen o
  · obtain ⟨o, hst⟩ := hro
    obtain ⟨st, dr, tn', jk⟩ := a
    simp only at hst
    subst hst
    simp only [fsStep, specStep]
    rw [← hr.o, ← hr.c]
    cases hn : (v.s.closed || !v.s.isOpen) with
    | false => simp only [Bool.false_eq_true, if_false]; exact hr
    | true =>
      simp only [if_true]
      obtain ⟨d', s', hrec⟩ := recover_ok d hq.diskOk o
      rw [hrec]
      have hq' := recover_QW d hq.diskOk o d' s' hrec
      have hnu : usable v.s = false := usable_eq_false hn
      have hfl := recover_opened d o d' s' hrec
      refine { inv := hq'.inv, o := hfl.1, c := hfl.2.1, m := fun k => ?_ }
      show abs s' k = sp.m k
      rw [recover_abs d o d' s' hrec, hq.serves_sync (hq.idle hnu).1]
      exact hr.m k
  · have hno : ∀ o, a.st ≠ .reopen o := fun o he => hro ⟨o, he⟩
    rw [fsStep_s async d v a hno]
    exact (step_sim v.s sp hr a.st).1

end SST.Proofs.FS
