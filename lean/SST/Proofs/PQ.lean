/-
The merge heap returns every item of every input once, in non-descending order, and keeps the order within each
input: `Next` removes the least of the pending items (`pending`), which `init` sets to all items tagged by input.
Every fact about one `Next` is about `PQF.next cmp ee` for any `ee` (how the inputs end), a
sequence of `Next` calls is a `Yields`, and `PQ.next` / `PQ.drainAux` are the case in which no input fails
(`pq_next`, `drainAux_yields`).
-/
import SST.Model.PQF
import SST.Spec.Sorted
import SST.Proofs.PQBasic
import SST.Proofs.ListFacts
namespace SST.Proofs
open SST PQ

variable {K V : Type}

/-- all items of all inputs, tagged with the number of their input -/
def tagged (inputs : List (List (K × V))) : List (K × V × Nat) :=
  ((List.range inputs.length).zip inputs).flatMap fun (i, l) => l.map fun (k, v) => (k, v, i)

namespace PQB

variable {cmp : K → K → Ordering} {ee : Nat → Option Err}

/-- the tagged items one heap element stands for: its current item and the rest of its input -/
def items (e : PElem K V) : List (K × V × Nat) :=
  (e.key, e.val, e.ctx) :: e.rest.map fun (k, v) => (k, v, e.ctx)

def pending (h : Heap K V) : List (K × V × Nat) := h.flatMap items

/-- current item followed by the remaining ones is non-descending -/
def ElemOK (cmp : K → K → Ordering) (e : PElem K V) : Prop := NonDesc cmp ((e.key, e.val) :: e.rest)

def AllOK (cmp : K → K → Ordering) (h : Heap K V) : Prop := ∀ e ∈ h, ElemOK cmp e

theorem pending_cons (e : PElem K V) (h : Heap K V) : pending (e :: h) = items e ++ pending h := by
  simp [pending]

theorem pending_perm {h h' : Heap K V} (p : h.Perm h') : (pending h).Perm (pending h') :=
  p.flatMap_right _

theorem allOK_perm {h h' : Heap K V} (p : h.Perm h') (ok : AllOK cmp h) :
    AllOK cmp h' := fun e he => ok e (p.mem_iff.mpr he)

theorem items_ctx (e : PElem K V) : ∀ x ∈ items e, x.2.2 = e.ctx := by
  intro x hx
  simp only [items, List.mem_cons, List.mem_map] at hx
  rcases hx with rfl | ⟨y, _, rfl⟩ <;> rfl

theorem pending_lb (hl : LawfulCmp cmp) {top : PElem K V} {tl : Heap K V}
    (ho : HeapOrd cmp (top :: tl)) (ok : AllOK cmp (top :: tl)) :
    ∀ x ∈ pending (top :: tl), cmp top.key x.1 ≠ .gt := by
  intro x hx
  simp only [pending, List.mem_flatMap] at hx
  obtain ⟨e, he, hxe⟩ := hx
  have hte : cmp top.key e.key ≠ .gt := root_min_mem hl ho e he
  simp only [items, List.mem_cons, List.mem_map] at hxe
  rcases hxe with rfl | ⟨y, hy, rfl⟩
  · exact hte
  · have hok := ok e he
    simp only [ElemOK, NonDesc, List.pairwise_cons] at hok
    exact cmp_le_trans hl hte (hok.1 y hy)

theorem pendingCount_eq (h : Heap K V) : PQF.pendingCount h = (pending h).length := by
  induction h with
  | nil => simp [PQF.pendingCount, pending]
  | cons e h ih =>
    rw [pending_cons, List.length_append, ← ih]
    simp [PQF.pendingCount, items]

/-- the heap after one successful `Next`, up to the order of its slots: the root moves on in its input, or leaves
when that is exhausted -/
def pop : Heap K V → Heap K V
  | [] => []
  | top :: tl =>
    match top.rest with
    | (k', v') :: rest' => { top with key := k', val := v', rest := rest' } :: tl
    | [] => tl

theorem pop_exhausted {top : PElem K V} (tl : Heap K V) (hr : top.rest = []) : pop (top :: tl) = tl := by
  simp only [pop, hr]

theorem pop_refill {top : PElem K V} (tl : Heap K V) {k' : K} {v' : V} {rest' : List (K × V)}
    (hr : top.rest = (k', v') :: rest') :
    pop (top :: tl) = { top with key := k', val := v', rest := rest' } :: tl := by
  simp only [pop, hr]

theorem next_done {h : Heap K V} (hn : PQF.next cmp ee h = .done) : h = [] := by
  cases h with
  | nil => rfl
  | cons top tl =>
    unfold PQF.next at hn
    simp only [] at hn
    split at hn
    · cases hn
    · split at hn
      · cases hn
      · rw [List.getLast?_cons] at hn; cases hn

theorem next_err {h : Heap K V} {e : Err} (hn : PQF.next cmp ee h = .err e) :
    ∃ top tl, h = top :: tl ∧ top.rest = [] ∧ ee top.ctx = some e := by
  cases h with
  | nil => cases hn
  | cons top tl =>
    unfold PQF.next at hn
    simp only [] at hn
    split at hn
    · cases hn
    · rename_i hrest
      split at hn
      · rename_i e' he; cases hn; exact ⟨top, tl, rfl, hrest, he⟩
      · rw [List.getLast?_cons] at hn; cases hn

/-- a successful `Next` returns the root and leaves `pop h`, ordered if `h` was; the root's input, if exhausted,
ended in Done -/
theorem next_item {h h' : Heap K V} {o : K × V × Nat} (hn : PQF.next cmp ee h = .item o h') :
    (LawfulCmp cmp → HeapOrd cmp h → HeapOrd cmp h') ∧ h'.Perm (pop h) ∧
      ∃ top tl, h = top :: tl ∧ o = (top.key, top.val, top.ctx) ∧ (top.rest = [] → ee top.ctx = none) := by
  cases h with
  | nil => cases hn
  | cons top tl =>
    unfold PQF.next at hn
    simp only [] at hn
    split at hn
    · rename_i k' v' rest' hrest
      cases hn
      rw [pop_refill tl hrest]
      exact ⟨fun hl ho => downHeap_ok hl (a := top) ho, downHeap_perm _ _, top, tl, rfl, rfl,
        fun h => by rw [hrest] at h; cases h⟩
    · rename_i hrest
      split at hn
      · cases hn
      · rename_i hee
        cases hlast : (top :: tl).getLast? with
        | none => rw [hlast] at hn; cases hn
        | some last =>
          rw [hlast] at hn
          cases hn
          rw [pop_exhausted tl hrest]
          obtain ⟨hp, hord⟩ := root_dropLast (cmp := cmp) hlast
          exact ⟨fun hl ho => downHeap_ok hl (hord ho), (downHeap_perm _ _).trans hp, top, tl, rfl, rfl, fun _ => hee⟩

theorem pending_pop (top : PElem K V) (tl : Heap K V) :
    pending (top :: tl) = (top.key, top.val, top.ctx) :: pending (pop (top :: tl)) := by
  cases hr : top.rest with
  | nil => simp [pop_exhausted tl hr, pending_cons, items, hr]
  | cons kv r => simp [pop_refill tl hr, pending_cons, items, hr]

theorem allOK_pop {h : Heap K V} (ok : AllOK cmp h) : AllOK cmp (pop h) := by
  cases h with
  | nil => exact ok
  | cons top tl =>
    cases hr : top.rest with
    | nil => rw [pop_exhausted tl hr]; exact fun e he => ok e (List.mem_cons_of_mem _ he)
    | cons kv r =>
      rw [pop_refill tl hr]
      intro e he
      rcases List.mem_cons.mp he with rfl | he
      · have := ok top List.mem_cons_self
        simp only [ElemOK, NonDesc, hr] at this ⊢
        exact (List.pairwise_cons.mp this).2
      · exact ok e (List.mem_cons_of_mem _ he)

/-- the inputs on the heap after `pop`: the same, without the root's if that is exhausted -/
theorem ctx_pop (top : PElem K V) (tl : Heap K V) :
    (pop (top :: tl)).map (·.ctx) = if top.rest = [] then tl.map (·.ctx) else (top :: tl).map (·.ctx) := by
  cases hr : top.rest with
  | nil => simp [pop_exhausted tl hr]
  | cons kv r => simp [pop_refill tl hr]

theorem nodup_pop {h : Heap K V} (nd : (h.map (·.ctx)).Nodup) : ((pop h).map (·.ctx)).Nodup := by
  cases h with
  | nil => exact nd
  | cons top tl =>
    rw [ctx_pop]
    split
    · exact (List.nodup_cons.mp nd).2
    · exact nd

theorem next_item_count {h h' : Heap K V} {o : K × V × Nat} (hn : PQF.next cmp ee h = .item o h') :
    PQF.pendingCount h = PQF.pendingCount h' + 1 := by
  obtain ⟨_, hp, top, tl, rfl, rfl, _⟩ := next_item hn
  rw [pendingCount_eq, pendingCount_eq, pending_pop, (pending_perm hp).length_eq]
  rfl

theorem filter_pending (i : Nat) (h : Heap K V) :
    (pending h).filter (fun o => o.2.2 == i) =
      (h.filter (fun e => e.ctx == i)).flatMap items := by
  induction h with
  | nil => rfl
  | cons e h ih =>
    rw [pending_cons, List.filter_append, ih, List.filter_cons]
    by_cases hc : e.ctx = i
    · rw [List.filter_eq_self.mpr fun x hx => by simp [items_ctx e x hx, hc]]
      simp [hc]
    · rw [List.filter_eq_nil_iff.mpr fun x hx => by simp [items_ctx e x hx, hc]]
      simp [hc]

theorem filter_ctx_length (i : Nat) (h : Heap K V) (nd : (h.map (·.ctx)).Nodup) :
    (h.filter (fun e => e.ctx == i)).length ≤ 1 := by
  have := List.nodup_iff_count.mp nd i
  rwa [List.count_eq_length_filter, List.filter_map, List.length_map] at this

theorem filter_pending_perm (i : Nat) {h h' : Heap K V} (p : h.Perm h') (nd : (h.map (·.ctx)).Nodup) :
    (pending h).filter (fun o => o.2.2 == i) = (pending h').filter (fun o => o.2.2 == i) := by
  rw [filter_pending, filter_pending]
  rw [perm_eq_of_length_le_one (p.filter _) (filter_ctx_length i h nd)]

/-- from heap `h`, `Next` returns the items `xs` and then ends with `t` -/
inductive Yields (cmp : K → K → Ordering) (ee : Nat → Option Err) :
    Heap K V → List (K × V × Nat) → PQF.Term → Prop where
  | done {h : Heap K V} : PQF.next cmp ee h = .done → Yields cmp ee h [] .done
  | err {h : Heap K V} {e : Err} : PQF.next cmp ee h = .err e → Yields cmp ee h [] (.err e)
  | item {h h' : Heap K V} {o : K × V × Nat} {xs : List (K × V × Nat)} {t : PQF.Term} :
      PQF.next cmp ee h = .item o h' → Yields cmp ee h' xs t → Yields cmp ee h (o :: xs) t

/-- What comes out, whether or not inputs fail, is non-descending (from an ordered heap of non-descending inputs) and
is part of the pending items, all of them when the sequence ends in Done; and Done is reached only if no input on the
heap ends in an error. -/
theorem yields_spec {h : Heap K V} {xs : List (K × V × Nat)} {t : PQF.Term} (hy : Yields cmp ee h xs t) :
    (LawfulCmp cmp → HeapOrd cmp h → AllOK cmp h → xs.Pairwise (fun a b => cmp a.1 b.1 ≠ .gt)) ∧
    (∃ r, (xs ++ r).Perm (pending h) ∧ (t = .done → r = [])) ∧
    (t = .done → ∀ el ∈ h, ee el.ctx = none) := by
  induction hy with
  | done hn =>
    cases next_done hn; exact ⟨fun _ _ _ => .nil, ⟨[], .refl _, fun _ => rfl⟩, fun _ _ hel => nomatch hel⟩
  | @err h _ _ => exact ⟨fun _ _ _ => .nil, ⟨pending h, .refl _, nofun⟩, nofun⟩
  | @item h h' o xs t hn _ ih =>
    obtain ⟨ho', hp, top, tl, rfl, rfl, hclean⟩ := next_item hn
    obtain ⟨ihs, ⟨r, ihp, ihr⟩, ihc⟩ := ih
    have hsub : (xs ++ r).Perm (pending (pop (top :: tl))) := ihp.trans (pending_perm hp)
    refine ⟨fun hl ho ok => ?_, ⟨r, ?_, ihr⟩, fun ht el hel => ?_⟩
    · refine List.pairwise_cons.mpr
        ⟨fun x hx => pending_lb hl ho ok x ?_, ihs hl (ho' hl ho) (allOK_perm hp.symm (allOK_pop ok))⟩
      rw [pending_pop]
      exact List.mem_cons_of_mem _ (hsub.mem_iff.mp (List.mem_append_left _ hx))
    · rw [pending_pop]; exact (List.perm_cons _).mpr hsub
    · -- an input that ends in an error stays on the heap: only an exhausted root leaves, and it ended in Done
      have hin : el.ctx ∈ (h'.map (·.ctx)) ∨ (el = top ∧ top.rest = []) := by
        rw [(hp.map _).mem_iff, ctx_pop]
        by_cases hr : top.rest = []
        · rw [if_pos hr]
          rcases List.mem_cons.mp hel with rfl | hm
          · exact Or.inr ⟨rfl, hr⟩
          · exact Or.inl (List.mem_map_of_mem hm)
        · rw [if_neg hr]; exact Or.inl (List.mem_map_of_mem hel)
      rcases hin with hm | ⟨rfl, hr⟩
      · obtain ⟨el', hel', hc⟩ := List.mem_map.mp hm
        rw [← hc]; exact ihc ht el' hel'
      · exact hclean hr

theorem yields_length {h : Heap K V} {xs : List (K × V × Nat)} {t : PQF.Term} (hy : Yields cmp ee h xs t) :
    xs.length ≤ PQF.pendingCount h := by
  obtain ⟨_, ⟨r, hp, _⟩, _⟩ := yields_spec hy
  rw [pendingCount_eq, ← hp.length_eq, List.length_append]
  exact Nat.le_add_right _ _

/-- the order within one input is kept (every input on the heap at most once) -/
theorem yields_filter (i : Nat) {h : Heap K V} {xs : List (K × V × Nat)} {t : PQF.Term}
    (hy : Yields cmp ee h xs t) (nd : (h.map (·.ctx)).Nodup) :
    ∃ r, xs.filter (fun o => o.2.2 == i) ++ r = (pending h).filter (fun o => o.2.2 == i) ∧ (t = .done → r = []) := by
  induction hy with
  | done hn => cases next_done hn; exact ⟨[], rfl, fun _ => rfl⟩
  | err _ => exact ⟨_, List.nil_append _, nofun⟩
  | item hn _ ih =>
    obtain ⟨_, hp, top, tl, rfl, rfl, _⟩ := next_item hn
    have nd' := ((hp.map _).nodup_iff).mpr (nodup_pop nd)
    obtain ⟨r, ihr, ihd⟩ := ih nd'
    refine ⟨r, ?_, ihd⟩
    rw [pending_pop, List.filter_cons, List.filter_cons, ← filter_pending_perm i hp nd', ← ihr]
    split <;> rfl

/-- `run` with enough fuel is such a sequence (the fuel never runs out) -/
theorem run_yields : ∀ (fuel : Nat) (h : Heap K V),
    (pending h).length < fuel → Yields cmp ee h (PQF.run cmp ee fuel h).1 (PQF.run cmp ee fuel h).2 := by
  intro fuel
  induction fuel with
  | zero => intro h hf; exact absurd hf (Nat.not_lt_zero _)
  | succ n ih =>
    intro h hf
    unfold PQF.run
    cases hn : PQF.next cmp ee h with
    | done => exact Yields.done hn
    | err e => exact Yields.err hn
    | item o h' =>
      obtain ⟨_, hp, top, tl, rfl, rfl, _⟩ := next_item hn
      rw [pending_pop, List.length_cons, ← (pending_perm hp).length_eq] at hf
      exact Yields.item hn (ih h' (Nat.lt_of_succ_lt_succ hf))

theorem yields_clean_done {h : Heap K V} {xs : List (K × V × Nat)} {t : PQF.Term} (hc : ∀ c, ee c = none)
    (hy : Yields cmp ee h xs t) : t = .done := by
  induction hy with
  | done _ => rfl
  | err hn => obtain ⟨top, _, _, _, he⟩ := next_err hn; rw [hc] at he; cases he
  | item _ _ ih => exact ih

theorem pq_next (h : Heap K V) :
    PQ.next cmp h = (match PQF.next cmp (fun _ => none) h with | .item o h' => some (o, h') | _ => none) := by
  cases h with
  | nil => rfl
  | cons top tl =>
    cases hr : top.rest with
    | cons kv r => simp only [PQ.next, PQF.next, hr]
    | nil => simp only [PQ.next, PQF.next, hr]; cases (top :: tl).getLast? <;> rfl

theorem drainAux_eq_run : ∀ (F : Nat) (h : Heap K V),
    PQ.drainAux cmp F h = (PQF.run cmp (fun _ => none) F h).1
  | 0, _ => rfl
  | F + 1, h => by
    unfold PQ.drainAux PQF.run
    rw [pq_next]
    cases PQF.next cmp (fun _ => none) h with
    | item o h' => simp only [drainAux_eq_run F h']
    | done => rfl
    | err e => rfl

/-- when no input ends in an error the fallible heap returns what `drainAux` returns, and ends in Done -/
theorem run_clean (hc : ∀ c, ee c = none) (F : Nat) (h : Heap K V) (hf : (pending h).length < F) :
    PQF.run cmp ee F h = (PQ.drainAux cmp F h, .done) := by
  obtain rfl : ee = fun _ => none := funext hc
  rw [drainAux_eq_run, ← yields_clean_done (fun _ => rfl) (run_yields (ee := fun _ => none) F h hf)]

theorem drainAux_yields (F : Nat) (h : Heap K V) (hf : (pending h).length < F) :
    Yields cmp (fun _ => none) h (PQ.drainAux cmp F h) .done := by
  have hy := run_yields (cmp := cmp) (ee := fun _ => none) F h hf
  rwa [run_clean (fun _ => rfl) F h hf] at hy

/-! ### what `init` puts on the heap

Inputs are paired with their numbers by `zipIdx`.  All that is needed of the numbers is that they differ, so the
lemmas are about any list of numbered inputs. -/

/-- a numbered input as a heap element (none if it is empty) -/
def elemOf : List (K × V) × Nat → Option (PElem K V)
  | ([], _) => none
  | ((k, v) :: rest, i) => some ⟨k, v, i, rest⟩

/-- a numbered input as tagged items -/
def tagOf (p : List (K × V) × Nat) : List (K × V × Nat) := p.1.map fun (k, v) => (k, v, p.2)

theorem tagged_eq (ins : List (List (K × V))) : tagged ins = ins.zipIdx.flatMap tagOf := by
  have h : ∀ n, ((List.range' n ins.length).zip ins).flatMap (fun (i, l) => l.map fun (k, v) => (k, v, i)) =
      (ins.zipIdx n).flatMap tagOf := by
    induction ins with
    | nil => intro n; rfl
    | cons l ins ih =>
      intro n
      rw [List.length_cons, List.range'_succ, List.zip_cons_cons, List.flatMap_cons, ih, List.zipIdx_cons,
        List.flatMap_cons]
      rfl
  rw [tagged, List.range_eq_range', h]

theorem elemOf_eq_some {p : List (K × V) × Nat} {e : PElem K V} (h : elemOf p = some e) :
    p = ((e.key, e.val) :: e.rest, e.ctx) := by
  match p, h with
  | ((k, v) :: rest, i), h => cases h; rfl

theorem pending_elems (L : List (List (K × V) × Nat)) : pending (L.filterMap elemOf) = L.flatMap tagOf := by
  induction L with
  | nil => rfl
  | cons p L ih =>
    match p with
    | ([], i) => rw [List.filterMap_cons_none (f := elemOf) rfl, ih]; rfl
    | ((k, v) :: rest, i) => rw [List.filterMap_cons_some (f := elemOf) rfl, pending_cons, ih]; rfl

theorem elems_ctx_sublist (L : List (List (K × V) × Nat)) :
    ((L.filterMap elemOf).map (·.ctx)).Sublist (L.map (·.2)) := by
  induction L with
  | nil => exact .slnil
  | cons p L ih =>
    match p with
    | ([], i) => rw [List.filterMap_cons_none (f := elemOf) rfl]; exact ih.cons _
    | ((k, v) :: rest, i) => rw [List.filterMap_cons_some (f := elemOf) rfl]; exact ih.cons_cons _

theorem elems_ok (ins : List (List (K × V))) (n : Nat) (hs : ∀ l ∈ ins, NonDesc cmp l) :
    AllOK cmp ((ins.zipIdx n).filterMap elemOf) := by
  intro e he
  obtain ⟨p, hp, hpe⟩ := List.mem_filterMap.mp he
  have := hs p.1 (List.fst_mem_of_mem_zipIdx hp)
  rwa [elemOf_eq_some hpe] at this

theorem initAux_spec (hl : LawfulCmp cmp) (ins : List (List (K × V))) :
    ∀ (h : Heap K V) (n : Nat), HeapOrd cmp h →
      HeapOrd cmp (initAux cmp h n ins) ∧ (initAux cmp h n ins).Perm (h ++ (ins.zipIdx n).filterMap elemOf) := by
  induction ins with
  | nil => intro h n ho; simp [initAux, ho]
  | cons l ins ih =>
    intro h n ho
    rw [List.zipIdx_cons]
    cases l with
    | nil => rw [initAux, List.filterMap_cons_none (f := elemOf) rfl]; exact ih h (n + 1) ho
    | cons kv rest =>
      obtain ⟨k, v⟩ := kv
      rw [initAux, List.filterMap_cons_some (f := elemOf) rfl]
      obtain ⟨ho1, hp1⟩ := upHeap_append hl h ⟨k, v, n, rest⟩ ho
      obtain ⟨ho2, hp2⟩ := ih _ (n + 1) ho1
      exact ⟨ho2, hp2.trans ((hp1.append_right _).trans (.of_eq (List.append_assoc _ _ _)))⟩

theorem init_spec (hl : LawfulCmp cmp) (ins : List (List (K × V))) :
    HeapOrd cmp (init cmp ins) ∧ (init cmp ins).Perm (ins.zipIdx.filterMap elemOf) :=
  initAux_spec hl ins [] 0 heapOrd_nil

theorem tagged_length (ins : List (List (K × V))) : (tagged ins).length = total ins := by
  have h : (fun a : List (K × V) × Nat => (tagOf a).length) = List.length ∘ Prod.fst :=
    funext fun _ => List.length_map _
  rw [tagged_eq, List.length_flatMap, h, ← List.map_map, List.zipIdx_map_fst, total]

theorem mem_tagged (ins : List (List (K × V))) (k : K) (v : V) (c : Nat) :
    (k, v, c) ∈ tagged ins ↔ ∃ l, ins[c]? = some l ∧ (k, v) ∈ l := by
  rw [tagged_eq, List.mem_flatMap]
  constructor
  · rintro ⟨⟨l, i⟩, hp, hx⟩
    obtain ⟨⟨k', v'⟩, hy, heq⟩ := List.mem_map.mp hx
    cases heq
    exact ⟨l, List.mk_mem_zipIdx_iff_getElem?.mp hp, hy⟩
  · rintro ⟨l, hl, hm⟩
    exact ⟨(l, c), List.mk_mem_zipIdx_iff_getElem?.mpr hl, List.mem_map.mpr ⟨(k, v), hm, rfl⟩⟩

theorem filter_tag (l : List (K × V)) (n i : Nat) :
    (l.map fun (k, v) => (k, v, n)).filter (fun o => o.2.2 == i) =
      if n = i then l.map fun (k, v) => (k, v, n) else [] := by
  rw [List.filter_map]
  by_cases h : n = i
  · rw [if_pos h, List.filter_eq_self.mpr fun _ _ => by simpa using h]
  · rw [if_neg h, List.filter_eq_nil_iff.mpr fun _ _ => by simpa using h, List.map_nil]

/-- the items of one input, in a tagged union of inputs with different numbers -/
theorem filter_tagged {L : List (List (K × V) × Nat)} (nd : (L.map (·.2)).Nodup) {l : List (K × V)} {j : Nat}
    (hm : (l, j) ∈ L) : ((L.flatMap tagOf).filter (fun o => o.2.2 == j)).map (fun o => (o.1, o.2.1)) = l := by
  induction L with
  | nil => cases hm
  | cons p L ih =>
    obtain ⟨hp, nd'⟩ := List.nodup_cons.mp nd
    rw [List.flatMap_cons, List.filter_append, List.map_append, tagOf, filter_tag]
    rcases List.mem_cons.mp hm with rfl | hm
    · have h1 : (L.flatMap tagOf).filter (fun o => o.2.2 == j) = [] := by
        rw [List.filter_eq_nil_iff]
        intro x hx
        obtain ⟨q, hq, hxq⟩ := List.mem_flatMap.mp hx
        obtain ⟨y, _, rfl⟩ := List.mem_map.mp hxq
        simp only [beq_iff_eq]
        exact fun h => hp (List.mem_map.mpr ⟨q, hq, h⟩)
      rw [h1, if_pos rfl, List.map_nil, List.append_nil, List.map_map]
      exact List.map_id'' (fun _ => rfl) _
    · rw [if_neg fun h => hp (List.mem_map.mpr ⟨(l, j), hm, h.symm⟩), List.map_nil, List.nil_append]
      exact ih nd' hm

end PQB

open PQB

/-- what `init` leaves pending: all items -/
theorem pending_init {cmp : K → K → Ordering} (hl : LawfulCmp cmp) (inputs : List (List (K × V))) :
    (pending (init cmp inputs)).Perm (tagged inputs) ∧ (pending (init cmp inputs)).length = total inputs := by
  have hpend : (pending (init cmp inputs)).Perm (tagged inputs) := by
    rw [tagged_eq, ← pending_elems]; exact pending_perm (init_spec hl inputs).2
  exact ⟨hpend, by rw [hpend.length_eq, tagged_length]⟩

/-- The queue over any number of non-descending inputs returns every item of every input exactly once
(together with the number of its input), in non-descending key order. -/
theorem pq_sorted_merge (cmp : K → K → Ordering) (hl : LawfulCmp cmp) (inputs : List (List (K × V)))
    (hs : ∀ l ∈ inputs, NonDesc cmp l) :
    (drain cmp inputs).Pairwise (fun a b => cmp a.1 b.1 ≠ .gt) ∧
    (drain cmp inputs).Perm (tagged inputs) := by
  obtain ⟨ho, hp⟩ := init_spec hl inputs
  obtain ⟨hpend, hlen⟩ := pending_init hl inputs
  obtain ⟨h1, ⟨r, h2, hr⟩, _⟩ :=
    yields_spec (drainAux_yields (cmp := cmp) _ _ (Nat.lt_succ_of_le (Nat.le_of_eq hlen)))
  cases hr rfl
  rw [List.append_nil] at h2
  exact ⟨h1 hl ho (allOK_perm hp.symm (elems_ok inputs 0 hs)), h2.trans hpend⟩

/-- Items of one input keep their relative order, whether or not the inputs are sorted: each input is on the
heap at most once, so its items leave one after the other. -/
theorem pq_per_input_order_any (cmp : K → K → Ordering) (hl : LawfulCmp cmp) (inputs : List (List (K × V)))
    (i : Nat) (hi : i < inputs.length) :
    ((drain cmp inputs).filter (fun o => o.2.2 == i)).map (fun o => (o.1, o.2.1)) = inputs[i] := by
  have hp := (init_spec hl inputs).2
  have nd : ((init cmp inputs).map (·.ctx)).Nodup := ((hp.map _).nodup_iff).mpr ((elems_ctx_sublist _).nodup (zipIdx_nodup inputs 0))
  obtain ⟨r, h1, hr⟩ := yields_filter i
    (drainAux_yields (cmp := cmp) _ _ (Nat.lt_succ_of_le (Nat.le_of_eq (pending_init hl inputs).2))) nd
  cases hr rfl
  rw [List.append_nil] at h1
  unfold drain
  rw [h1, filter_pending_perm i hp nd, pending_elems]
  exact filter_tagged (zipIdx_nodup inputs 0) (List.mk_mem_zipIdx_iff_getElem?.mpr (List.getElem?_eq_getElem hi))

/-- Items of one input keep their relative order. -/
theorem pq_per_input_order (cmp : K → K → Ordering) (hl : LawfulCmp cmp) (inputs : List (List (K × V)))
    (hs : ∀ l ∈ inputs, NonDesc cmp l) (i : Nat) (hi : i < inputs.length) :
    ((drain cmp inputs).filter (fun o => o.2.2 == i)).map (fun o => (o.1, o.2.1)) = inputs[i] := by
  have _ := hs  -- not used: the order within an input is kept whether or not the inputs are sorted
  exact pq_per_input_order_any cmp hl inputs i hi

end SST.Proofs
