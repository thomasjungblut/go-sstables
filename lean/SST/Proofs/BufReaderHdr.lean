/-
Header reading over the buffered stack.  `binary.ReadUvarint` over any byte reader that hands out a window of bytes
and ends as a `Win` of the model says (`Src`) is `uvarintDec` of the window under `Win.map`.  The counting reader is
such a reader over the whole stream (`plainWin`), the checksum byte reader over the 36-byte header window (`fileWin`);
`readCanonicalUvarint` through the latter is `canonDec` on `fileWin`.  With that the record header readers of the
three file versions do what the pure readers (`readHeader`, `readHeaderS3`, `readHeaderS2`) do on the raw stream: one
postcondition `HdrPost` for all three, reached field by field (`ckrd_canonical_then`, `crd_uvarint_then`).
-/
import SST.Proofs.BufReaderFull
import SST.Proofs.RecordIOHeader
namespace SST.Buf
open SST Generated

/-- `step` hands out the bytes of a window one at a time (`R st w j`: the state `st` has `w` left to hand out
after `j` bytes) and at its end fails as the window `W` says; `endN`: Go's `ReadUvarint` turns an EOF inside a varint
into ErrUnexpectedEOF and passes any other error on -/
structure Src {σ : Type} (step : σ → Except XErr UInt8 × σ) (R : σ → Bytes → Nat → Prop) (W : Win) : Prop where
  cons : ∀ st x t j, R st (x :: t) j → ∃ st', step st = (.ok x, st') ∧ R st' t (j + 1)
  nil : ∀ st j, R st [] j → ∃ st', step st = (.error (.e W.end0), st')
  endN : W.endN = if W.end0 = .eof then .unexpectedEof else W.end0

theorem readUvarintLoop_spec {σ : Type} {step : σ → Except XErr UInt8 × σ} {R : σ → Bytes → Nat → Prop}
    {W : Win} (hsrc : Src step R W) : ∀ (f i x sh : Nat) (st : σ) (w : Bytes) (j : Nat), i + f = 10 →
    R st w j →
    ∃ st', readUvarintLoop step f i x sh st = (liftE ((W.map (uvarintDecAux w i x sh)).map Prod.fst), st') ∧
      ∀ v i', uvarintDecAux w i x sh = .ok (v, i') →
        ∃ m, i' = i + m ∧ R st' (w.drop m) (j + m) ∧ 0 < m := by
  intro f
  induction f with
  | zero =>
    intro i x sh st w j hi _
    rw [uvarintDecAux_overflow w i x sh (Nat.le_of_eq hi.symm)]
    exact ⟨st, rfl, fun v i' h => by cases h⟩
  | succ f ih =>
    intro i x sh st w j hi hR
    have h10 : i < 10 := hi ▸ Nat.lt_add_of_pos_right (Nat.succ_pos f)
    cases w with
    | nil =>
      obtain ⟨st', hst⟩ := hsrc.nil st j hR
      rw [uvarintDecAux, if_neg (Nat.not_le.mpr h10)]
      refine ⟨st', ?_, fun v i' h => by split at h <;> cases h⟩
      simp only [readUvarintLoop, hst]
      by_cases h0 : i = 0
      · rw [if_neg (fun h => Nat.ne_of_gt h.1 h0), if_pos h0]
        rfl
      · rw [if_neg h0]
        show _ = (Except.error (XErr.e W.endN), st')
        rw [hsrc.endN]
        by_cases he : W.end0 = .eof
        · rw [if_pos ⟨Nat.pos_of_ne_zero h0, by rw [he]⟩, if_pos he]
        · rw [if_neg (fun h => he (XErr.e.inj h.2)), if_neg he]
    | cons b bs =>
      obtain ⟨st', hst, hR'⟩ := hsrc.cons st b bs j hR
      by_cases hb : b.toNat < 128
      · rw [uvarintDecAux_last b bs i x sh h10 hb, Nat.mod_eq_of_lt hb]
        by_cases hov : i = 9 ∧ b.toNat > 1
        · rw [if_pos hov]
          exact ⟨st', by simp only [readUvarintLoop, hst, if_pos hb, if_pos hov]; rfl,
            fun v i' h => by cases h⟩
        · rw [if_neg hov]
          refine ⟨st', by simp only [readUvarintLoop, hst, if_pos hb, if_neg hov]; rfl, fun v i' h => ?_⟩
          cases h
          exact ⟨1, rfl, hR', Nat.one_pos⟩
      · obtain ⟨st'', h1, h2⟩ :=
          ih (i + 1) (x + (b.toNat - 128) * 2 ^ sh) (sh + 7) st' bs (j + 1)
            ((Nat.add_right_comm i 1 f).trans hi) hR'
        rw [uvarintDecAux, if_neg (Nat.not_le.mpr h10), if_neg hb]
        refine ⟨st'', by simp only [readUvarintLoop, hst, if_neg hb]; exact h1, fun v i' h => ?_⟩
        obtain ⟨m, rfl, h3, _⟩ := h2 v i' h
        exact ⟨m + 1, Nat.add_right_comm i 1 m, Nat.add_right_comm j 1 m ▸ h3, Nat.succ_pos _⟩

/-- `binary.ReadUvarint` over a window = `uvarintDec` of the window, with the window's way of ending -/
theorem readUvarint_spec {σ : Type} {step : σ → Except XErr UInt8 × σ} {R : σ → Bytes → Nat → Prop}
    {W : Win} (hsrc : Src step R W) (st : σ) (w : Bytes) (j : Nat) (hR : R st w j) :
    ∃ st', readUvarint step st = (liftE ((W.map (uvarintDec w)).map Prod.fst), st') ∧
      ∀ v n, uvarintDec w = .ok (v, n) → R st' (w.drop n) (j + n) ∧ 0 < n := by
  obtain ⟨st', h1, h2⟩ := readUvarintLoop_spec hsrc 10 0 0 0 st w j rfl hR
  refine ⟨st', h1, fun v n h => ?_⟩
  obtain ⟨m, rfl, h3⟩ := h2 v n h
  rw [Nat.zero_add]
  exact h3

/-- the whole stream as a window: EOF at its end -/
def plainWin : Win := ⟨[], .eof, .unexpectedEof⟩

theorem plainWin_map {α : Type} (r : Except Err α) : plainWin.map r = r := by
  unfold Win.map; split <;> rfl

theorem src_crd (cap : Nat) (ed : Bool) : Src CRd.readByte (CRd.Rep cap ed) plainWin where
  cons := fun _ _ _ _ h => crd_readByte_cons h
  nil := fun _ _ h => (crd_readByte_nil h).imp fun _ h => h.1
  endN := rfl

/-- `ReadUvarint` straight from the counting reader = `uvarintDec` of the stream -/
theorem crd_readUvarint {cap : Nat} {ed : Bool} {c : CRd} {s : Bytes} {k : Nat} (h : c.Rep cap ed s k) :
    ∃ c', readUvarint CRd.readByte c = (liftE ((uvarintDec s).map Prod.fst), c') ∧
      ∀ v n, uvarintDec s = .ok (v, n) → c'.Rep cap ed (s.drop n) (k + n) := by
  obtain ⟨c', g, hR⟩ := readUvarint_spec (src_crd cap ed) c s k h
  rw [plainWin_map] at g
  exact ⟨c', g, fun v n hd => (hR v n hd).1⟩

/-- reading the header window `s0.take 36` of the stream `s0` through the checksum byte reader: the window is
what is cached (`j` bytes) followed by `w`; the counting reader stands before `w` and the rest of the stream -/
def RK (cap : Nat) (ed : Bool) (s0 : Bytes) (k0 : Nat) (h : CkRd) (w : Bytes) (j : Nat) : Prop :=
  h.cache.length = j ∧ h.cache ++ w = s0.take recordHeaderMax ∧
  h.rd.Rep cap ed (w ++ s0.drop recordHeaderMax) (k0 + j)

theorem RK.cache {cap : Nat} {ed : Bool} {s0 : Bytes} {k0 : Nat} {h : CkRd} {w : Bytes} {j : Nat}
    (hR : RK cap ed s0 k0 h w j) : h.cache = (s0.take recordHeaderMax).take j := by
  rw [← hR.2.1, List.take_left' hR.1]

theorem RK.rep {cap : Nat} {ed : Bool} {s0 : Bytes} {k0 : Nat} {h : CkRd} {w : Bytes} {j : Nat}
    (hR : RK cap ed s0 k0 h w j) : h.rd.Rep cap ed (s0.drop j) (k0 + j) := by
  have : s0.drop j = w ++ s0.drop recordHeaderMax :=
    calc s0.drop j = (h.cache ++ (w ++ s0.drop recordHeaderMax)).drop j := by
          rw [← List.append_assoc, hR.2.1, List.take_append_drop]
      _ = w ++ s0.drop recordHeaderMax := List.drop_left' hR.1
  rw [this]; exact hR.2.2

theorem src_ckrd (cap : Nat) (ed : Bool) (s0 : Bytes) (k0 : Nat) :
    Src CkRd.readByte (RK cap ed s0 k0) (fileWin s0) where
  cons := fun h x t j ⟨hj, hw, hrep⟩ => by
    obtain ⟨c', h1, h2⟩ := crd_readByte_cons hrep
    have hlt : ¬ h.cache.length ≥ recordHeaderMax := by
      have := List.length_take_le recordHeaderMax s0
      rw [← hw, List.length_append, List.length_cons] at this
      omega
    refine ⟨{ rd := c', cache := h.cache ++ [x] }, ?_, by simp [hj], by simp [← hw], by simpa [Nat.add_assoc] using h2⟩
    simp only [CkRd.readByte, h1]
    rw [if_neg hlt]
  nil := fun h j ⟨hj, hw, hrep⟩ => by
    rw [List.append_nil] at hw
    rw [List.nil_append] at hrep
    rw [fileWin_end0]
    by_cases hlong : s0.length > recordHeaderMax
    · -- more than 36 bytes left: the 37th is consumed, then the range check fails
      cases hd : s0.drop recordHeaderMax with
      | nil => exact absurd (List.drop_eq_nil_iff.mp hd) (Nat.not_le_of_lt hlong)
      | cons y ys =>
        rw [hd] at hrep
        obtain ⟨c', h1, _⟩ := crd_readByte_cons hrep
        have hge : h.cache.length ≥ recordHeaderMax := by
          rw [hw, List.length_take_of_le (Nat.le_of_lt hlong)]
          exact Nat.le_refl _
        refine ⟨{ h with rd := c' }, ?_⟩
        simp only [CkRd.readByte, h1, if_pos hlong]
        rw [if_pos hge]
    · rw [List.drop_of_length_le (Nat.le_of_not_lt hlong)] at hrep
      obtain ⟨c', h1, _⟩ := crd_readByte_nil hrep
      exact ⟨{ h with rd := c' }, by simp only [CkRd.readByte, h1, if_neg hlong]⟩
  endN := by unfold fileWin; split <;> rfl

/-- `readCanonicalUvarint` through the checksum reader = `canonDec` on the window -/
theorem readCanonical_spec {cap : Nat} {ed : Bool} {s0 : Bytes} {k0 : Nat} {h : CkRd} {w : Bytes} {j : Nat}
    (hR : RK cap ed s0 k0 h w j) :
    ∃ h', match canonDec (fileWin s0) w with
      | .error e => readCanonical h = (.error (.e e), h') ∧ e ≠ .magic
      | .ok (v, n) => readCanonical h = (.ok v, h') ∧ RK cap ed s0 k0 h' (w.drop n) (j + n) ∧
          uvarintDec w = .ok (v, n) := by
  obtain ⟨h', h1, hR'⟩ := readUvarint_spec (src_ckrd cap ed s0 k0) h w j hR
  refine ⟨h', ?_⟩
  rw [Proofs.canonDec_eq]
  have hne := fileWin_map_ne_magic s0 w
  cases hm : (fileWin s0).map (uvarintDec w) with
  | error e =>
    rw [hm] at h1 hne
    exact ⟨by simp only [readCanonical, h1]; rfl, fun he => hne (he ▸ rfl)⟩
  | ok p =>
    obtain ⟨v, n⟩ := p
    have hdec := Proofs.Win.map_ok_inv _ _ _ hm
    rw [hm] at h1
    replace h1 : readUvarint CkRd.readByte h = (.ok v, h') := h1
    obtain ⟨R', hn⟩ := hR' v n hdec
    -- what the read has added to the cache is the varint itself
    have hc : h'.cache = h.cache ++ w.take n :=
      List.append_cancel_right (by rw [R'.2.1, List.append_assoc, List.take_append_drop, hR.2.1])
    have hlen : h'.cache.length - h.cache.length = n := by rw [R'.1, hR.1, Nat.add_sub_cancel_left]
    have hlast : h'.cache.getD (h'.cache.length - 1) 0 = w.getD (n - 1) 0 := by
      have hidx : h'.cache.length - 1 = h.cache.length + (n - 1) := by
        rw [R'.1, hR.1]
        exact Nat.add_sub_assoc hn j
      rw [hidx, hc, List.getD_eq_getElem?_getD, List.getD_eq_getElem?_getD,
        List.getElem?_append_right (Nat.le_add_right _ _), Nat.add_sub_cancel_left,
        List.getElem?_take_of_lt (Nat.sub_lt hn Nat.one_pos)]
    simp only []
    by_cases hcanon : n > 1 ∧ w.getD (n - 1) 0 = 0
    · rw [if_pos hcanon]
      exact ⟨by simp only [readCanonical, h1, hlen, hlast, if_pos hcanon], by simp⟩
    · rw [if_neg hcanon]
      exact ⟨by simp only [readCanonical, h1, hlen, hlast, if_neg hcanon], R', hdec⟩

theorem liftE_ok {α : Type} (a : α) : liftE (.ok a : Except Err α) = .ok a := rfl
theorem liftE_error {α : Type} (e : Err) : liftE (.error e : Except Err α) = .error (.e e) := rfl

/-- what a record header reader over the stack has done when the pure reader gives `hdr` on the stream `s`
(`k` bytes consumed before it): Go's result is `hdr` up to `hlen` (only the V4 reader computes it; the callers use
the difference of `Count()`), and the stack stands at the end of the header, or behind the magic varint after a
magic-number mismatch; after any other error nothing is claimed about the stack -/
inductive HdrPost (cap : Nat) (ed : Bool) (s : Bytes) (k : Nat) :
    Except Err RecHeader → Except XErr RecHeader → CRd → Prop
  | ok {hd : RecHeader} {l : Nat} {c' : CRd} : c'.Rep cap ed (s.drop hd.hlen) (k + hd.hlen) →
      HdrPost cap ed s k (.ok hd) (.ok { hd with hlen := l }) c'
  | magic {v c1 : Nat} {c' : CRd} : uvarintDec s = .ok (v, c1) → c'.Rep cap ed (s.drop c1) (k + c1) →
      HdrPost cap ed s k (.error .magic) (.error (.e .magic)) c'
  | error {e : Err} {c' : CRd} : e ≠ .magic → HdrPost cap ed s k (.error e) (.error (.e e)) c'

/-- one canonical varint of the V4 header through the checksum reader, then the rest `K` of the reader (`KS` on
the window) -/
theorem ckrd_canonical_then {cap : Nat} {ed : Bool} {s0 : Bytes} {k0 : Nat} {h : CkRd} {w : Bytes} {j : Nat}
    {K : Nat → CkRd → Except XErr RecHeader × CkRd} {KS : Nat → Nat → Except Err RecHeader}
    (hR : RK cap ed s0 k0 h w j)
    (hok : ∀ v n h1, uvarintDec w = .ok (v, n) → RK cap ed s0 k0 h1 (w.drop n) (j + n) →
      ∃ res h', K v h1 = (res, h') ∧ HdrPost cap ed s0 k0 (KS v n) res h'.rd) :
    ∃ res h', (match readCanonical h with
        | (.error e, h1) => (.error e, h1)
        | (.ok v, h1) => K v h1) = (res, h') ∧
      HdrPost cap ed s0 k0 (match canonDec (fileWin s0) w with
        | .error e => .error e
        | .ok (v, n) => KS v n) res h'.rd := by
  obtain ⟨h1, hs⟩ := readCanonical_spec hR
  cases hc : canonDec (fileWin s0) w with
  | error e =>
    rw [hc] at hs
    exact ⟨_, h1, by rw [hs.1], .error hs.2⟩
  | ok p =>
    obtain ⟨v, n⟩ := p
    rw [hc] at hs
    obtain ⟨res, h', g', hP⟩ := hok v n h1 hs.2.2 hs.2.1
    exact ⟨res, h', by rw [hs.1]; exact g', hP⟩

/-- `readRecordHeaderV4` through checksum reader, counting reader and buffered reader = `readHeader` on the
36-byte window of the raw stream -/
theorem readRecordHeaderV4_spec {cap : Nat} {ed : Bool} {c : CRd} {s0 : Bytes} {k0 : Nat}
    (hrep : c.Rep cap ed s0 k0) :
    ∃ res h', readRecordHeaderV4 { rd := c, cache := [] } = (res, h') ∧
      HdrPost cap ed s0 k0 (readHeader (fileWin s0)) res h'.rd := by
  have hR0 : RK cap ed s0 k0 { rd := c, cache := [] } (s0.take recordHeaderMax) 0 :=
    ⟨rfl, rfl, by simpa using hrep⟩
  rw [Proofs.readHeader_eq, fileWin_bytes_eq]
  unfold readRecordHeaderV4
  refine ckrd_canonical_then hR0 fun m c1 h1 hu1 R1 => ?_
  rw [Nat.zero_add] at R1
  by_cases hm : m ≠ magicNumber
  · rw [if_pos hm, if_pos hm]
    exact ⟨_, _, rfl, .magic (Proofs.uvarintDec_take_ok hu1) R1.rep⟩
  · rw [if_neg hm, if_neg hm]
    cases hd1 : (s0.take recordHeaderMax).drop c1 with
    | nil =>
      rw [hd1] at R1
      obtain ⟨h2, g2⟩ := (src_ckrd cap ed s0 k0).nil h1 c1 R1
      exact ⟨_, h2, by rw [g2], .error (by rw [fileWin_end0]; split <;> simp)⟩
    | cons nb rest =>
      rw [hd1] at R1
      obtain ⟨h2, g2, R2⟩ := (src_ckrd cap ed s0 k0).cons h1 nb rest c1 R1
      rw [g2]
      refine ckrd_canonical_then R2 fun u c2 h3 _ R3 => ?_
      refine ckrd_canonical_then R3 fun cl c3 h4 _ R4 => ?_
      -- the checksum is computed over the same bytes
      rw [R4.cache]
      refine ckrd_canonical_then R4 fun ex c4 h5 _ R5 => ?_
      by_cases hcrc : (crc32c ((s0.take recordHeaderMax).take (c1 + 1 + c2 + c3))).toNat ≠ ex
      · rw [if_pos hcrc, if_pos hcrc]
        exact ⟨_, _, rfl, .error (by simp)⟩
      · rw [if_neg hcrc, if_neg hcrc]
        exact ⟨_, _, rfl, .ok (l := h5.cache.length) R5.rep⟩

/-- one varint of a legacy header (no checksum reader: straight from the counting reader, which stands at `s`),
then the rest `K` of the reader (`KS` on the stream) -/
theorem crd_uvarint_then {cap : Nat} {ed : Bool} {c : CRd} {s s0 : Bytes} {k k0 : Nat}
    {K : Nat → CRd → Except XErr RecHeader × CRd} {KS : Nat → Nat → Except Err RecHeader}
    (h : c.Rep cap ed s k)
    (hok : ∀ v n c1, uvarintDec s = .ok (v, n) → c1.Rep cap ed (s.drop n) (k + n) →
      ∃ res c', K v c1 = (res, c') ∧ HdrPost cap ed s0 k0 (KS v n) res c') :
    ∃ res c', (match readUvarint CRd.readByte c with
        | (.error e, c1) => (.error e, c1)
        | (.ok v, c1) => K v c1) = (res, c') ∧
      HdrPost cap ed s0 k0 (match uvarintDec s with
        | .error e => .error e
        | .ok (v, n) => KS v n) res c' := by
  obtain ⟨c1, g, hR⟩ := crd_readUvarint h
  rw [g]
  cases hd : uvarintDec s with
  | error e =>
    refine ⟨_, c1, rfl, .error ?_⟩
    rcases uvarintDecAux_err s 0 0 0 e hd with rfl | rfl | rfl <;> simp
  | ok p => exact hok p.1 p.2 c1 hd (hR p.1 p.2 hd)

theorem readRecordHeaderV3_spec {cap : Nat} {ed : Bool} {c : CRd} {s0 : Bytes} {k0 : Nat}
    (hrep : c.Rep cap ed s0 k0) :
    ∃ res c', readRecordHeaderV3 c = (res, c') ∧ HdrPost cap ed s0 k0 (readHeaderS3 s0) res c' := by
  unfold readRecordHeaderV3 readHeaderS3
  refine crd_uvarint_then hrep fun m c1 c1' hu R1 => ?_
  by_cases hm : m ≠ magicNumber
  · rw [if_pos hm, if_pos hm]
    exact ⟨_, _, rfl, .magic hu R1⟩
  · rw [if_neg hm, if_neg hm]
    cases hd1 : s0.drop c1 with
    | nil =>
      rw [hd1] at R1
      obtain ⟨c2', g2, _⟩ := crd_readByte_nil R1
      exact ⟨_, c2', by rw [g2], .error (by simp)⟩
    | cons nb rest =>
      rw [hd1] at R1
      obtain ⟨c2', g2, R2⟩ := crd_readByte_cons R1
      rw [g2]
      refine crd_uvarint_then R2 fun u c2 c3' _ R3 => ?_
      refine crd_uvarint_then R3 fun cl c3 c4' _ R4 => ?_
      have hdd : s0.drop (c1 + 1 + c2 + c3) = (rest.drop c2).drop c3 := by
        rw [← List.drop_drop, ← List.drop_drop, ← List.drop_drop, hd1]; rfl
      rw [← hdd] at R4
      exact ⟨_, _, rfl, .ok (l := 0) (by simpa only [Nat.add_assoc] using R4)⟩

theorem readRecordHeaderV2_spec {cap : Nat} {ed : Bool} {c : CRd} {s0 : Bytes} {k0 : Nat}
    (hrep : c.Rep cap ed s0 k0) :
    ∃ res c', readRecordHeaderV2 c = (res, c') ∧ HdrPost cap ed s0 k0 (readHeaderS2 s0) res c' := by
  unfold readRecordHeaderV2 readHeaderS2
  refine crd_uvarint_then hrep fun m c1 c1' hu R1 => ?_
  by_cases hm : m ≠ magicNumber
  · rw [if_pos hm, if_pos hm]
    exact ⟨_, _, rfl, .magic hu R1⟩
  · rw [if_neg hm, if_neg hm]
    refine crd_uvarint_then R1 fun u c2 c3' _ R3 => ?_
    refine crd_uvarint_then R3 fun cl c3 c4' _ R4 => ?_
    exact ⟨_, _, rfl, .ok (l := 0) (by simpa only [List.drop_drop, Nat.add_assoc] using R4)⟩

end SST.Buf
