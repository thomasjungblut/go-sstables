/-
Consistent comparators.  First what follows from `LawfulCmp` for any comparator (flipping, `≤` as `≠ .gt`,
transitivity of `≤`); then `bytes.Compare` (`bytesCmp`) is one, with `.eq` being equality, and so is every comparator
that compares by `bytesCmp` after a projection (`lawful_bytesCmp_on`, instantiated as `goCmp_lawful` in
Proofs/MemStore.lean and `keyCmp_lawful` in Proofs/SSTableIndex.lean).
-/
import SST.Model.Bytes
import SST.Spec.Sorted
import SST.Proofs.ListFacts
namespace SST.Proofs
open SST

section Cmp
variable {K : Type}

theorem cmp_flip_gt {cmp : K → K → Ordering} (hl : LawfulCmp cmp) {a b : K}
    (h : cmp a b = .gt) : cmp b a = .lt := by
  rw [hl.swap, h]; rfl

theorem cmp_flip_lt {cmp : K → K → Ordering} (hl : LawfulCmp cmp) {a b : K}
    (h : cmp a b = .lt) : cmp b a = .gt := by
  rw [hl.swap, h]; rfl

theorem cmp_flip_eq {cmp : K → K → Ordering} (hl : LawfulCmp cmp) {a b : K}
    (h : cmp a b = .eq) : cmp b a = .eq := by
  rw [hl.swap, h]; rfl

theorem cmp_le_lt {cmp : K → K → Ordering} (hl : LawfulCmp cmp) {a b c : K}
    (h1 : cmp a b ≠ .gt) (h2 : cmp b c = .lt) : cmp a c = .lt := by
  cases h : cmp a b with
  | lt => exact hl.trans_lt _ _ _ h h2
  | eq => rw [hl.eq_left _ _ c h]; exact h2
  | gt => exact absurd h h1

theorem cmp_lt_of_ne {cmp : K → K → Ordering} {a b : K}
    (h1 : cmp a b ≠ .gt) (h2 : cmp a b ≠ .eq) : cmp a b = .lt := by
  cases h : cmp a b with
  | lt => rfl
  | eq => exact absurd h h2
  | gt => exact absurd h h1

theorem cmp_le_trans {cmp : K → K → Ordering} (hl : LawfulCmp cmp) {a b c : K}
    (h1 : cmp a b ≠ .gt) (h2 : cmp b c ≠ .gt) : cmp a c ≠ .gt :=
  fun h => h1 (cmp_flip_lt hl (cmp_le_lt hl h2 (cmp_flip_gt hl h)))

end Cmp

theorem u8_eq_of {a b : UInt8} (h1 : ¬ a < b) (h2 : ¬ b < a) : a = b :=
  UInt8.le_antisymm (UInt8.not_lt.1 h2) (UInt8.not_lt.1 h1)

theorem bytesCmp_cons (x y : UInt8) (xs ys : Bytes) :
    bytesCmp (x :: xs) (y :: ys) = if x < y then .lt else if y < x then .gt else bytesCmp xs ys := rfl

theorem bytesCmp_eq_iff : ∀ {a b : Bytes}, bytesCmp a b = .eq ↔ a = b
  | [], [] | [], _ :: _ | _ :: _, [] => by simp [bytesCmp]
  | x :: xs, y :: ys => by
    rw [bytesCmp_cons]
    by_cases h1 : x < y
    · simp [h1, UInt8.ne_of_lt h1]
    · by_cases h2 : y < x
      · simp [h1, h2, (UInt8.ne_of_lt h2).symm]
      · simp [u8_eq_of h1 h2, bytesCmp_eq_iff (a := xs)]

theorem bytesCmp_refl (a : Bytes) : bytesCmp a a = .eq := bytesCmp_eq_iff.2 rfl

theorem bytesCmp_swap : ∀ a b : Bytes, bytesCmp a b = (bytesCmp b a).swap
  | [], [] | [], _ :: _ | _ :: _, [] => rfl
  | x :: xs, y :: ys => by
    rw [bytesCmp_cons, bytesCmp_cons]
    by_cases h1 : x < y
    · simp [h1, UInt8.lt_asymm h1]
    · by_cases h2 : y < x
      · simp [h1, h2]
      · simp [h1, h2, bytesCmp_swap xs ys]

theorem bytesCmp_trans_lt : ∀ a b c : Bytes, bytesCmp a b = .lt → bytesCmp b c = .lt → bytesCmp a c = .lt
  | [], [], _ | [], _ :: _, [] | _ :: _, [], _ | _ :: _, _ :: _, [] => by simp [bytesCmp]
  | [], _ :: _, _ :: _ => fun _ _ => rfl
  | x :: xs, y :: ys, z :: zs => by
    simp only [bytesCmp_cons]
    intro h1 h2
    -- the first bytes are ordered x ≤ y ≤ z; where both are equalities the tails decide
    by_cases xy : x < y
    · by_cases yz : y < z
      · simp [UInt8.lt_trans xy yz]
      · by_cases zy : z < y
        · simp [yz, zy] at h2
        · simp [← u8_eq_of yz zy, xy]
    · by_cases yx : y < x
      · simp [xy, yx] at h1
      · obtain rfl := u8_eq_of xy yx
        by_cases xz : x < z
        · simp [xz]
        · by_cases zx : z < x
          · simp [xz, zx] at h2
          · simp only [xy, xz, zx, if_false] at h1 h2 ⊢
            exact bytesCmp_trans_lt xs ys zs h1 h2

theorem lawful_bytesCmp_on {K : Type} (f : K → Bytes) : LawfulCmp fun a b => bytesCmp (f a) (f b) where
  refl _ := bytesCmp_refl _
  swap _ _ := bytesCmp_swap _ _
  trans_lt _ _ _ := bytesCmp_trans_lt _ _ _
  eq_left _ _ _ h := by rw [bytesCmp_eq_iff.1 h]

theorem bytesCmp_lawful : LawfulCmp bytesCmp := lawful_bytesCmp_on id

theorem bytesCmp_lt_irrefl (a : Bytes) : bytesCmp a a ≠ .lt := by
  rw [bytesCmp_refl]; simp

theorem ne_of_lt {a b : Bytes} (h : bytesCmp a b = .lt) : a ≠ b :=
  fun e => bytesCmp_lt_irrefl b (e ▸ h)

theorem bytesCmp_gt_iff {a b : Bytes} : bytesCmp a b = .gt ↔ bytesCmp b a = .lt :=
  ⟨cmp_flip_gt bytesCmp_lawful, cmp_flip_lt bytesCmp_lawful⟩

theorem bytesCmp_lt_of_le_ne {a b : Bytes} (h1 : bytesCmp a b ≠ .gt) (h2 : a ≠ b) : bytesCmp a b = .lt :=
  cmp_lt_of_ne h1 fun h => h2 (bytesCmp_eq_iff.1 h)

theorem bytesCmp_beq_eq_comm (a b : Bytes) : (bytesCmp a b == .eq) = (bytesCmp b a == .eq) := by
  rw [bytesCmp_swap a b]; cases bytesCmp b a <;> rfl

theorem find?_asc {α : Type} (key : α → Bytes) (l : List α)
    (hp : l.Pairwise (fun a b => bytesCmp (key a) (key b) = .lt)) (x : α) (hx : x ∈ l) :
    l.find? (fun y => bytesCmp (key x) (key y) == .eq) = some x := by
  refine find?_eq_some_of_pairwise (fun a b hab hb => ?_) hp hx (by rw [bytesCmp_refl]; rfl)
  rw [bytesCmp_eq_iff.1 (eq_of_beq hb), bytesCmp_swap, hab]; rfl

end SST.Proofs
