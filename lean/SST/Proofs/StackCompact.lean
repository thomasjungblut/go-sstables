/-
L7, compaction.  First the merge: simpledb's `scanReduceLatestWinsKeepTombstones` through the machinery of C08
(`mergeCompact_reads`, `mergeCompact_eq`), and what both reducers write in terms of `DBM.mergeRun`.  Then the
step: selection on the metadata of the byte-level tables = `DBM`'s selection on the layers, the scanners of the
selected tables feed `Merge.mergeCompact` exactly the inputs of C08, the result written through `SstW` decodes to
`DBM.mergeRun`, and `reflectCompactionResult` is parametric in the table type.
-/
import SST.Proofs.StackRead
import SST.Proofs.StackFlush
import SST.Proofs.Merge
namespace SST.Proofs.Stack
open SST SST.Stack

section Merge
open SST.Merge SST.Proofs.MergeGroup SST.Proofs.MergeSpec SST.Proofs.Merge SST.Proofs.MergeLoops

/-- nil and empty become the empty non-nil value -/
def normV : GoBytes → GoBytes
  | some (b :: bs) => some (b :: bs)
  | _ => some []

/-- `scanReduceLatestWinsKeepTombstones` as a value function -/
def keepVal : ValFn := fun vs cs => normV (lwVal vs cs)

/-- the overlay with every nil / empty value replaced by the empty non-nil value -/
def keepEmpty (m : Merge.Table) : Merge.Table := m.map fun p => (p.1, normV p.2)

theorem keep_valReducer : ValReducer Stack.scanReduceLatestWinsKeepTombstones keepVal := by
  intro k vs cs
  unfold Stack.scanReduceLatestWinsKeepTombstones scanReduceLatestWins keepVal lwVal
  generalize vs.getD (maxCtxIndex cs 0 0 0) none = x
  cases x with
  | none => simp [emitOf, bothNonNil, normV]
  | some b => cases b <;> simp [emitOf, bothNonNil, normV]

theorem keepEmpty_asc {m : Merge.Table} (ha : Asc m) : Asc (keepEmpty m) := by
  unfold keepEmpty
  show List.Pairwise _ _
  rw [List.pairwise_map]
  exact ha

theorem tget_keepEmpty (k : Bytes) (m : Merge.Table) : tget (keepEmpty m) k = (tget m k).map normV := by
  rw [tget_eq_find m]
  exact tget_mapVal _ m k

/-- `MergeCompact` with simpledb's keep-tombstones reducer over all tables into a fresh writer succeeds and
writes the overlay, every tombstone / empty value as the empty non-nil value (the C08 theorem for the third
reducer) -/
theorem mergeCompact_keep (ts : List Merge.Table) (hts : ∀ t ∈ ts, Asc t) :
    (mergeCompact ((ts.map toItems).map inputOf) {} Stack.scanReduceLatestWinsKeepTombstones).1 = none ∧
    (mergeCompact ((ts.map toItems).map inputOf) {} Stack.scanReduceLatestWinsKeepTombstones).2.out
      = keepEmpty (overlay ts) :=
  mergeCompact_eq (g := normV) keep_valReducer ts hts (keepEmpty_asc (overlay_asc ts)) fun k => by
    rw [tget_keepEmpty]
    match tget (overlay ts) k with
    | none | some none | some (some []) | some (some (_ :: _)) => rfl

/-- the reducer the compaction chooses, as a function of the newest value -/
def dropG (drop : Bool) : GoBytes → Option Bytes := if drop then nonEmptyVal else normV

theorem mergeVal_eq_red (drop : Bool) (x : Option GoBytes) : Proofs.DB.mergeVal drop x = red (dropG drop) x := by
  cases drop <;> match x with
    | none | some none | some (some []) | some (some (_ :: _)) => rfl

theorem drop_valReducer (drop : Bool) :
    ValReducer (if drop = true then Merge.scanReduceLatestWinsSkipTombstones
      else Stack.scanReduceLatestWinsKeepTombstones) fun vs cs => dropG drop (lwVal vs cs) := by
  cases drop
  · exact keep_valReducer
  · exact skip_valReducer

/-- the merge of a compaction over complete scans of ascending tables succeeds, and what it writes holds the cells of
`DBM.mergeRun` of the related layer tables -/
theorem mergeCompact_cells (drop : Bool) {kvss : List Merge.Table} {run : List DBM.Tbl}
    (h : Rel2 (fun kvs (a : DBM.Tbl) => CellsRel a.cells kvs) kvss run) (hasc : ∀ t ∈ kvss, Asc t) :
    ∃ wr, Merge.mergeCompact ((kvss.map Merge.toItems).map Merge.inputOf) {}
        (if drop = true then Merge.scanReduceLatestWinsSkipTombstones
         else Stack.scanReduceLatestWinsKeepTombstones) = (none, wr) ∧
      Asc wr.out ∧ CellsRel (DBM.mergeRun run drop) wr.out := by
  obtain ⟨wr, hw, ha, hget⟩ := mergeCompact_reads (drop_valReducer drop) kvss hasc
  exact ⟨wr, hw, ha, Proofs.DB.mergeRun_nodup run drop, fun k => by
    rw [Proofs.DB.mergeRun_get, hget, tablesGet_eq h, mergeVal_eq_red]⟩

end Merge

open SST.DBM Generated

theorem normKey_eq_pbKey (k : Bytes) : SST.normKey k = Merge.pbKey k := by
  cases k <;> rfl

theorem normKV_toItems (kvs : List KV) : kvs.map normKV = Merge.toItems kvs := by
  unfold Merge.toItems
  apply List.map_congr_left
  intro p _
  simp [normKV, normKey_eq_pbKey]

/-- bridging C03 → C08: the full scanners of the selected tables deliver the items of the Merge model's
abstract readers and end with Done -/
theorem scanAll_ok {P : Params} {sel : List LiveTbl} {kvss : List (List KV)} (h : Rel2 (TblDec P) sel kvss) :
    scanAll P sel = .ok (kvss.map fun kvs => ((Merge.toItems kvs, IterEnd.done) : ScanRes)) := by
  induction h with
  | nil => rfl
  | cons hab _ ih => simp only [scanAll, hab.opened, hab.reads.scan, ih, normKV_toItems, List.map_cons]

theorem scanInputs_eq (kvss : List (List KV)) :
    (kvss.map fun kvs => ((Merge.toItems kvs, IterEnd.done) : ScanRes)).map scanInput =
      (kvss.map Merge.toItems).map Merge.inputOf := by
  simp only [List.map_map]
  apply List.map_congr_left
  intro kvs _
  rfl

/-- truthful metadata: the candidate test on the reader's metadata is `DBM`'s test on the layer -/
theorem candidate_eq {P : Params} {t : LiveTbl} {a : Tbl} (h : TblRel P t a) (o : Opts) :
    DBM.candidate o a t.rd.md.totalBytes = candidateMd o t.rd.md := by
  obtain ⟨kvs, hd, hc⟩ := h.dec
  have hn : t.rd.md.numRecords = DBM.numRecords a := by
    rw [hd.md]; unfold DBM.numRecords; rw [cells_length hc hd.asc]; rfl
  have hz : t.rd.md.nullValues = DBM.nullValues a := by
    rw [hd.md]; unfold DBM.nullValues; rw [cells_nulls hc hd.asc]; rfl
  unfold DBM.candidate candidateMd
  rw [hn, hz]

theorem flags_eq {P : Params} {ts : List LiveTbl} {as : List Tbl} (h : Rel2 (TblRel P) ts as) (o : Opts) :
    (as.zip (ts.map (·.rd.md.totalBytes))).map (fun x => DBM.candidate o x.1 x.2) =
      ts.map fun t => candidateMd o t.rd.md := by
  induction h with
  | nil => rfl
  | cons hab _ ih =>
    simp only [List.map_cons, List.zip_cons_cons, candidate_eq hab, ih]

/-- `startsAtOldestTable` (`selectedForCompaction[0]`) is "the first selected position is 0" -/
theorem first_zero (flags : List Bool) (n first : Nat) (rest : List Nat)
    (h : (List.range n).filter (fun i => flags.getD i false) = first :: rest) :
    flags.getD 0 false = (first == 0) := by
  cases n with
  | zero => cases h
  | succ m =>
    rw [List.range_succ_eq_map, List.filter_cons] at h
    cases hf : flags.getD 0 false with
    | true => rw [hf, if_pos rfl] at h; cases h; rfl
    | false =>
      rw [hf, if_neg Bool.false_ne_true] at h
      have hm : first ∈ ((List.range m).map Nat.succ).filter fun i => flags.getD i false :=
        h ▸ List.mem_cons_self
      obtain ⟨j, _, rfl⟩ := List.mem_map.mp (List.mem_filter.mp hm).1
      rfl

/-- the bloom filter size executeCompaction passes is never 0 -/
theorem newWriter_pos (n : Nat) : newWriter (if n = 0 then 1 else n) = .ok () := by
  unfold newWriter
  split <;> simp_all

/-- the selection and the merge of one compaction cycle, against `DBM.compactStep` -/
theorem compactPlan_spec {P : Params} {c : Stack.State} {s : DBM.State} (h : Rel P c s) :
    (compactPlan P c = .ok none ∧ DBM.compactStep s (sizesOf c) = (s, [])) ∨
    ∃ pl a0 selA, compactPlan P c = .ok (some pl) ∧
      Merge.Asc pl.out ∧ CellsRel (mergeRun (a0 :: selA) (pl.first == 0)) pl.out ∧ pl.gen = a0.gen ∧
      DBM.compactStep s (sizesOf c) =
        ({ s with tables := ((List.range s.tables.length).zip s.tables).flatMap fun x =>
             if x.1 == pl.first then [{ gen := a0.gen, cells := mergeRun (a0 :: selA) (pl.first == 0) }]
             else if pl.idx.contains x.1 then [] else [x.2] }, pl.gens) := by
  have hfl : (c.tables.map fun t => candidateMd s.opts t.rd.md) =
      (s.tables.zip (sizesOf c)).map fun x => candidate s.opts x.1 x.2 := (flags_eq h.tables s.opts).symm
  -- the two computations are followed as hypotheses: the goal mentions each of them twice
  generalize hcp : compactPlan P c = cp
  generalize hds : DBM.compactStep s (sizesOf c) = ds
  unfold DBM.compactStep at hds
  dsimp only at hds
  unfold compactPlan at hcp
  dsimp only at hcp
  rw [h.opts, hfl, h.tables.length_eq] at hcp
  generalize floodFill ((s.tables.zip (sizesOf c)).map fun x => candidate s.opts x.1 x.2) = flags at hcp hds
  generalize hidx : (List.range s.tables.length).filter (fun i => flags.getD i false) = idx at hcp hds
  by_cases hth : (idx.length : Int) ≤ s.opts.threshold
  · rw [if_pos hth] at hds
    simp only [hth, decide_true, Bool.or_true, if_true] at hcp
    subst hcp hds
    exact .inl ⟨rfl, rfl⟩
  · rw [if_neg hth] at hds
    cases idx with
    | nil =>
      subst hcp hds
      exact .inl ⟨rfl, rfl⟩
    | cons first rest =>
      simp only [hth, decide_false, List.isEmpty_cons, Bool.or_self, Bool.false_eq_true, if_false] at hcp
      have hsel := h.tables.filterMap_get (first :: rest)
      generalize (first :: rest).filterMap (fun i => c.tables[i]?) = selC at hsel hcp
      generalize (first :: rest).filterMap (fun i => s.tables[i]?) = selA at hsel hds
      cases hsel with
      | nil =>
        subst hcp hds
        exact .inl ⟨rfl, rfl⟩
      | @cons t0 a0 selC' selA' h0 hrest =>
        obtain ⟨kvss, h1, h2, hasc⟩ := tables_mid (Rel2.cons h0 hrest)
        obtain ⟨wr, hmc, hwa, hwc⟩ := mergeCompact_cells (first == 0) h2 hasc
        simp only [newWriter_pos, scanAll_ok h1, scanInputs_eq, first_zero flags _ first rest hidx, hmc] at hcp
        subst hcp hds
        refine .inr ⟨_, a0, selA', rfl, hwa, hwc, h0.gen, ?_⟩
        have hg : (t0 :: selC').map (·.gen) = (a0 :: selA').map (·.gen) :=
          Rel2.map_eq (fun _ _ hr => hr.gen) (Rel2.cons h0 hrest)
        simp only [hg]

theorem compact_sim {P : Params} (hP : ParamsOk P) {c : Stack.State} {s : DBM.State} (h : Rel P c s)
    (hok : StepOk P c .compact) :
    ∃ c', Stack.compactStep P c = .ok (c', (DBM.compactStep s (sizesOf c)).2) ∧
      Rel P c' (DBM.compactStep s (sizesOf c)).1 := by
  unfold StepOk at hok
  unfold Stack.compactStep
  rcases compactPlan_spec h with ⟨hp, hd⟩ | ⟨pl, a0, selA, hp, hasc, hcells, hgen, hd⟩
  · rw [hp, hd]
    exact ⟨c, rfl, h⟩
  · rw [hp] at hok ⊢
    simp only at hok
    obtain ⟨t, ht, hg, hdec⟩ := writeAndOpen_ok P hP pl.gen pl.out hasc hok .compactWrite .compactLoad
    rw [hd]
    simp only [ht]
    refine ⟨_, rfl, ?_⟩
    have htab := Rel2.zip_flatMap h.tables (fun i => i == pl.first) (fun i => pl.idx.contains i) t
      { gen := a0.gen, cells := mergeRun (a0 :: selA) (pl.first == 0) }
      ⟨by rw [hg, hgen], _, hdec, hcells⟩ (List.range s.tables.length)
    exact { w := h.w, r := h.r, alias := h.alias, pending := h.pending
            tables := by unfold reflect; rw [h.tables.length_eq]; exact htab
            gen := h.gen, isOpen := h.isOpen, closed := h.closed, opts := h.opts }

end SST.Proofs.Stack
