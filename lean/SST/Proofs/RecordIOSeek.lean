/-
SeekNext (MMapReader.SeekNext as coded: 4 KiB windows, marker scan, trial reads) finds the first
position at or after the start offset where a complete valid record starts.  The scan is specified over an
arbitrary trial reader in SeekScan (`Legacy.seekNextG_spec`); here is the instance `readAt c file`
of the current file version, which is `TailSafe` because the parser runs out on the bare marker.
-/
import SST.Proofs.SeekScan
import SST.Proofs.RecordIO
namespace SST.Proofs
open SST Generated

/-- the literal marker bytes stand at position `p` -/
def MarkerAt (file : Bytes) (p : Nat) : Prop := (file.drop p).take magicBytes.length = magicBytes

/-- a complete valid record starts at `p`: literal marker and a successful random-access read -/
def ValidAt (c : Compression) (file : Bytes) (p : Nat) : Prop :=
  MarkerAt file p ∧ ∃ r, readAt c file p = .ok r

/-- every position of the file that parses as a complete valid record is the start of a written record
(a payload may legitimately embed one — nested recordio — then this hypothesis fails) -/
def NoPhantom (c : Compression) (ct : Nat) (rs : List GoBytes) : Prop :=
  ∀ p, ValidAt c (fileHeader currentVersion ct ++ encAll c rs) p → ∃ k, k < rs.length ∧ p = offsetOf c rs k

def SeekPost (c : Compression) (file : Bytes) (off : Nat) : Except Err (Nat × GoBytes) → Prop
  | .ok (p, r) => off ≤ p ∧ MarkerAt file p ∧ readAt c file p = .ok r ∧
      ∀ q, off ≤ q → q < p → ¬ ValidAt c file q
  | .error e => e = .eof ∧ ∀ q, off ≤ q → ¬ ValidAt c file q

/-- the marker is a proper prefix of a written header, so the parser of the 36 bytes fetched runs out on it -/
theorem tailSafe_readAt (c : Compression) (file : Bytes) : Legacy.TailSafe (readAt c file) file := by
  have := Legacy.tailSafe_readAtW rhA4 recordHeaderMax c file (by decide)
    ((isHdr_rhA4 false 0 0 (by decide) (by decide)).prefix_ranOut rfl
      (by show 3 < _; rw [encHeader_length]; omega))
  intro q r
  rw [readAt_eq]
  exact this q r

theorem seekNext_spec' (c : Compression) (file : Bytes) (off : Nat) (hoff : off ≤ file.length) :
    SeekPost c file off (seekNext c file off) := by
  have h := Legacy.seekNextG_spec (readAt c file) file (tailSafe_readAt c file) off hoff
  rw [Legacy.seekNextG_v4] at h
  -- `MarkerAt`, `ValidAt c file` and `SeekPost` unfold to `MarkerAtL`, `ValidAtG (readAt c file) file`, `SeekPostG`
  exact h

theorem seekNext_spec (c : Compression) (file : Bytes) (off : Nat) (hoff : off ≤ file.length) :
    match seekNext c file off with
    | .ok (p, r) => off ≤ p ∧ MarkerAt file p ∧ readAt c file p = .ok r ∧ ∀ q, off ≤ q → q < p → ¬ ValidAt c file q
    | .error e => e = .eof ∧ ∀ q, off ≤ q → ¬ ValidAt c file q :=
  seekNext_spec' c file off hoff

theorem seekNext_first_record (c : Compression) (ct : Nat) (rs : List GoBytes)
    (hl : LawfulC c) (hf : ∀ r ∈ rs, FitsRec c r) (hnp : NoPhantom c ct rs) (off : Nat)
    (hoff : off ≤ (fileHeader currentVersion ct ++ encAll c rs).length) :
    match seekNext c (fileHeader currentVersion ct ++ encAll c rs) off with
    | .ok (p, r) => ∃ k, ∃ hk : k < rs.length, p = offsetOf c rs k ∧ r = rs[k] ∧ off ≤ p ∧
        ∀ j, j < k → offsetOf c rs j < off
    | .error e => e = .eof ∧ ∀ k, k < rs.length → offsetOf c rs k < off := by
  rw [← Legacy.seekNextG_v4]
  exact (isFraming_v4 c fun _ h => h).seek_first_record hl (encRecord_marker c) (fileHeader currentVersion ct) rs hf
    (tailSafe_readAt c _) hnp off hoff

end SST.Proofs
