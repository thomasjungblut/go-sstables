/-
Legacy recordio layer: nil/empty records, the zero-tail rule (versions 2, 3) and its absence (version 1), and
`SeekNext`: versions 2–4 are instances of the scan over an arbitrary trial reader (`Proofs/SeekScan`; all it needs is
`TailSafe`).  Legacy headers have no checksum, so the scan can land on a phantom record (concrete example).
-/
import SST.Proofs.RecordIOLegacy
import SST.Proofs.RecordIOSeek
namespace SST.Proofs.Legacy
open SST Generated SST.Legacy SST.Buf

theorem legacy_nil_empty_v3 (en : Bool) (c : Compression) :
    backL en 3 c none = none ∧ backL en 3 c (some []) = some [] := by
  simp [backL]

theorem legacy_nil_empty_enc (v : Nat) (hv : v = 1 ∨ v = 2) (c : Compression) :
    encRecordL v c none = encRecordL v c (some []) := by
  rcases hv with rfl | rfl <;> simp [encRecordL]

theorem legacy_nil_empty_v2 (en : Bool) (c : Compression) :
    backL en 2 c none = some [] ∧ backL en 2 c (some []) = some [] := by
  simp [backL]

theorem legacy_nil_empty_v1 (c : Compression) :
    backL false 1 c none = some [] ∧ backL false 1 c (some []) = some [] := by
  cases c <;> simp [backL, v1Result]

theorem legacy_nil_empty_v1_plain (en : Bool) :
    backL en 1 none none = some [] ∧ backL en 1 none (some []) = some [] := by
  simp [backL, v1Result]

theorem legacy_nil_empty_v1_emptyNil (cc : Comp) :
    backL true 1 (some cc) (some []) = none ∧ backL true 1 (some cc) none = none := by
  simp [backL, v1Result]

theorem readHeaderS2_zero (l : Bytes) : readHeaderS2 (0 :: l) = .error .magic := by
  unfold readHeaderS2
  rw [uvarintDec_zero]
  simp [magicNumber]

theorem readHeaderS3_zero (l : Bytes) : readHeaderS3 (0 :: l) = .error .magic := by
  unfold readHeaderS3
  rw [uvarintDec_zero]
  simp [magicNumber]

theorem readBodyS_zero (c : Compression) (n : Nat) :
    readBodyS c (0 :: List.replicate n 0) (.error .magic) = .error .eof := by
  unfold readBodyS
  simp only []
  rw [uvarintDec_zero]
  simp

theorem legacy_zero_tail (en : Bool) (v : Nat) (hv : v = 2 ∨ v = 3) (c : Compression) (n : Nat) :
    readNextL en v c (List.replicate n 0) = .error .eof := by
  rcases hv with rfl | rfl
  · show readNextS2 c _ = _
    cases n with
    | zero => exact readNextS2_nil c
    | succ n => rw [List.replicate_succ, readNextS2, readHeaderS2_zero]; exact readBodyS_zero c n
  · show readNextS3 c _ = _
    cases n with
    | zero => exact readNextS3_nil c
    | succ n => rw [List.replicate_succ, readNextS3, readHeaderS3_zero]; exact readBodyS_zero c n

theorem readRecordHeaderV1_zero : readRecordHeaderV1 (List.replicate 20 0) = .error .magic := by
  decide +kernel

/-- version 1 has no zero-tail rule: 20 or more zero bytes are a magic-number mismatch -/
theorem legacy_zero_tail_v1 (en : Bool) (c : Compression) (n : Nat) :
    readNextL en 1 c (List.replicate (n + 20) 0) = .error .magic := by
  have hs : specFull (List.replicate (n + 20) (0 : UInt8)) headerSizeV1 =
      (List.replicate 20 0, none, List.replicate n 0) := by
    rw [specFull_le (by simp [headerSizeV1])]
    simp [headerSizeV1, List.take_replicate, List.drop_replicate]
  have h : readNextS1 en c (List.replicate (n + 20) 0) = .error .magic := by
    unfold readNextS1
    rw [hs]; simp only []
    rw [readRecordHeaderV1_zero]
  simpa [readNextL] using h

theorem legacy_zero_tail_v1_short (en : Bool) (c : Compression) (n : Nat) (h0 : 0 < n) (h20 : n < 20) :
    readNextL en 1 c (List.replicate n 0) = .error .unexpectedEof := by
  have hs : specFull (List.replicate n (0 : UInt8)) headerSizeV1 =
      (List.replicate n 0, some (.e .unexpectedEof), []) := by
    unfold specFull
    rw [if_neg (by simp [headerSizeV1]; omega), if_neg (by simp; omega)]
  have h : readNextS1 en c (List.replicate n 0) = .error .unexpectedEof := by
    unfold readNextS1
    rw [hs]
  simpa [readNextL] using h

/-- the marker is a proper prefix of a written header, so the parser runs out on it (versions 2 and 3 as version 4) -/
theorem readHeaderS2_marker : RanOut (readHeaderS2 magicBytes) :=
  (IsHdr.of_frontToBack (hd := encHeaderV2 0 0) readHeaderS2_frontToBack
    (fun t => readHeaderS2_enc 0 0 t (by decide) (by decide)) rfl).prefix_ranOut (p := magicBytes) rfl
    (by show 3 < _; rw [encHeaderV2_length]; have := uvarintEnc_len_pos 0; omega)

theorem readHeaderS3_marker : RanOut (readHeaderS3 magicBytes) :=
  (IsHdr.of_frontToBack (hd := encHeaderV3 false 0 0) readHeaderS3_frontToBack
    (fun t => readHeaderS3_enc false 0 0 t (by decide) (by decide)) rfl).prefix_ranOut (p := magicBytes) rfl
    (by show 3 < _; rw [encHeaderV3_length]; omega)

/-- version 1: fewer than the 20 bytes of a header are left -/
theorem tailSafe_readAtV1 (en : Bool) (c : Compression) (file : Bytes) : TailSafe (readAtV1 en c file) file := by
  intro q r hq hm
  unfold readAtV1
  rw [if_neg (Nat.not_lt.mpr (hq ▸ Nat.le_add_right q 3)), drop_eq_magic file q hq hm]
  exact fun h => nomatch h

theorem tailSafe_readAtL (en : Bool) (v : Nat) (c : Compression) (file : Bytes) :
    TailSafe (readAtL en v c file) file := by
  intro q r hq hm
  unfold readAtL
  by_cases v1 : v = 1
  · rw [if_pos v1]; exact tailSafe_readAtV1 en c file q r hq hm
  by_cases v2 : v = 2
  · rw [if_neg v1, if_pos v2, readAtV2_eq]
    exact tailSafe_readAtW readHeaderS2 headerWinV3 c file (by decide) readHeaderS2_marker q r hq hm
  by_cases v3 : v = 3
  · rw [if_neg v1, if_neg v2, if_pos v3]
    exact tailSafe_readAtW readHeaderS3 headerWinV3 c file (by decide) readHeaderS3_marker q r hq hm
  by_cases v4 : v = 4
  · rw [if_neg v1, if_neg v2, if_neg v3, if_pos v4]; exact tailSafe_readAt c file q r hq hm
  · rw [if_neg v1, if_neg v2, if_neg v3, if_neg v4]; exact fun h => nomatch h

theorem seekNextL_ge2 (en : Bool) (v : Nat) (hv : 2 ≤ v) (c : Compression) (file : Bytes) (off : Nat) :
    seekNextL en v c file off = seekNextG (readAtL en v c file) file off := by
  unfold seekNextL
  rw [if_neg (by omega)]

/-- `readAtL 4` is `readAt`, so the version 4 instance of the generic scan is `SST.seekNext` -/
theorem seekNextL_four (en : Bool) (c : Compression) (file : Bytes) (off : Nat) :
    seekNextL en 4 c file off = seekNext c file off := by
  rw [seekNextL_ge2 en 4 (by omega), ← seekNextG_v4]
  have : readAtL en 4 c file = readAt c file := by
    funext o; simp [readAtL]
  rw [this]

/-- records of versions 2, 3 and 4 start with the three marker bytes (version 1: the fixed-width magic number
`91 06 13 00`) -/
theorem encRecordL_marker (v : Nat) (hv : 2 ≤ v) (c : Compression) (r : GoBytes) :
    ∃ X, encRecordL v c r = magicBytes ++ X := by
  unfold encRecordL
  rw [if_neg (by omega)]
  split
  · simp only [encRecordV2, encHeaderV2, List.append_assoc]; exact ⟨_, rfl⟩
  split
  · cases r with
    | none => simp only [encRecordV3, encHeaderV3, headerBody, List.append_assoc]; exact ⟨_, rfl⟩
    | some r => simp only [encRecordV3, encHeaderV3, headerBody, List.append_assoc]; exact ⟨_, rfl⟩
  · exact encRecord_marker c r

/-! Legacy record headers carry no checksum: a payload that contains the marker followed by bytes that parse as a
header whose announced payload fits into the file is taken for a record. -/

/-- version 3: one record whose payload is `91 8d 4c 00 01 00 7a` (marker, not nil, length 1, not compressed,
payload `7a`) -/
def phantomV3 : Bytes := encFileV3 none 0 [some [0x91, 0x8d, 0x4c, 0, 1, 0, 0x7a]]

/-- version 2: payload `91 8d 4c 01 00 7a` -/
def phantomV2 : Bytes := encFileV2 none 0 [some [0x91, 0x8d, 0x4c, 1, 0, 0x7a]]

/-- the analogous version 4 file -/
def phantomV4 : Bytes := fileHeader 4 0 ++ encAll none [some [0x91, 0x8d, 0x4c, 0, 1, 0, 0x7a]]

theorem phantomV3_bytes :
    phantomV3 = [3, 0, 0, 0, 0, 0, 0, 0, 0x91, 0x8d, 0x4c, 0, 7, 0, 0x91, 0x8d, 0x4c, 0, 1, 0, 0x7a] := by
  decide +kernel

/-- `SeekNext` from offset 9 (inside the only record, which starts at 8) of the version 3 file returns the
"record" `[7a]` at offset 14 — the middle of the payload; no such record was written -/
theorem legacy_seekNext_phantom :
    seekNextL false 3 none phantomV3 9 = .ok (14, some [0x7a]) ∧
    offsetOfL 3 none [some [0x91, 0x8d, 0x4c, 0, 1, 0, 0x7a]] 0 = 8 ∧
    (phantomV3.length = 21) ∧
    ¬ NoPhantomL false 3 none 0 [some [0x91, 0x8d, 0x4c, 0, 1, 0, 0x7a]] := by
  have h1 : seekNextL false 3 none phantomV3 9 = .ok (14, some [0x7a]) := by decide +kernel
  have h2 : offsetOfL 3 none [some [0x91, 0x8d, 0x4c, 0, 1, 0, 0x7a]] 0 = 8 := by decide +kernel
  refine ⟨h1, h2, by decide +kernel, ?_⟩
  intro hnp
  have hv : ValidAtG (readAtL false 3 none phantomV3) phantomV3 14 :=
    ⟨by unfold MarkerAtL; decide +kernel, some [0x7a], by decide +kernel⟩
  obtain ⟨k, hk, he⟩ := hnp 14 hv
  have hk0 : k = 0 := by simpa using hk
  subst hk0
  rw [h2] at he
  omega

end SST.Proofs.Legacy
