/-
L6-fs, interleaved: every enabled move of every thread preserves the structural invariant `S`.  Where the sequential
model's picture of a step differs from the machine's (it hands an empty store to a flusher that will skip it) the
difference is a fact about `S` with no move attached: `S_handover`, `S_skip`.  `S_log` is the move `log` without its
history: how an operation boundary of the sequential model takes an accepted call (`enq_QW`, FSAsync.lean).
-/
import SST.Proofs.FSInterleave
import SST.Proofs.FSInterleaveMoves
namespace SST.Proofs.FSI
open SST SST.DBM SST.FS SST.FSI SST.FSS SST.Proofs.DB SST.Proofs.FS

theorem KWf_congr {c c' : Cfg} (h : KWf c) (hk : c'.kj = c.kj) (ht : c'.tables = c.tables)
    (hp : reflecting c = false ∨ c'.pc = .idle) : KWf c' := by
  unfold KWf at h ⊢
  rw [hk, ht]
  cases hkj : c.kj with
  | idle => trivial
  | merging npre nsel cells st => rw [hkj] at h; exact h
  | reflecting npre nsel cells j sub J =>
    rw [hkj] at h
    rcases hp with hp | hp
    · exact absurd hkj (reflecting_eq_false.1 hp _ _ _ _ _ _)
    · exact ⟨h.1, h.2.1, h.2.2.1, h.2.2.2.1, h.2.2.2.2.1, h.2.2.2.2.2.1, hp⟩

/-- `reflectCompactionResult` runs under the db lock: not while the client is inside a call -/
theorem S.not_reflecting {c : Cfg} (h : S c) (hpc : c.pc ≠ .idle) : reflecting c = false :=
  reflecting_eq_false.2 fun _ _ _ _ _ _ hk => hpc (h.kwf.reflecting hk).2.2.2.2.2.2

theorem kTables_eq {c : Cfg} (h : reflecting c = false) : kTables c = encT c.tables := by
  unfold kTables
  split
  · rename_i hk; exact absurd hk (reflecting_eq_false.1 h _ _ _ _ _ _)
  · rfl

theorem front_lt_cur {c : Cfg} (h : S c) : ∀ y ∈ c.junk ++ fFile c, y.num < c.cur := sorted_last h.nums

theorem upto_cur_lt {c : Cfg} (h : S c) : ∀ y ∈ c.junk ++ fFile c ++ [curFile c], y.num < c.cur + 1 := by
  intro y hy
  rcases List.mem_append.1 hy with hy | hy
  · exact Nat.lt_succ_of_lt (front_lt_cur h y hy)
  · rw [List.mem_singleton.1 hy]; exact Nat.lt_succ_self _

theorem logging_cases {pc : Pc} (h : pc.logging = true) : (∃ r, pc = .app r) ∨ pc = .rot0 := by
  cases pc <;> simp [Pc.logging] at h
  · exact Or.inl ⟨_, rfl⟩
  · exact Or.inr rfl

theorem nextFile_logging {c : Cfg} (h : c.pc.logging = true) : nextFile c = [] := by
  unfold nextFile
  rcases logging_cases h with ⟨r, hr⟩ | hr <;> rw [hr]

/-- the client moves on between positions in which no WAL file is being created (`hn`, `hn'` are `rfl` for concrete
positions) -/
theorem S_pc {c : Cfg} (h : S c) {pc : Pc} (pc' : Pc) (hpc : c.pc = pc) (hn : nextFile { c with pc := pc } = [])
    (hn' : nextFile { c with pc := pc' } = []) (hq : pc' = .rot1 → c.queue = [] ∧ c.tn = false)
    (hk : reflecting c = false ∨ pc' = .idle) : S { c with pc := pc' } := by
  have hn : nextFile c = [] := by unfold nextFile at hn ⊢; rw [hpc]; exact hn
  refine { h with wal := ?_, pcq := ?_, kwf := KWf_congr h.kwf rfl rfl hk }
  · rw [hn']
    have := h.wal
    rwa [hn] at this
  · rintro (hx | hx | hx)
    · exact hq hx
    · subst hx; cases hn'
    · subst hx; cases hn'

/-- an accepted mutation enters the queue and the write store: the move `log` without its history (`enq_QW` in
FSAsync.lean: what the sequential model's `wrote` does to a boundary) -/
theorem S_log {c : Cfg} (h : S c) (hpc : c.pc = .idle) (hnr : reflecting c = false) {m : Mutation} (hm : m.ok = true)
    (rot : Bool) : S { c with pc := .app rot, queue := c.queue ++ [m], w := m.apply c.w } := by
  refine { h with wal := ?_, qOk := ?_, wq := ?_, tnq := ?_, pcq := nofun, kwf := KWf_congr h.kwf rfl rfl (.inl hnr) }
  · have := h.wal
    unfold nextFile at this
    rwa [hpc] at this
  · intro x hx
    rcases List.mem_append.1 hx with hx | hx
    · exact h.qOk x hx
    · rw [List.mem_singleton.1 hx]; exact hm
  · show applyMuts [] (c.rc ++ (c.queue ++ [m])) = m.apply c.w
    rw [← List.append_assoc, applyMuts_append, h.wq]; rfl
  · intro _; simp

theorem S_begin {async : Bool} {c c' : Cfg} {e : Option Ev} (h : S c) (hm : Move async c .begin e c') : S c' := by
  cases hm with
  | reject hpc hnr hp ha => exact S_ghost h
  | rotate hpc hnr hp => exact S_ghost (S_pc h .rot0 hpc rfl rfl nofun (.inl hnr))
  | log hpc hnr hp ha => exact S_ghost (S_log h hpc hnr (Op.accepted_ok ha) _)

/-- a write to the current file (same number) -/
theorem S_write {c : Cfg} (h : S c) (hl : c.pc.logging = true) (f : WalFile → WalFile) :
    updW c.cur f c.d.wal = c.junk ++ fFile c ++ [f (curFile c)] ++ nextFile c ∧
      ¬ (c.pc = .rot1 ∨ c.pc = .rot2 ∨ c.pc = .rot3) := by
  constructor
  · rw [h.wal, nextFile_logging hl, List.append_nil, List.append_nil]
    exact Keyed.updW_last c.cur f _ _ (fun y hy => Nat.ne_of_lt (front_lt_cur h y hy)) rfl
  · rcases logging_cases hl with ⟨r, hr⟩ | hr <;> rw [hr] <;> rintro (hx | hx | hx) <;> cases hx

theorem nums_upd {c : Cfg} (h : S c) (f : WalFile) (hf : f.num = c.cur) :
    ((c.junk ++ fFile c ++ [f]).map (·.num)).Pairwise (· < ·) := by
  have := h.nums
  simpa [curFile, hf] using this

theorem S_torn {async : Bool} {c c' : Cfg} {e : Option Ev} (h : S c) (hm : Move async c .torn e c') : S c' := by
  cases hm with
  | torn hl hq =>
    obtain ⟨hw, hpc⟩ := S_write h hl (fun x => { x with torn := true })
    exact { h with wal := hw, nums := nums_upd h _ rfl, tnq := fun _ => hq, pcq := fun hx => absurd hx hpc }

theorem S_append {async : Bool} {c c' : Cfg} {e : Option Ev} (h : S c) (hm : Move async c .append e c') : S c' := by
  cases hm with
  | @append m q hl hq =>
    obtain ⟨hw, hpc⟩ := S_write h hl (fun x => if x.header then { x with recs := x.recs ++ [m], torn := false } else x)
    have hqo := h.qOk
    rw [hq] at hqo
    refine { h with wal := hw, nums := nums_upd h _ rfl, rcOk := ?_, qOk := fun x hx => hqo x (List.mem_cons_of_mem _ hx),
                    wq := ?_, tnq := nofun, pcq := fun hx => absurd hx hpc }
    · intro x hx
      rcases List.mem_append.1 hx with hx | hx
      · exact h.rcOk x hx
      · rw [List.mem_singleton.1 hx]; exact hqo m List.mem_cons_self
    · show applyMuts [] (c.rc ++ [m] ++ q) = c.w
      rw [← h.wq, hq, List.append_assoc]; rfl

theorem S_done {async : Bool} {c c' : Cfg} {e : Option Ev} (h : S c) (hm : Move async c .done e c') : S c' := by
  cases hm with
  | doneRotate hpc hq =>
    exact S_pc h .rot0 hpc rfl rfl nofun (.inl (h.not_reflecting (by rw [hpc]; nofun)))
  | doneIdle hpc hq => exact S_ghost (S_pc h .idle hpc rfl rfl nofun (.inr rfl))

theorem S_close {async : Bool} {c c' : Cfg} {e : Option Ev} (h : S c) (hm : Move async c .close e c') : S c' := by
  cases hm with
  | close hpc hq htn =>
    exact S_pc h .rot1 hpc rfl rfl (fun _ => ⟨hq, htn⟩)
      (.inl (h.not_reflecting (by rw [hpc]; nofun)))

theorem S_create {async : Bool} {c c' : Cfg} {e : Option Ev} (h : S c) (hm : Move async c .create e c') : S c' := by
  cases hm with
  | create hpc =>
    have hwal := h.wal
    unfold nextFile at hwal
    rw [hpc, List.append_nil] at hwal
    have hlt : ∀ y ∈ c.d.wal, y.num < c.cur + 1 := by rw [hwal]; exact upto_cur_lt h
    have hd : applyEv c.d (.walCreate (c.cur + 1)) = { c.d with wal := c.d.wal ++ [{ num := c.cur + 1, header := false }] } := by
      simp only [applyEv, h.walDir, if_true]
      rw [Keyed.insertW_last _ _ hlt]
    rw [hd]
    refine { h with wal := ?_, pcq := fun _ => h.pcq (.inl hpc),
                    kwf := KWf_congr h.kwf rfl rfl (.inl (h.not_reflecting (by rw [hpc]; nofun))) }
    show c.d.wal ++ _ = c.junk ++ fFile c ++ [curFile c] ++ [{ num := c.cur + 1, header := false }]
    rw [hwal]

theorem S_header {async : Bool} {c c' : Cfg} {e : Option Ev} (h : S c) (hm : Move async c .header e c') : S c' := by
  cases hm with
  | header hpc =>
    have hwal := h.wal
    unfold nextFile at hwal
    rw [hpc] at hwal
    refine { h with wal := ?_, pcq := fun _ => h.pcq (.inr (.inl hpc)),
                    kwf := KWf_congr h.kwf rfl rfl (.inl (h.not_reflecting (by rw [hpc]; nofun))) }
    show (applyEv c.d (.walHeader (c.cur + 1))).wal = c.junk ++ fFile c ++ [curFile c] ++ [{ num := c.cur + 1 }]
    simp only [applyEv]
    rw [hwal, Keyed.updW_last (c.cur + 1) _ _ _ (fun y hy => Nat.ne_of_lt (upto_cur_lt h y hy)) rfl]

/-- the hand-over of the write store, empty or not: `S` does not mind a flusher that holds an empty store, which is
the picture the sequential model has of a flush that will be skipped -/
theorem S_handover {c : Cfg} (h : S c) (hpc : c.pc = .rot3) (hfl : c.fl = none) :
    S { c with pc := .idle, acked := c.hist.length, mark := c.hist.length, gen := c.gen + 1,
               fl := some { r := c.w, ro := c.rc, on := c.cur, g := c.gen + 1, stage := 0 },
               cur := c.cur + 1, rc := [], w := [] } := by
  obtain ⟨hq, htn⟩ := h.pcq (.inr (.inr hpc))
  have hff : fFile c = [] := by unfold fFile; rw [hfl]
  have hft : fTables c = [] := by unfold fTables; rw [hfl]
  have hcur : curFile c = { num := c.cur, recs := c.rc } := by unfold curFile; rw [htn]
  have hwal : c.d.wal = c.junk ++ [{ num := c.cur, recs := c.rc }] ++ [{ num := c.cur + 1, recs := [], torn := c.tn }] := by
    rw [h.wal, hff, hcur, htn]
    unfold nextFile
    rw [hpc, List.append_nil]
  have hnums : ((c.junk ++ [({ num := c.cur, recs := c.rc } : WalFile)] ++
      [({ num := c.cur + 1, recs := [], torn := c.tn } : WalFile)]).map (·.num)).Pairwise (· < ·) := by
    have := h.nums
    rw [hff, List.append_nil, hcur] at this
    exact nums_next this (Nat.lt_succ_self _)
  have hrc : applyMuts [] c.rc = c.w := by
    have := h.wq
    rwa [hq, List.append_nil] at this
  refine { h with tbl := ?_, wal := ?_, gensLe := ?_, fwf := ?_, nums := hnums, rcOk := nofun, wq := ?_, pcq := nofun,
                  kwf := KWf_congr (c' := { c with pc := .idle }) h.kwf rfl rfl (.inr rfl) }
  · show c.d.tables = kTables c ++ []
    rw [h.tbl, hft]
  · show c.d.wal = c.junk ++ [{ num := c.cur, recs := c.rc }] ++ [{ num := c.cur + 1, recs := [], torn := c.tn }] ++ []
    rw [hwal, List.append_nil]
  · exact fun t ht => Nat.le_succ_of_le (h.gensLe t ht)
  · intro j hj
    cases hj
    exact ⟨rfl, fun t ht => Nat.lt_succ_of_le (h.gensLe t ht), hrc, Nat.zero_le _, h.rcOk⟩
  · show applyMuts [] ([] ++ c.queue) = []
    rw [hq]; rfl

/-- the two pictures of a skipped flush: a flusher that holds an empty store and has made no call (the sequential model
after a rotation with an empty write store) is no flusher, its WAL file among the leftovers (what `handoffEmpty` makes) -/
theorem S_skip {c : Cfg} (h : S c) {j : FJob} (hfl : c.fl = some j) (h0 : j.stage = 0) (hr : j.r = []) {g' : Nat}
    (hg : ∀ t ∈ c.tables, t.gen ≤ g') :
    S { c with fl := none, gen := g', junk := c.junk ++ [{ num := j.on, recs := j.ro }] } := by
  obtain ⟨_, _, hro, _, _⟩ := h.fwf j hfl
  have hff : fFile c = [{ num := j.on, recs := j.ro }] := by unfold fFile; rw [hfl]; exact if_pos (by omega)
  have hft : fTables c = [] := by unfold fTables fDir; rw [hfl]; simp only [h0]
  refine { h with tbl := ?_, wal := ?_, gensLe := hg, fwf := nofun, jk := ?_, nums := ?_ }
  · show c.d.tables = kTables c ++ []
    rw [h.tbl, hft]
  · show c.d.wal = c.junk ++ [{ num := j.on, recs := j.ro }] ++ [] ++ [curFile c] ++ nextFile c
    rw [h.wal, hff, List.append_nil]
  · exact junk_append h.jk fun f hf => by
      rw [List.mem_singleton.1 hf]; exact ⟨rfl, applyMuts_eq_nil (hro.trans hr), rfl⟩
  · show ((c.junk ++ [({ num := j.on, recs := j.ro } : WalFile)] ++ [] ++ [curFile c]).map WalFile.num).Pairwise (· < ·)
    rw [List.append_nil, ← hff]
    exact h.nums

theorem S_handoff {async : Bool} {c c' : Cfg} {e : Option Ev} (h : S c) (hm : Move async c .handoff e c') : S c' := by
  cases hm with
  | handoffEmpty hpc hfl hw =>
    -- the flusher would skip the empty store: hand-over and skip in one
    have := S_skip (S_handover h hpc hfl) rfl rfl hw (g' := c.gen) h.gensLe
    simp only [hw, hfl] at this ⊢
    exact this
  | handoff hpc hfl _ => exact S_handover h hpc hfl

/-- one call of the flusher on a listing that ends with its table directory: the directory moves on to its next
state; the last call removes the store's WAL file instead -/
theorem applyEv_flushCall {K : List (Nat × TableDir)} {r : Layer} {ro : List Mutation} {on g stage : Nat} {ev : Ev}
    {d : Disk} (hK : ∀ p ∈ K, p.1 < g) (hd : d.tables = K ++ fDir ⟨r, ro, on, g, stage⟩)
    (he : (flushCalls ⟨r, ro, on, g, stage⟩)[stage]? = some ev) :
    (applyEv d ev).tables = K ++ fDir ⟨r, ro, on, g, stage + 1⟩ ∧ (applyEv d ev).comps = d.comps ∧
      (applyEv d ev).walDir = d.walDir ∧ (applyEv d ev).wal = if stage = 5 then eraseW on d.wal else d.wal := by
  unfold flushCalls at he
  rcases stage with _ | _ | _ | _ | _ | _ | n <;>
    simp only [List.getElem?_cons_zero, List.getElem?_cons_succ, List.getElem?_nil, Option.some.injEq,
      reduceCtorEq] at he <;>
    subst he <;> refine ⟨?_, rfl, rfl, rfl⟩ <;> simp only [applyEv] <;> rw [hd]
  -- one goal per call of `flushCalls`, in order: mkdir, first files, metadata created, progress, complete, WAL unlink
  · show insertT g (.part false) (K ++ []) = K ++ [(g, .part false)]
    rw [List.append_nil]
    exact insertT_last _ _ _ hK
  · exact updT_last g _ K _ hK
  · exact updT_last g _ K _ hK
  · rfl
  · exact updT_last g _ K _ hK
  · rfl

theorem S_fstep {async : Bool} {c c' : Cfg} {e : Option Ev} (h : S c) (hm : Move async c .fstep e c') : S c' := by
  cases hm with
  | @fstep j ev hfl he =>
    obtain ⟨r, ro, on, g, stage⟩ := j
    obtain ⟨hg, hlt, hro, hst, hrok⟩ := h.fwf _ hfl
    have htbl : c.d.tables = kTables c ++ fDir ⟨r, ro, on, g, stage⟩ := by rw [h.tbl]; unfold fTables; rw [hfl]
    obtain ⟨e1, e2, e3, e4⟩ := applyEv_flushCall (kTables_lt h _ hfl) htbl he
    have hlt6 : stage < 6 := (List.getElem?_eq_some_iff.1 he).1
    have hfile : fFile c = [{ num := on, recs := ro }] := by
      unfold fFile
      rw [hfl]
      exact if_pos (Nat.le_of_lt_succ hlt6)
    -- the WAL directory: the file of the store goes with the last call
    have hw : (applyEv c.d ev).wal =
          c.junk ++ (if stage + 1 ≤ 5 then [{ num := on, recs := ro }] else []) ++ [curFile c] ++ nextFile c ∧
        ((c.junk ++ (if stage + 1 ≤ 5 then [({ num := on, recs := ro } : WalFile)] else []) ++ [curFile c]).map
          (·.num)).Pairwise (· < ·) := by
      have hnums := h.nums
      rw [e4]
      by_cases h5 : stage = 5
      · subst h5
        have hs := h.diskOk.walSorted
        rw [h.wal, hfile, List.append_assoc (c.junk ++ _)] at hs
        rw [hfile] at hnums
        rw [if_pos rfl, if_neg (show ¬ 5 + 1 ≤ 5 by omega), h.wal, hfile, List.append_assoc (c.junk ++ _),
          Keyed.eraseW_sorted _ _ _ hs]
        exact ⟨by simp, List.Pairwise.sublist (List.Sublist.map _ (by simp)) hnums⟩
      · rw [if_neg h5, if_pos (show stage + 1 ≤ 5 by omega), ← hfile]
        exact ⟨h.wal, hnums⟩
    exact { h with tbl := e1, comps := e2.trans h.comps, walDir := e3.trans h.walDir, wal := hw.1, nums := hw.2,
                   fwf := fun j' hj' => by cases hj'; exact ⟨hg, hlt, hro, hlt6, hrok⟩ }

theorem S_fadd {async : Bool} {c c' : Cfg} {e : Option Ev} (h : S c) (hm : Move async c .fadd e c') : S c' := by
  cases hm with
  | @fadd j hfl hs hnr =>
    obtain ⟨hg, hlt, hro, hst, hrok⟩ := h.fwf j hfl
    have hfd : fDir j = [(j.g, .complete j.r)] := by unfold fDir; rw [hs]; rfl
    have hff : fFile c = [] := by unfold fFile; rw [hfl]; exact if_neg (by omega)
    have hnr' := reflecting_eq_false.1 hnr
    refine { h with tbl := ?_, comps := ?_, wal := ?_, gensS := ?_, gensLe := ?_, fwf := nofun, nums := ?_, kwf := ?_ }
    · show c.d.tables = kTables { c with fl := none, tables := c.tables ++ [{ gen := j.g, cells := j.r }] } ++ []
      rw [kTables_eq (c := { c with fl := none, tables := c.tables ++ [{ gen := j.g, cells := j.r }] }) hnr, h.tbl,
        kTables_eq hnr, encT_append, List.append_nil]
      unfold fTables
      rw [hfl]
      show encT c.tables ++ fDir j = _
      rw [hfd]
      rfl
    · rw [h.comps]
      unfold kComps
      cases hkj : c.kj with
      | idle => rfl
      | merging npre nsel cells st => simp only [kMeta_append c.tables _ npre nsel (h.kwf.merging hkj).1]
      | reflecting a b cl jj s J => exact absurd hkj (hnr' _ _ _ _ _ _)
    · show c.d.wal = c.junk ++ [] ++ [curFile c] ++ nextFile c
      rw [h.wal, hff]
    · exact snoc_sorted Tbl.gen h.gensS hlt
    · intro t ht
      rcases List.mem_append.1 ht with ht | ht
      · exact h.gensLe t ht
      · rw [List.mem_singleton.1 ht]; exact Nat.le_of_eq hg
    · show ((c.junk ++ [] ++ [curFile c]).map WalFile.num).Pairwise (· < ·)
      have := h.nums
      rwa [hff] at this
    · unfold KWf
      cases hkj : c.kj with
      | idle => trivial
      | merging npre nsel cells st =>
        have hk := h.kwf.merging hkj
        show npre + nsel ≤ (c.tables ++ _).length ∧ _
        refine ⟨by rw [List.length_append]; exact Nat.le_add_right_of_le hk.1, hk.2.1, hk.2.2.1, ?_⟩
        rw [kIns_append c.tables _ npre nsel hk.1]; exact hk.2.2.2
      | reflecting a b cl jj s J => exact absurd hkj (hnr' _ _ _ _ _ _)

theorem S_kstart {async : Bool} {c c' : Cfg} {e : Option Ev} {sizes : List Nat} {th : Int} {o : Opts} (h : S c)
    (hm : Move async c (.kstart sizes th o) e c') : S c' := by
  cases hm with
  | kstart hkj hg hn =>
    have hkT : kTables c = encT c.tables := by unfold kTables; rw [hkj]
    have hkC : kComps c = [] := by unfold kComps; rw [hkj]
    refine { h with tbl := ?_, comps := ?_, kwf := ⟨hg, hn, Nat.zero_le _, rfl⟩ }
    · show c.d.tables = encT c.tables ++ fTables c
      rw [h.tbl, hkT]
    · show c.d.comps = []
      rw [h.comps, hkC]

theorem S_kreflect {async : Bool} {c c' : Cfg} {e : Option Ev} (h : S c) (hm : Move async c .kreflect e c') : S c' := by
  cases hm with
  | @kreflect npre nsel cells hkj hpc =>
    obtain ⟨h1, h2, _, h4⟩ := h.kwf.merging hkj
    obtain ⟨t0, rest, hins⟩ := kIns_cons h1 h2
    have hkT : kTables c = encT c.tables := by unfold kTables; rw [hkj]
    have hkC : kComps c = [{ id := kId, out := .complete cells, flag := some (kMeta c.tables npre nsel) }] := by
      unfold kComps; rw [hkj]; rfl
    refine { h with tbl := ?_, comps := ?_,
                    kwf := ⟨h1, h2, h4, Nat.zero_le _, Nat.zero_le _, fun _ => rfl, hpc⟩ }
    · show c.d.tables = encT (c.tables.take npre) ++ selDirs (kIns c.tables npre nsel) 0 0 [] ++
        encT (c.tables.drop (npre + nsel)) ++ fTables c
      rw [h.tbl, hkT]
      congr 1
      conv => lhs; rw [split3 c.tables npre nsel]
      rw [encT_append, encT_append, hins]
      rfl
    · show c.d.comps = [{ id := kId, out := .complete cells, flag := some (kMeta c.tables npre nsel) }]
      rw [h.comps, hkC]

/-- one call of the merge on a disk whose compaction directories are the compactor's -/
theorem applyEv_mergeCall {c : Cfg} {npre nsel : Nat} {cells : Layer} {st : Nat} {ev : Ev}
    (hkj : c.kj = .merging npre nsel cells st) (hc : c.d.comps = kComps c)
    (he : (mergeCalls (kMeta c.tables npre nsel) cells)[st]? = some ev) :
    applyEv c.d ev = { c.d with comps := kComps { c with kj := .merging npre nsel cells (st + 1) } } := by
  unfold kComps at hc
  rw [hkj] at hc
  unfold mergeCalls at he
  rcases st with _ | _ | _ | _ | _ | n <;>
    simp only [List.getElem?_cons_zero, List.getElem?_cons_succ, List.getElem?_nil, Option.some.injEq,
      reduceCtorEq] at he <;>
    subst he <;> simp only at hc
  -- one goal per call of `mergeCalls`, in order: mkdir, progress, complete, progress, flag
  · simp only [applyEv, hc, List.any_nil, Bool.false_eq_true, if_false, List.nil_append]
    rfl
  · show c.d = { c.d with comps := [{ id := kId }] }
    rw [← hc]
  · simp only [applyEv, hc, updC]
    rfl
  · show c.d = { c.d with comps := [{ id := kId, out := .complete cells }] }
    rw [← hc]
  · simp only [applyEv, hc, updC]
    rfl

theorem S_kmerge {c : Cfg} (h : S c) {npre nsel : Nat} {cells : Layer} {st : Nat}
    (hkj : c.kj = .merging npre nsel cells st) {e : Ev}
    (he : (mergeCalls (kMeta c.tables npre nsel) cells)[st]? = some e) :
    S { c with d := applyEv c.d e, kj := .merging npre nsel cells (st + 1) } := by
  obtain ⟨h1, h2, _, h4⟩ := h.kwf.merging hkj
  rw [applyEv_mergeCall hkj h.comps he]
  refine { h with tbl := ?_, comps := rfl, kwf := ⟨h1, h2, (List.getElem?_eq_some_iff.1 he).1, h4⟩ }
  show c.d.tables = encT c.tables ++ fTables c
  rw [h.tbl]
  unfold kTables
  rw [hkj]

/-- the gens around the input that is being removed -/
theorem around_input {c : Cfg} (h : S c) (npre nsel j : Nat) (t : Tbl)
    (ht : (kIns c.tables npre nsel)[j]? = some t) :
    (∀ p ∈ encT (c.tables.take npre), p.1 < t.gen) ∧
    (∀ p ∈ encT ((kIns c.tables npre nsel).drop (j + 1)) ++ encT (c.tables.drop (npre + nsel)) ++ fTables c, t.gen < p.1) := by
  have hs : (((c.tables.take npre ++ (kIns c.tables npre nsel).take j) ++ [t] ++
      ((kIns c.tables npre nsel).drop (j + 1) ++ c.tables.drop (npre + nsel))).map (·.gen)).Pairwise (· < ·) := by
    have := h.gensS
    rw [split3 c.tables npre nsel, ← List.take_append_drop j (kIns c.tables npre nsel), drop_getElem? ht] at this
    simpa only [List.append_assoc, List.cons_append, List.nil_append] using this
  obtain ⟨hlo, hhi⟩ := gens_split hs
  have htin : t ∈ (c.tables.drop npre).take nsel := List.mem_of_getElem? ht
  refine ⟨fun p hp => ?_, fun p hp => ?_⟩
  · obtain ⟨x, hx, rfl⟩ := List.mem_map.1 hp
    exact hlo x (List.mem_append_left _ hx) t (List.mem_singleton.2 rfl)
  · rw [← encT_append] at hp
    rcases List.mem_append.1 hp with hp | hp
    · obtain ⟨x, hx, rfl⟩ := List.mem_map.1 hp
      exact hhi t (List.mem_append_right _ (List.mem_singleton.2 rfl)) x hx
    · exact fTables_gt h p hp t (List.mem_of_mem_drop (List.mem_of_mem_take htin))

/-- reflect works on input `j`: the call `g` turns its directory into the entries `M'` (its next state, or nothing) -/
theorem S_kinput {c : Cfg} (h : S c) {npre nsel : Nat} {cells : Layer} {j sub : Nat} {J : Layer}
    (hkj : c.kj = .reflecting npre nsel cells j sub J) {t : Tbl} (ht : (kIns c.tables npre nsel)[j]? = some t)
    (g : List (Nat × TableDir) → List (Nat × TableDir)) (M' : List (Nat × TableDir)) (j' sub' : Nat) (J' : Layer)
    (hg : ∀ A B, (∀ p ∈ A, p.1 ≠ t.gen) → (∀ p ∈ B, p.1 ≠ t.gen) →
      g (A ++ (t.gen, selState sub J t) :: B) = A ++ (M' ++ B))
    (hM : selDirs (kIns c.tables npre nsel) j' sub' J' = M' ++ encT ((kIns c.tables npre nsel).drop (j + 1)))
    (hj' : j < nsel → j' ≤ nsel ∧ sub' ≤ 3 ∧ (j' = nsel → sub' = 0)) :
    S { c with d := { c.d with tables := g c.d.tables }, kj := .reflecting npre nsel cells j' sub' J' } := by
  obtain ⟨h1, h2, h3, _, _, _, h7⟩ := h.kwf.reflecting hkj
  obtain ⟨ha, hb⟩ := around_input h npre nsel j t ht
  obtain ⟨k1, k2, k3⟩ := hj' (by
    have := (List.getElem?_eq_some_iff.1 ht).1
    rwa [kIns_length c.tables npre nsel h1] at this)
  have htab : c.d.tables = encT (c.tables.take npre) ++ (t.gen, selState sub J t) ::
      (encT ((kIns c.tables npre nsel).drop (j + 1)) ++ encT (c.tables.drop (npre + nsel)) ++ fTables c) := by
    rw [h.tbl]
    unfold kTables
    rw [hkj]
    simp only
    rw [selDirs_cons _ j sub J t ht]
    simp only [List.append_assoc, List.cons_append]
  have hcomps := h.comps
  unfold kComps at hcomps
  rw [hkj] at hcomps
  refine { h with tbl := ?_, comps := hcomps, kwf := ⟨h1, h2, h3, k1, k2, k3, h7⟩ }
  show g c.d.tables = encT (c.tables.take npre) ++ selDirs (kIns c.tables npre nsel) j' sub' J' ++
    encT (c.tables.drop (npre + nsel)) ++ fTables c
  rw [htab, hg _ _ (fun p hp => Nat.ne_of_lt (ha p hp)) (fun p hp => Nat.ne_of_gt (hb p hp)), hM]
  simp only [List.append_assoc]

theorem S_kinput_upd {c : Cfg} (h : S c) {npre nsel : Nat} {cells : Layer} {j sub : Nat} {J : Layer}
    (hkj : c.kj = .reflecting npre nsel cells j sub J) {t : Tbl} (ht : (kIns c.tables npre nsel)[j]? = some t)
    (f : TableDir → TableDir) (sub' : Nat) (J' : Layer) (hf : f (selState sub J t) = selState sub' J' t)
    (hs' : sub' ≤ 3) :
    S { c with d := { c.d with tables := updT t.gen f c.d.tables }, kj := .reflecting npre nsel cells j sub' J' } :=
  S_kinput h hkj ht (updT t.gen f) [(t.gen, selState sub' J' t)] j sub' J'
    (fun A B hA hB => by rw [updT_mid _ _ A B _ hA hB, hf]; rfl) (selDirs_cons _ j sub' J' t ht)
    (fun hj => ⟨Nat.le_of_lt hj, hs', fun he => absurd he (Nat.ne_of_lt hj)⟩)

theorem S_krename {c : Cfg} (h : S c) {npre nsel : Nat} {cells : Layer} {j sub : Nat} {J : Layer}
    (hkj : c.kj = .reflecting npre nsel cells j sub J) (hnone : (kIns c.tables npre nsel)[j]? = none) :
    S { c with d := applyEv c.d (.compRename kId (kMeta c.tables npre nsel).replacement), kj := .idle,
               tables := c.tables.take npre ++ [{ gen := (kMeta c.tables npre nsel).replacement, cells := cells }] ++
                 c.tables.drop (npre + nsel) } := by
  obtain ⟨h1, h2, _⟩ := h.kwf.reflecting hkj
  obtain ⟨t0, rest, hins⟩ := kIns_cons h1 h2
  have hrep : (kMeta c.tables npre nsel).replacement = t0.gen := by unfold kMeta; rw [hins]
  have h0 : (kIns c.tables npre nsel)[0]? = some t0 := by rw [hins]; rfl
  obtain ⟨ha, hb⟩ := around_input h npre nsel 0 t0 h0
  have hsel : selDirs (kIns c.tables npre nsel) j sub J = [] := by
    unfold selDirs
    rw [List.drop_of_length_le (List.getElem?_eq_none_iff.1 hnone)]
  have htab : c.d.tables = encT (c.tables.take npre) ++ (encT (c.tables.drop (npre + nsel)) ++ fTables c) := by
    rw [h.tbl]; unfold kTables; rw [hkj]; simp only; rw [hsel]; simp
  have hcomps := h.comps
  unfold kComps at hcomps
  rw [hkj] at hcomps
  simp only at hcomps
  have hpost : ∀ p ∈ encT (c.tables.drop (npre + nsel)) ++ fTables c, t0.gen < p.1 := by
    intro p hp
    apply hb
    rcases List.mem_append.1 hp with (hp | hp)
    · exact List.mem_append_left _ (List.mem_append_right _ hp)
    · exact List.mem_append_right _ hp
  have hl : lookupT t0.gen c.d.tables = none := by
    rw [lookupT_none, htab]
    intro p hp
    rcases List.mem_append.1 hp with (hp | hp)
    · exact Nat.ne_of_lt (ha p hp)
    · exact Nat.ne_of_gt (hpost p hp)
  have hd' : applyEv c.d (.compRename kId (kMeta c.tables npre nsel).replacement) =
      { c.d with comps := [], tables := encT (c.tables.take npre) ++ (t0.gen, .complete cells) ::
          (encT (c.tables.drop (npre + nsel)) ++ fTables c) } := by
    rw [hrep]
    refine (applyEv_rename c.d _ hcomps t0.gen hl).trans ?_
    show { c.d with comps := [], tables := insertT t0.gen (.complete cells) c.d.tables } = _
    rw [htab, insertT_mid _ _ _ _ ha hpost]
  rw [hd', hrep]
  -- the new reader list keeps its order
  have hsub : ((c.tables.take npre ++ [({ gen := t0.gen, cells := cells } : Tbl)] ++ c.tables.drop (npre + nsel)).map (·.gen)).Sublist
      (c.tables.map (·.gen)) := by
    conv => rhs; rw [split3 c.tables npre nsel, hins]
    simp only [List.map_append, List.map_cons, List.map_nil]
    refine List.Sublist.append (List.Sublist.append (List.Sublist.refl _) ?_) (List.Sublist.refl _)
    exact List.Sublist.cons_cons _ (List.nil_sublist _)
  have hmem : ∀ x ∈ c.tables.take npre ++ [({ gen := t0.gen, cells := cells } : Tbl)] ++ c.tables.drop (npre + nsel),
      x.gen ∈ c.tables.map (·.gen) := fun x hx => hsub.subset (List.mem_map.2 ⟨x, hx, rfl⟩)
  refine { h with tbl := ?_, comps := ?_, gensS := ?_, gensLe := ?_, fwf := ?_, kwf := ?_ }
  · show encT (c.tables.take npre) ++ (t0.gen, .complete cells) :: (encT (c.tables.drop (npre + nsel)) ++ fTables c) =
      encT (c.tables.take npre ++ [{ gen := t0.gen, cells := cells }] ++ c.tables.drop (npre + nsel)) ++ fTables c
    rw [encT_append, encT_append]
    simp [encT]
  · rfl
  · exact List.Pairwise.sublist hsub h.gensS
  · intro x hx
    obtain ⟨y, hy, he⟩ := List.mem_map.1 (hmem x hx)
    rw [← he]; exact h.gensLe y hy
  · intro jf hjf
    obtain ⟨g1, g2, g3⟩ := h.fwf jf hjf
    refine ⟨g1, ?_, g3⟩
    intro x hx
    obtain ⟨y, hy, he⟩ := List.mem_map.1 (hmem x hx)
    rw [← he]; exact g2 y hy
  · trivial

theorem S_kstep {async : Bool} {c c' : Cfg} {e : Option Ev} {jk : Option Layer} (h : S c)
    (hm : Move async c (.kstep jk) e c') : S c' := by
  cases hm with
  | kmerge hk he => exact S_kmerge h hk he
  | kload hk ht => exact S_kinput_upd h hk ht (fun _ => .complete _) 1 _ rfl (by omega)
  | @kunlinkMeta _ _ _ _ sub _ _ _ hk ht hs =>
    refine S_kinput_upd h hk ht (TableDir.unlink true) 2 _ ?_ (by omega)
    obtain rfl | rfl : sub = 0 ∨ sub = 1 := by omega
    · rfl
    · rfl
  | kunlink hk ht => exact S_kinput_upd h hk ht (TableDir.unlink false) 3 _ rfl (by omega)
  | krmdir hk ht hs =>
    exact S_kinput h hk ht (eraseT _) [] _ 0 _ (fun A B hA hB => eraseT_mid _ A B _ hA hB) (selDirs_zero _ _ _)
      (fun hj => ⟨hj, Nat.zero_le _, fun _ => rfl⟩)
  | krename hk ht => exact S_krename h hk ht

theorem S_step {async : Bool} {c c' : Cfg} {mv : Mv} {e : Option Ev} (h : S c) (hm : Move async c mv e c') : S c' := by
  cases mv with
  | begin => exact S_begin h hm
  | torn => exact S_torn h hm
  | append => exact S_append h hm
  | done => exact S_done h hm
  | close => exact S_close h hm
  | create => exact S_create h hm
  | header => exact S_header h hm
  | handoff => exact S_handoff h hm
  | fstep => exact S_fstep h hm
  | fadd => exact S_fadd h hm
  | kstart sizes th o => exact S_kstart h hm
  | kstep jk => exact S_kstep h hm
  | kreflect => exact S_kreflect h hm

theorem S_run (async : Bool) (sched : List Mv) : ∀ c, S c → S (FSI.run async c sched) :=
  run_invariant (fun h hm => S_step h hm) sched

end SST.Proofs.FSI
