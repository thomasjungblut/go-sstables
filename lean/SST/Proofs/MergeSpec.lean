/-
Facts about sorted tables and the `overlay` spec: lookup, `upsert`, extensionality of strictly ascending
lists, `overlay` = newest value per key, filters.
-/
import SST.Spec.Merge
import SST.Model.Merge
import SST.Proofs.BytesOrd
import SST.Proofs.ListFacts
namespace SST.Proofs.MergeSpec
open SST SST.Merge

theorem asc_cons {k : Bytes} {v : GoBytes} {r : Table} :
    Asc ((k, v) :: r) ↔ (∀ p ∈ r, bytesCmp k p.1 = .lt) ∧ Asc r := List.pairwise_cons

theorem asc_nil : Asc [] := List.Pairwise.nil

theorem tget_eq_find : ∀ (t : Table) (k : Bytes), tget t k = (t.find? fun p => p.1 == k).map (·.2)
  | [], _ => rfl
  | (k', v) :: r, k => by
    rw [tget, List.find?_cons, tget_eq_find r k]
    by_cases h : k = k'
    · rw [if_pos h, beq_iff_eq.2 h.symm]; rfl
    · rw [if_neg h, beq_false_of_ne (Ne.symm h)]

theorem specGet_eq_tget (t : Table) (k : Bytes) : specGet bytesCmp t k = tget t k := by
  rw [tget_eq_find, specGet]
  congr 2
  funext p
  rw [Bool.eq_iff_iff, beq_iff_eq, beq_iff_eq, bytesCmp_eq_iff, eq_comm]

theorem tget_mapVal {V : Type} (f : V → GoBytes) (l : List (Bytes × V)) (k : Bytes) :
    tget (l.map fun p => (p.1, f p.2)) k = ((l.find? fun p => p.1 == k).map (·.2)).map f := by
  rw [tget_eq_find, List.find?_map, Option.map_map, Option.map_map]
  rfl

theorem tget_eq_none_iff {t : Table} {k : Bytes} : tget t k = none ↔ ∀ p ∈ t, p.1 ≠ k := by
  rw [tget_eq_find, Option.map_eq_none_iff, List.find?_eq_none]
  exact forall₂_congr fun p _ => by rw [beq_iff_eq]

theorem tget_mem {t : Table} {k : Bytes} {v : GoBytes} (h : tget t k = some v) : (k, v) ∈ t := by
  rw [tget_eq_find] at h
  obtain ⟨p, hp, rfl⟩ := Option.map_eq_some_iff.1 h
  have hk := List.find?_some hp
  exact eq_of_beq hk ▸ List.mem_of_find?_eq_some hp

theorem mem_tget {t : Table} (ha : Asc t) {k : Bytes} {v : GoBytes} (h : (k, v) ∈ t) : tget t k = some v := by
  rw [tget_eq_find, find?_eq_some_of_pairwise (fun a b hab hb => ?_) ha h (beq_self_eq_true k)]
  · rfl
  · exact beq_false_of_ne (eq_of_beq hb ▸ ne_of_lt hab)

theorem tget_some_iff {t : Table} (ha : Asc t) {k : Bytes} {v : GoBytes} : tget t k = some v ↔ (k, v) ∈ t :=
  ⟨tget_mem, mem_tget ha⟩

theorem tget_none_of_lt {t : Table} {k : Bytes} (h : ∀ p ∈ t, bytesCmp k p.1 = .lt) : tget t k = none :=
  tget_eq_none_iff.mpr fun p hp => (ne_of_lt (h p hp)).symm

theorem tget_head_none {k : Bytes} {v : GoBytes} {r : Table} (ha : Asc ((k, v) :: r)) : tget r k = none :=
  tget_none_of_lt (asc_cons.mp ha).1

theorem tget_append (a b : Table) (k : Bytes) : tget (a ++ b) k = (tget a k).or (tget b k) := by
  induction a with
  | nil => rfl
  | cons p a ih =>
    obtain ⟨k', v⟩ := p
    simp only [List.cons_append, tget]
    split
    · rfl
    · exact ih

theorem asc_nodup {t : Table} (ha : Asc t) : t.Nodup :=
  List.Pairwise.imp (fun {a b} hlt (e : a = b) => bytesCmp_lt_irrefl a.1 (e ▸ hlt)) ha

theorem asc_ext_mem {l1 l2 : Table} (h1 : Asc l1) (h2 : Asc l2)
    (h : ∀ k v, (k, v) ∈ l1 ↔ (k, v) ∈ l2) : l1 = l2 := by
  refine List.Perm.eq_of_pairwise (le := fun a b : Bytes × GoBytes => bytesCmp a.1 b.1 = .lt) ?_ h1 h2
    ((List.perm_ext_iff_of_nodup (asc_nodup h1) (asc_nodup h2)).mpr fun p => h p.1 p.2)
  intro a b _ _ hab hba
  exact absurd (bytesCmp_trans_lt _ _ _ hab hba) (bytesCmp_lt_irrefl _)

theorem asc_ext {l1 l2 : Table} (h1 : Asc l1) (h2 : Asc l2) (h : ∀ k, tget l1 k = tget l2 k) : l1 = l2 :=
  asc_ext_mem h1 h2 fun k v => by rw [← tget_some_iff h1, ← tget_some_iff h2, h]

theorem upsert_mem {k : Bytes} {v : GoBytes} {m : Table} {p : Bytes × GoBytes} (h : p ∈ upsert k v m) :
    p = (k, v) ∨ p ∈ m := by
  induction m with
  | nil => simpa [upsert] using h
  | cons q r ih =>
    simp only [upsert] at h
    split at h <;> simp only [List.mem_cons] at h ⊢
    · rcases h with h | h | h <;> simp [h]
    · rcases h with h | h <;> simp [h]
    · rcases h with h | h
      · simp [h]
      · rcases ih h with h | h <;> simp [h]

theorem upsert_asc {k : Bytes} {v : GoBytes} {m : Table} (ha : Asc m) : Asc (upsert k v m) := by
  induction m with
  | nil => simp [upsert, Asc, StrictAsc]
  | cons q r ih =>
    obtain ⟨k', v'⟩ := q
    obtain ⟨hlt, har⟩ := asc_cons.mp ha
    simp only [upsert]
    split
    · next hc =>
      refine asc_cons.mpr ⟨fun p hp => ?_, ha⟩
      rcases List.mem_cons.mp hp with rfl | hm
      · exact hc
      · exact bytesCmp_trans_lt _ _ _ hc (hlt p hm)
    · next hc =>
      cases bytesCmp_eq_iff.mp hc
      exact asc_cons.mpr ⟨hlt, har⟩
    · next hc =>
      refine asc_cons.mpr ⟨fun p hp => ?_, ih har⟩
      rcases upsert_mem hp with rfl | hm
      · exact bytesCmp_gt_iff.mp hc
      · exact hlt p hm

theorem tget_upsert (k : Bytes) (v : GoBytes) (m : Table) (k' : Bytes) :
    tget (upsert k v m) k' = if k' = k then some v else tget m k' := by
  induction m with
  | nil => simp [upsert, tget]
  | cons q r ih =>
    obtain ⟨k0, v0⟩ := q
    simp only [upsert]
    cases hc : bytesCmp k k0 with
    | lt => simp [tget]
    | eq =>
      have : k = k0 := bytesCmp_eq_iff.mp hc
      subst this
      simp only [tget]
      by_cases h : k' = k <;> simp [h]
    | gt =>
      simp only [tget, ih]
      have hne : k0 ≠ k := ne_of_lt (bytesCmp_gt_iff.mp hc)
      by_cases h0 : k' = k0
      · subst h0; simp [hne]
      · simp [h0]

theorem applyTable_asc {m : Table} (t : Table) (ha : Asc m) : Asc (applyTable m t) := by
  unfold applyTable
  induction t generalizing m with
  | nil => exact ha
  | cons p r ih => exact ih (upsert_asc ha)

theorem tget_applyTable (m : Table) {t : Table} (ht : Asc t) (k : Bytes) :
    tget (applyTable m t) k = (match tget t k with | some v => some v | none => tget m k) := by
  unfold applyTable
  induction t generalizing m with
  | nil => simp [tget]
  | cons p r ih =>
    obtain ⟨k0, v0⟩ := p
    obtain ⟨_, har⟩ := asc_cons.mp ht
    simp only [List.foldl_cons]
    rw [ih _ har, tget_upsert]
    simp only [tget]
    by_cases h : k = k0
    · subst h
      rw [tget_head_none ht]
      simp
    · simp [h]

theorem foldl_applyTable_asc {ts : List Table} {m : Table} (hm : Asc m) : Asc (ts.foldl applyTable m) := by
  induction ts generalizing m with
  | nil => exact hm
  | cons t r ih => exact ih (applyTable_asc t hm)

theorem tget_foldl_applyTable {ts : List Table} (m : Table) (hts : ∀ t ∈ ts, Asc t) (k : Bytes) :
    tget (ts.foldl applyTable m) k = (match newestValue ts k with | some v => some v | none => tget m k) := by
  induction ts generalizing m with
  | nil => simp [newestValue]
  | cons t r ih =>
    have ht := hts t List.mem_cons_self
    have hr : ∀ t ∈ r, Asc t := fun t h => hts t (List.mem_cons_of_mem _ h)
    simp only [List.foldl_cons, newestValue]
    rw [ih _ hr, tget_applyTable m ht]
    cases newestValue r k <;> rfl

theorem overlay_asc (ts : List Table) : Asc (overlay ts) := foldl_applyTable_asc asc_nil

/-- the overlay holds, for every key, the value of the newest table that has the key -/
theorem tget_overlay {ts : List Table} (hts : ∀ t ∈ ts, Asc t) (k : Bytes) :
    tget (overlay ts) k = newestValue ts k := by
  unfold overlay
  rw [tget_foldl_applyTable [] hts]
  cases newestValue ts k <;> simp [tget]

theorem newestValue_none_iff {ts : List Table} {k : Bytes} :
    newestValue ts k = none ↔ ∀ t ∈ ts, tget t k = none := by
  induction ts with
  | nil => simp [newestValue]
  | cons t r ih =>
    simp only [newestValue, List.mem_cons, forall_eq_or_imp]
    cases h : newestValue r k with
    | some v =>
      simp only [reduceCtorEq, false_iff]
      intro hh
      have := ih.mpr hh.2
      rw [h] at this; cases this
    | none =>
      simp only []
      exact ⟨fun hh => ⟨hh, ih.mp h⟩, fun hh => hh.1⟩

theorem newestValue_some_iff {ts : List Table} {k : Bytes} {v : GoBytes} :
    newestValue ts k = some v ↔
      ∃ (c : Nat) (t : Table), ts[c]? = some t ∧ tget t k = some v ∧
        ∀ (c' : Nat) (t' : Table), c < c' → ts[c']? = some t' → tget t' k = none := by
  induction ts generalizing v with
  | nil => simp [newestValue]
  | cons t r ih =>
    simp only [newestValue]
    cases h : newestValue r k with
    | some v' =>
      -- a newer table has the key
      obtain ⟨c1, t1, hc1, hg1, hn1⟩ := ih.mp h
      simp only [Option.some.injEq]
      constructor
      · rintro rfl
        exact ⟨c1 + 1, t1, hc1, hg1, fun c' t' hcc ht' =>
          match c', hcc, ht' with
          | c'' + 1, hcc, ht' => hn1 c'' t' (Nat.lt_of_succ_lt_succ hcc) ht'⟩
      · rintro ⟨c, t0, hc, hg, hnewer⟩
        cases c with
        | zero => exact absurd (hnewer (c1 + 1) t1 (Nat.succ_pos c1) hc1) (by rw [hg1]; nofun)
        | succ c0 =>
          have := ih.mpr ⟨c0, t0, hc, hg, fun c' t' hcc ht' => hnewer (c' + 1) t' (Nat.succ_lt_succ hcc) ht'⟩
          exact Option.some.inj (h.symm.trans this)
    | none =>
      have hall := newestValue_none_iff.mp h
      constructor
      · intro hg
        exact ⟨0, t, rfl, hg, fun c' t' hcc ht' =>
          match c', hcc, ht' with
          | c'' + 1, _, ht' => hall t' (List.mem_of_getElem? ht')⟩
      · rintro ⟨c, t0, hc, hg, _⟩
        cases c with
        | zero => cases hc; exact hg
        | succ c0 => exact absurd (hall t0 (List.mem_of_getElem? hc)) (by rw [hg]; nofun)

theorem filter_asc {t : Table} (p : Bytes × GoBytes → Bool) (ha : Asc t) : Asc (t.filter p) :=
  List.Pairwise.sublist List.filter_sublist ha

theorem tget_filter {t : Table} (ha : Asc t) (p : Bytes × GoBytes → Bool) (k : Bytes) :
    tget (t.filter p) k = (tget t k).filter fun v => p (k, v) := by
  induction t with
  | nil => rfl
  | cons q r ih =>
    obtain ⟨k', v'⟩ := q
    have ih := ih (asc_cons.mp ha).2
    by_cases hk : k = k'
    · subst hk
      rw [tget_head_none ha] at ih
      by_cases hp : p (k, v') = true <;> simp [tget, hp, ih, Option.filter]
    · by_cases hp : p (k', v') = true <;> simp [tget, hp, hk, ih]

theorem tget_filter_key (t : Table) (f : Bytes → Bool) (k : Bytes) :
    tget (t.filter fun p => f p.1) k = if f k then tget t k else none := by
  induction t with
  | nil => simp [tget]
  | cons q r ih =>
    by_cases hk : k = q.1
    · subst hk
      cases hf : f q.1 <;> simp [hf, tget, ih]
    · cases hf : f q.1 <;> simp [hf, tget, hk, ih]

theorem newestValue_map_filter (ts : List Table) (f : Bytes → Bool) (k : Bytes) :
    newestValue (ts.map fun t => t.filter fun p => f p.1) k = if f k then newestValue ts k else none := by
  induction ts with
  | nil => simp [newestValue]
  | cons t r ih =>
    simp only [List.map_cons, newestValue, ih, tget_filter_key]
    by_cases hf : f k
    · simp [hf]
    · simp [hf]

theorem map_filter_asc {ts : List Table} (hts : ∀ t ∈ ts, Asc t) (p : Bytes × GoBytes → Bool) :
    ∀ t ∈ ts.map (·.filter p), Asc t := by
  intro t ht
  obtain ⟨t0, ht0, rfl⟩ := List.mem_map.mp ht
  exact filter_asc _ (hts t0 ht0)

theorem overlay_map_filter {ts : List Table} (hts : ∀ t ∈ ts, Asc t) (f : Bytes → Bool) :
    overlay (ts.map fun t => t.filter fun p => f p.1) = (overlay ts).filter fun p => f p.1 := by
  apply asc_ext (overlay_asc _) (filter_asc _ (overlay_asc _))
  intro k
  rw [tget_overlay (map_filter_asc hts _), newestValue_map_filter, tget_filter_key,
    tget_overlay hts]

theorem filter_comm_live (m : Table) (f : Bytes → Bool) :
    live (m.filter fun p => f p.1) = (live m).filter fun p => f p.1 := by
  unfold live
  rw [List.filter_filter, List.filter_filter]
  congr 1
  funext p
  exact Bool.and_comm _ _

end SST.Proofs.MergeSpec
