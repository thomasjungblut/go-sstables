/-
C16 (pointer level) — the POINTER SURGERY of skiplist/map_generic.go refines the height-list model of C16.

Model: SST/Model/SkipListPtr.lean — nodes in an arena, one forward pointer per level (`next : List (Option
Nat)`), the head with `maxHeight` = 12 pointers, `findGreaterOrEqual` as coded (descent from level
`maxHeight-1`, `prevTable` filled when given), `Insert` as coded (duplicate panic, the dead re-balancing
branch, `x.SetNext(i, prevTable[i].Next(i)); prevTable[i].SetNext(i, x)` per level), `Get`, `Contains`, `Size`,
the three iterator constructors and `Iterator.Next` (keyHigher, doneNext).  `none` = the Go code panics
(duplicate, index out of range, nil dereference) or a fuelled loop ran dry; the theorems show that on
well-formed structures, for heights 1 ≤ h ≤ maxHeight, only the duplicate panic exists, i.e. the fuel is sufficient.

Relation: `WF cmp pl` = there is an `order` (addresses with abstract nodes, level-0 order) such that for
EVERY level `l < maxHeight` the level-`l` pointer chain from the head visits exactly the addresses of the
entries of height > `l`, in order, ending in nil (`Rep.chain`); addresses distinct; each abstract node =
key, value, length of the node's pointer array; heights in 1..maxHeight; `size` = number of entries;
keys strictly ascending.  `abs pl` = the height-list `SkipList` read off the level-0 chain.
Lemmas: SST/Proofs/SkipListPtr{Basic,Find,Insert,Refine}.lean.
Quantification: all lawful comparators, all keys/values, all heights 1 ≤ h ≤ maxHeight (what `randomHeight`
returns), all well-formed structures (in particular everything reachable from `NewSkipListMap` by inserts).
-/
import SST.Proofs.SkipListPtrRefine
namespace SST.C16.Ptr
open SST SST.SkipListPtr

variable {K V : Type}

theorem empty_wf (cmp : K → K → Ordering) :
    WF cmp (SkipListPtr.empty : PList K V) ∧
      abs (SkipListPtr.empty : PList K V) = SkipList.empty :=
  ⟨wf_empty cmp, abs_empty⟩

/-- WF, read functionally: following the level-`l` pointers from the head yields exactly the abstract
nodes of height > `l`, in order (level 0: all of them — that list is `abs pl`). -/
theorem wf_levels (cmp : K → K → Ordering) (pl : PList K V) (hwf : WF cmp pl) (l : Nat)
    (hl : l < pl.maxHeight) :
    (levelList pl l).map (·.2) = (abs pl).nodes.filter fun n => l < n.height := by
  obtain ⟨order, hrep⟩ := hwf
  rw [levelList_of_rep hrep hl, abs_of_rep hrep]
  simp only [List.filter_map]
  rfl

/-- The pointer-level descent returns the address of the node the height-list `findGE` returns (nil if
none); no panic, fuel suffices; a given `prevTable` ends up holding, in every slot `l`, the level-`l`
predecessor of the returned position (`predRef`: the last node before it linked into level `l`, else
the head). -/
theorem findGE_refines (cmp : K → K → Ordering) (hl : LawfulCmp cmp) (pl : PList K V)
    (hwf : WF cmp pl) (key : K) (pt : Option (List (Option Ref)))
    (hpt : ∀ t, pt = some t → t.length = pl.maxHeight) :
    ∃ pt', SkipListPtr.findGE cmp pl key pt
        = some ((SkipList.findGE cmp (abs pl) key).1.bind
            (fun j => (levelList pl 0)[j]?.map (·.1)), pt') ∧
      (pt = none → pt' = none) ∧
      ∀ t, pt = some t → ∃ t', pt' = some t' ∧ t'.length = pl.maxHeight ∧
        ∀ l, l < pl.maxHeight → t'[l]? = some (some
          (predRef ((levelList pl 0).take (SkipList.findGE cmp (abs pl) key).2) l)) :=
  SkipListPtr.findGE_refines hl hwf key pt hpt

/-- `Insert` (pointer surgery) preserves WF and is the height-list `insert` on the abstract image, for
every height 1 ≤ h ≤ maxHeight; it panics exactly when the height-list `insert` reports a duplicate. -/
theorem insert_refines (cmp : K → K → Ordering) (hl : LawfulCmp cmp) (pl : PList K V)
    (hwf : WF cmp pl) (k : K) (v : V) (h : Nat) (h1 : 1 ≤ h) (hh : h ≤ pl.maxHeight) :
    match SkipList.insert cmp (abs pl) k v h with
    | none => SkipListPtr.insert cmp pl k v h = none
    | some s' => ∃ pl', SkipListPtr.insert cmp pl k v h = some pl' ∧ WF cmp pl' ∧ abs pl' = s' ∧
        pl'.maxHeight = pl.maxHeight :=
  SkipListPtr.insert_refines hl hwf k v h h1 hh

theorem reads_refine (cmp : K → K → Ordering) (hl : LawfulCmp cmp) (pl : PList K V)
    (hwf : WF cmp pl) :
    SkipListPtr.size pl = (abs pl).size ∧
    SkipListPtr.iterAll cmp pl = some (SkipList.iterAll (abs pl)) ∧
    (∀ k, SkipListPtr.get cmp pl k = some (SkipList.get cmp (abs pl) k)) ∧
    (∀ k, SkipListPtr.contains cmp pl k = some (SkipList.contains cmp (abs pl) k)) ∧
    (∀ k, SkipListPtr.iterFrom cmp pl k = some (SkipList.iterFrom cmp (abs pl) k)) ∧
    (∀ lo hi, SkipListPtr.iterBetween cmp pl lo hi
      = some (SkipList.iterBetween cmp (abs pl) lo hi)) :=
  SkipListPtr.reads_refine hl hwf

/-- Any insertion order of distinct keys, any heights 1 ≤ h ≤ 12: the pointer structure is well-formed,
its abstract image is the height-list model's list, and size / Get / Contains / Iterator /
IteratorStartingAt / IteratorBetween equal the height-list model's. -/
theorem skiplist_ptr_refines (cmp : K → K → Ordering) (hl : LawfulCmp cmp) (ins : List (K × V × Nat))
    (hd : DistinctKeys cmp (ins.map (·.1))) (hh : ∀ x ∈ ins, 1 ≤ x.2.2 ∧ x.2.2 ≤ 12) :
    ∃ (pl : PList K V) (s : SkipList K V),
      SkipListPtr.insertAll cmp SkipListPtr.empty ins = some pl ∧
      SkipList.insertAll cmp SkipList.empty ins = some s ∧
      WF cmp pl ∧ abs pl = s ∧
      SkipListPtr.size pl = s.size ∧
      SkipListPtr.iterAll cmp pl = some (SkipList.iterAll s) ∧
      (∀ k, SkipListPtr.get cmp pl k = some (SkipList.get cmp s k)) ∧
      (∀ k, SkipListPtr.contains cmp pl k = some (SkipList.contains cmp s k)) ∧
      (∀ k, SkipListPtr.iterFrom cmp pl k = some (SkipList.iterFrom cmp s k)) ∧
      (∀ lo hi, SkipListPtr.iterBetween cmp pl lo hi = some (SkipList.iterBetween cmp s lo hi)) := by
  obtain ⟨pl, s, hpl, hs, hwf, rfl, _⟩ := insertAll_empty_refines cmp hl ins hd hh
  exact ⟨pl, _, hpl, hs, hwf, rfl, SkipListPtr.reads_refine hl hwf⟩

/-- The same against the sorted map `sortedOf` of the insertions (through `SST.Proofs.skiplist_refines`). -/
theorem skiplist_ptr_sorted_map (cmp : K → K → Ordering) (hl : LawfulCmp cmp) (ins : List (K × V × Nat))
    (hd : DistinctKeys cmp (ins.map (·.1))) (hh : ∀ x ∈ ins, 1 ≤ x.2.2 ∧ x.2.2 ≤ 12) :
    ∃ pl : PList K V, SkipListPtr.insertAll cmp SkipListPtr.empty ins = some pl ∧ WF cmp pl ∧
      let m := sortedOf cmp (ins.map fun x => (x.1, x.2.1))
      SkipListPtr.size pl = ins.length ∧
      SkipListPtr.iterAll cmp pl = some m ∧
      (∀ k, SkipListPtr.get cmp pl k = some (specGet cmp m k)) ∧
      (∀ k, SkipListPtr.contains cmp pl k = some (specGet cmp m k).isSome) ∧
      (∀ k, SkipListPtr.iterFrom cmp pl k = some (specFrom cmp m k)) ∧
      (∀ lo hi, SkipListPtr.iterBetween cmp pl lo hi = some (specBetween cmp m lo hi)) := by
  obtain ⟨pl, s, hpl, hs, hwf, _, h1, h2, h3, h4, h5, h6⟩ := skiplist_ptr_refines cmp hl ins hd hh
  obtain ⟨s', hs', g1, g2, g3, g4, g5, g6⟩ :=
    Proofs.skiplist_refines cmp hl ins hd (fun x hx => (hh x hx).1)
  rw [hs] at hs'
  cases hs'
  refine ⟨pl, hpl, hwf, ?_⟩
  intro m
  refine ⟨h1.trans g1, by rw [h2, g2], ?_, ?_, ?_, ?_⟩
  · intro k; rw [h3 k, g3 k]
  · intro k; rw [h4 k, g4 k]
  · intro k; rw [h5 k, g5 k]
  · intro lo hi; rw [h6 lo hi, g6 lo hi]

/-- Inserting a key that compares equal to one already present panics at the pointer level too. -/
theorem insert_duplicate_panics (cmp : K → K → Ordering) (hl : LawfulCmp cmp) (ins : List (K × V × Nat))
    (hd : DistinctKeys cmp (ins.map (·.1))) (hh : ∀ x ∈ ins, 1 ≤ x.2.2 ∧ x.2.2 ≤ 12)
    (pl : PList K V) (hpl : SkipListPtr.insertAll cmp SkipListPtr.empty ins = some pl)
    (k : K) (v : V) (h : Nat) (h1 : 1 ≤ h) (h12 : h ≤ 12) (hk : ∃ x ∈ ins, cmp k x.1 = .eq) :
    SkipListPtr.insert cmp pl k v h = none := by
  have _ := h1; have _ := h12  -- not used: `Insert` looks at the height only after the duplicate test
  exact insert_duplicate_panics_any cmp hl ins hd hh pl hpl k v h hk

/-- non-vacuity: `compare` on Nat is a lawful comparator; a concrete insertion sequence meets the
hypotheses (distinct keys, heights within 1..12, including both extremes) and the pointer model runs. -/
example : LawfulCmp (compare : Nat → Nat → Ordering) where
  refl a := by simp
  swap a b := by rw [Nat.compare_swap]
  trans_lt a b c h1 h2 := by rw [Nat.compare_eq_lt] at *; omega
  eq_left a b c h := by rw [Nat.compare_eq_eq] at h; rw [h]

example : DistinctKeys (compare : Nat → Nat → Ordering)
    (([(3, 30, 2), (1, 10, 12), (2, 20, 1)] : List (Nat × Nat × Nat)).map (·.1)) := by
  simp [DistinctKeys]

example : ∀ x ∈ ([(3, 30, 2), (1, 10, 12), (2, 20, 1)] : List (Nat × Nat × Nat)),
    1 ≤ x.2.2 ∧ x.2.2 ≤ 12 := by decide +kernel

example : (SkipListPtr.insertAll compare SkipListPtr.empty
      ([(3, 30, 2), (1, 10, 12), (2, 20, 1)] : List (Nat × Nat × Nat))).bind
      (fun pl => SkipListPtr.iterAll compare pl) = some [(1, 10), (2, 20), (3, 30)] := by decide +kernel

end SST.C16.Ptr
