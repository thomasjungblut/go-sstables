/-
C13 — Asynchronous WAL: a kill loses only a suffix of recent writes, not the database.
Abstract-disk model L6-fs.  With the asynchronous WAL a Put/Delete is acknowledged when its record sits in the
appender's write buffer (volatile queue `Vol.queue`); a buffer flush writes a prefix of the queue record by
record — possibly cutting one (`walTorn`) —, and closing the file at a rotation writes the whole queue before the
next file is created.  The per-step scheduling parameters `drain` / `torn` of `AStep` say how many buffered
records leave the buffer during the step: the theorem quantifies over all of them.
-/
import SST.Proofs.FSAsync
namespace SST.C13
open SST SST.FS SST.DBM SST.Proofs.FS

/-- MAIN THEOREM — crash points × programs × buffer-flush schedules × configurations: for EVERY list of steps with
EVERY buffer-flush schedule and EVERY number `n` of completed file-system calls, the directory image after `n` calls
is a well-formed disk, `Open` succeeds on it, and the opened database equals the reference map after a PREFIX
(`issued.take p`) of the mutations issued so far — the accepted Put/Delete calls in program order, all of them
acknowledged except possibly the last one, which is in flight —; no holes, no reordering; and the prefix contains at
least every mutation issued up to the last completed rotating step (`mark`: forced rotation, size-triggered
rotation inside a Put, Close). -/
theorem async_crash_prefix (asteps : List AStep) (n : Nat) (o : Opts) :
    let evs := sessionFrom true {} {} asteps
    let d := applyEvs {} (evs.flatten.take n)
    let a := ackedCount evs n
    let info := sessionInfo true {} {} asteps
    let issued := (info.take (a + 1)).filterMap (·.1)
    let mark := rotMark (info.take a)
    DiskOk d ∧ ∃ d' s p, recover d o = .ok (d', s) ∧ mark ≤ p ∧ p ≤ issued.length ∧
      abs s = applySpec (fun _ => none) (issued.take p) := by
  intro evs d a info issued mark
  obtain ⟨h1, p, hp1, hp2, hp3⟩ := async_run asteps (fun _ => none) [] {} {} 0 QB_init (Nat.le_refl _) n
  obtain ⟨d', s, hr, ha⟩ := recover_serves d h1 o
  exact ⟨h1, d', s, p, hr, hp1, hp2, ha.trans hp3⟩

/-- the issued mutations are the reference's: applying the mutations of the first `j` steps to the empty map gives
the reference map (`DBM.Spec`, the one of C01) after those `j` steps — accepted and rejected calls, rotations,
flushes, compactions, close and re-open included -/
theorem issued_is_reference (asteps : List AStep) (j : Nat) :
    applySpec (fun _ => none) (((sessionInfo true {} {} asteps).take j).filterMap (·.1)) =
      (specFold {} ((asteps.take j).map (·.st))).m := by
  rw [sessionInfo_take]
  obtain ⟨h, _⟩ := QB_init
  exact (Proofs.FS.issued_is_reference (asteps.take j) {} {} {} h Proofs.DB.rel_init).symm

/-- … and the same from ANY well-formed disk (e.g. a crash image): `Open`, then any asynchronous session, killed
anywhere.  The reference starts from `logical d0`, the content the first `Open` recovers. -/
theorem async_crash_prefix_after_recovery (d0 : Disk) (h0 : DiskOk d0) (o0 : Opts) (d1 : Disk) (s1 : State)
    (hr0 : recover d0 o0 = .ok (d1, s1)) (asteps : List AStep) (n : Nat) (o : Opts) :
    let evs := sessionFrom true d1 (openedVol s1) asteps
    let d := applyEvs d1 (evs.flatten.take n)
    let a := ackedCount evs n
    let info := sessionInfo true d1 (openedVol s1) asteps
    let issued := (info.take (a + 1)).filterMap (·.1)
    let mark := rotMark (info.take a)
    DiskOk d ∧ ∃ d' s p, recover d o = .ok (d', s) ∧ mark ≤ p ∧ p ≤ issued.length ∧
      abs s = applySpec (logical d0) (issued.take p) := by
  intro evs d a info issued mark
  have hq := recover_QW d0 h0 o0 d1 s1 hr0
  have hqa : QB (logical d0) d1 (openedVol s1) :=
    ⟨⟨[], [], [], false, hq⟩, (recover_diskOk d0 h0 o0 d1 s1 hr0).2⟩
  obtain ⟨h1, p, hp1, hp2, hp3⟩ := async_run asteps (logical d0) [] d1 (openedVol s1) 0 hqa (Nat.le_refl _) n
  obtain ⟨d', s, hr, ha⟩ := recover_serves d h1 o
  exact ⟨h1, d', s, p, hr, hp1, hp2, ha.trans hp3⟩

/-- three buffered writes of which one is written and the next cut, a rotation, one more write: the crash image
after 8 calls (the 5 of `Open`, then one record and a cut piece in the file) and the mark once the rotation is done -/
def prog : List AStep :=
  [{ st := .reopen {} }, { st := .putS [1] [1] false }, { st := .putS [2] [2] false },
   { st := .putS [1] [3] false, drain := 1, torn := true }, { st := .rotate }, { st := .delS [2] }]

example : (sessionFrom true {} {} prog).map (·.length) = [5, 0, 0, 3, 7, 0] := by decide +kernel

example :
    let d := applyEvs {} ((sessionFrom true {} {} prog).flatten.take 8)
    (d.wal.map (fun f => (f.num, f.recs.length, f.torn)), logical d [1], logical d [2]) =
      ([(0, 1, true)], some [1], none) := by decide +kernel

example : rotMark ((sessionInfo true {} {} prog).take 5) = 3 := by decide +kernel

/-- D13 (dcf35d1): a cut final record is tolerated in the LAST file only; were it not the last, `Open` would fail -/
theorem torn_nonlast_wal_fails :
    errOf (recover { walDir := true, wal := [{ num := 0, recs := [.put [1] [1]], torn := true }, { num := 1 }] }) =
      some .walReplay := by decide +kernel

end SST.C13
