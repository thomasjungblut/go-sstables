/-
C04 — RecordIO returns written records unchanged through every reader and access path.
Property theorems only; helper lemmas live in SST/Proofs.
-/
import SST.Proofs.RecordIO
import SST.Proofs.RecordIOSeek
namespace SST.C04
open SST Generated

/-- Writer: after any program of writes and seeks back to record boundaries, the closed file is exactly
the file header followed by the surviving records, and `Size()` is its length. -/
theorem close_exact (c : Compression) (ct : Nat) (ops : List AOp) (hc : CutsOk [] ops) :
    let w := (runWriter c (WState.init ct) (concretize c [] ops)).1
    w.close = fileHeader currentVersion ct ++ encAll c (survivors [] ops) ∧ w.cur = w.close.length :=
  Proofs.close_exact c ct ops hc

/-- Writer, programs of writes only: every `Write` returns the offset at which its record starts in the final
file. -/
theorem write_offsets (c : Compression) (ct : Nat) (rs : List GoBytes) :
    (runWriter c (WState.init ct) (rs.map WOp.write)).2 = (List.range rs.length).map (offsetOf c rs) :=
  Proofs.write_offsets c ct rs

/-- Sequential reader: exactly the records of the file (of a closed file: the survivors, `close_exact`), nil
distinguished from empty, then end-of-file. -/
theorem seq_roundtrip (c : Compression) (ct : Nat) (rs : List GoBytes)
    (hl : LawfulC c) (hf : ∀ r ∈ rs, FitsRec c r) :
    readAll c (fileHeader currentVersion ct ++ encAll c rs) = (rs, .eof) :=
  Proofs.seq_roundtrip c ct rs hl hf

/-- Random access: record `k` is returned at the offset `Write` returned for it. -/
theorem readAt_offset (c : Compression) (ct : Nat) (rs : List GoBytes) (k : Nat) (hk : k < rs.length)
    (hl : LawfulC c) (hf : ∀ r ∈ rs, FitsRec c r) :
    readAt c (fileHeader currentVersion ct ++ encAll c rs) (offsetOf c rs k) = .ok rs[k] :=
  Proofs.readAt_offset c ct rs k hk hl hf

/-- Skipping a record moves the reader exactly as far as reading it does. -/
theorem skip_eq_read_discard (c : Compression) (r : GoBytes) (rest : Bytes)
    (hl : LawfulC c) (hf : FitsRec c r) :
    skipNextS c (encRecord c r ++ rest) = .ok (encRecord c r).length ∧
    readNextS c (encRecord c r ++ rest) = .ok (r, (encRecord c r).length) :=
  Proofs.skip_eq_read_discard c r rest hl hf

/-- A tail of zero bytes (direct-I/O block padding) reads as end-of-file. -/
theorem zero_tail_is_eof (c : Compression) (n : Nat) :
    readNextS c (List.replicate n 0) = .error .eof :=
  Proofs.zero_tail_is_eof c n

/-- SeekNext as coded (4 KiB windows, marker scan, trial reads) returns the FIRST position at or after the start
offset where the marker stands and a complete valid record can be read, and end-of-file if there is none —
for every file content and every offset up to the length of the file (beyond it the mapped file's `ReadAt`
fails: `.other`). -/
theorem seekNext_spec (c : Compression) (file : Bytes) (off : Nat) (hoff : off ≤ file.length) :
    match seekNext c file off with
    | .ok (p, r) => off ≤ p ∧ Proofs.MarkerAt file p ∧ readAt c file p = .ok r ∧
        ∀ q, off ≤ q → q < p → ¬ Proofs.ValidAt c file q
    | .error e => e = .eof ∧ ∀ q, off ≤ q → ¬ Proofs.ValidAt c file q :=
  Proofs.seekNext_spec c file off hoff

/-- On a written file in which no payload embeds the bytes of a complete valid record (`NoPhantom`; the
format has no escaping: known finding `seeknext:payload-embeds-valid-record`), seeking from any byte offset returns
the first record that starts at or after that offset, or end-of-file. -/
theorem seekNext_first_record (c : Compression) (ct : Nat) (rs : List GoBytes)
    (hl : LawfulC c) (hf : ∀ r ∈ rs, FitsRec c r) (hnp : Proofs.NoPhantom c ct rs) (off : Nat)
    (hoff : off ≤ (fileHeader currentVersion ct ++ encAll c rs).length) :
    match seekNext c (fileHeader currentVersion ct ++ encAll c rs) off with
    | .ok (p, r) => ∃ k, ∃ hk : k < rs.length, p = offsetOf c rs k ∧ r = rs[k] ∧ off ≤ p ∧
        ∀ j, j < k → offsetOf c rs j < off
    | .error e => e = .eof ∧ ∀ k, k < rs.length → offsetOf c rs k < off :=
  Proofs.seekNext_first_record c ct rs hl hf hnp off hoff

/-- Non-vacuity: a concrete non-trivial program (write, write nil, cut back, write) meets the hypotheses. -/
example : CutsOk [] [.write (some [1, 2]), .write none, .cut 1, .write (some [])] := by
  simp [CutsOk]

end SST.C04
