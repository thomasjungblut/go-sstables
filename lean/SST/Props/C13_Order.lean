/-
C13 (order tie) — asynchronous WAL: the ORDER of logging, memstore update, WAL rotation and hand-off in the Go source
TODAY, over the table tools/orderfacts regenerates from /repo before every proof build (see Props/C02_Order.lean),
and the agreement of the model's `rotateEvs` / `logEvs` (Model/FS.lean) with it.  The prefix property of C13 rests on:
a record is logged before it reaches the memstore; the memstore entry lands in the store that belongs to the WAL file
the record was logged into (upsert BEFORE the rotation); a rotation closes — and thereby writes out — the current file
before the next one exists.
-/
import SST.Proofs.Order
namespace SST.C13.Order
open SST SST.OrderSpec SST.Generated.Order SST.FS SST.DBM

theorem listed_functions_found :
    (["DB.PutBytes", "DB.DeleteBytes", "DB.rotateWalAndFlushMemstore", "simpledb.swapMemstore", "Appender.Append",
      "Appender.AppendSync", "Appender.Rotate", "Appender.Close", "wal.checkSizeAndRotate", "wal.setupNextWriter"].all foundFn) = true := by
  decide +kernel

/-- `PutBytes` / `DeleteBytes`: the record is appended to the log (either flavour) before the memstore changes -/
theorem put_logs_before_memstore :
    let p := itemsOf "DB.PutBytes"
    let d := itemsOf "DB.DeleteBytes"
    allBefore .walAppend .memUpsert p = true ∧ allBefore .walAppendSync .memUpsert p = true ∧
    allBefore .walAppend .memDelete d = true ∧ allBefore .walAppendSync .memDelete d = true ∧
    count .memUpsert p = 1 ∧ count .memDelete d = 1 ∧
    condsAround .walAppend [] p = [["simpledb.DB.enableAsyncWAL", "!simpledb.DB.closed", "simpledb.DB.open"]] ∧
    condsAround .walAppendSync [] p = [["else: simpledb.DB.enableAsyncWAL", "!simpledb.DB.closed", "simpledb.DB.open"]] ∧
    condsAround .walAppend [] d = [["simpledb.DB.enableAsyncWAL"]] ∧ condsAround .walAppendSync [] d = [["else: simpledb.DB.enableAsyncWAL"]] := by
  decide +kernel

/-- C13-m2: the accepted write reaches the memstore BEFORE a size-triggered rotation hands that store over — so the
record and its WAL file travel together; the upsert itself is unconditional, the rotation is the last thing the call does -/
theorem put_memstore_before_rotate :
    let p := itemsOf "DB.PutBytes"
    inOrder [.lock, .memUpsert, .memSizeEstimate, .rotateAndHandOff] p = true ∧
    -- the upsert: reached when the two state checks hold, under no other condition; the rotation: when, in addition,
    -- the estimated size exceeds the limit (normal form of `if size > max { return rotate() }` inside a called body)
    pathConds .memUpsert p = [["!simpledb.DB.closed", "simpledb.DB.open"]] ∧
    pathConds .rotateAndHandOff p =
      [["simpledb.DB.memstoreMaxSize < simpledb.DB.memStore.EstimatedSizeInBytes()", "!simpledb.DB.closed",
        "simpledb.DB.open"]] ∧
    lastAmong .rotateAndHandOff [.walAppend, .walAppendSync, .memUpsert, .memDelete] p = true ∧
    noOther p = true ∧ noOther (itemsOf "DB.DeleteBytes") = true := by decide +kernel

/-- everything between taking the lock and the end of the call happens under the database lock (released by `defer`) -/
theorem put_runs_under_lock :
    let p := itemsOf "DB.PutBytes"
    allBefore .lock .walAppend p = true ∧ allBefore .lock .walAppendSync p = true ∧
    acts (deferredBlocks p).flatten = [.unlock] ∧
    acts (deferredBlocks (itemsOf "DB.DeleteBytes")).flatten = [.unlock] ∧ allBefore .lock .walAppend (itemsOf "DB.DeleteBytes") = true := by
  decide +kernel

/-- `rotateWalAndFlushMemstore`: rotate the log, swap the stores, hand the old store and the old file's path over -/
theorem rotate_before_handoff :
    acts (itemsOf "DB.rotateWalAndFlushMemstore") = [.walRotate, .swapMemstore, .chanSendFlush] ∧
    noOther (itemsOf "DB.rotateWalAndFlushMemstore") = true := by decide +kernel

/-- C13-m1: `Appender.Rotate` closes the current writer (which writes out its buffer) BEFORE the next file is set up;
`setupNextWriter` creates the file, then writes its header.  Since a9ebc7d a writer whose `Open` failed is closed again:
that close comes after the `Open`, only under `err != nil` — the fault-free rotation is still create, header, nothing else -/
theorem rotate_closes_before_creating_next :
    acts (itemsOf "Appender.Rotate") = [.closeCurrentWalWriter, .setupNextWriter] ∧
    noOther (itemsOf "Appender.Rotate") = true ∧
    unconditional .closeCurrentWalWriter (itemsOf "Appender.Rotate") = true ∧
    acts (itemsOf "wal.setupNextWriter") = [.walWriterFactory, .openWalWriter, .closeFailedWalWriter] ∧
    unconditional .walWriterFactory (itemsOf "wal.setupNextWriter") = true ∧
    unconditional .openWalWriter (itemsOf "wal.setupNextWriter") = true ∧
    condsAround .closeFailedWalWriter [] (itemsOf "wal.setupNextWriter") = [["errNonNil"]] ∧
    noOther (itemsOf "wal.setupNextWriter") = true := by decide +kernel

/-- the appenders check the size limit first (SimpleDB sets it to MaxUint64: no rotation of its own), then write -/
theorem append_checks_size_then_writes :
    acts (itemsOf "Appender.Append") = [.checkSizeAndRotate, .recWrite] ∧
    acts (itemsOf "Appender.AppendSync") = [.checkSizeAndRotate, .recWriteSync] ∧
    acts (itemsOf "Appender.Close") = [.closeCurrentWalWriter] := by decide +kernel

/-- MODEL = SOURCE, rotation: `rotateEvs` without a pending flush = close the file, create the next, write its header -/
theorem model_rotate_order_matches_source :
    srcKinds .table cfgPut "DB.rotateWalAndFlushMemstore" = some (modelKinds (rotateEvs vOpen).1) ∧
    modelKinds (rotateEvs vOpen).1 = [.walClose, .walCreate, .walHeader] := by decide +kernel

/-- MODEL beside SOURCE, asynchronous write path at the granularity of the model (two evaluations; there is no
`srcKinds` equation here, `cfgPut` takes the synchronous branch): the record enters the buffer and nothing
has to reach the file during the call (drain 0); when the call rotates, the buffer is written out by the close that
precedes the creation of the next file (`drainEvs` then `walClose`, `walCreate`, `walHeader`). -/
theorem model_async_write_order_matches_source :
    (fsStep true {} vOpen { st := .putB (some [1]) (some [2]) false, drain := 0 }).1 = [] ∧
    ((fsStep true {} vOpen { st := .putB (some [1]) (some [2]) true, drain := 0 }).1.map kindOf) =
      [.walTorn, .walAppend, .walClose, .walCreate, .walHeader] ∧
    -- source: Append = buffered write only; Rotate = close (flushes), then the next file
    acts (itemsOf "Appender.Append") = [.checkSizeAndRotate, .recWrite] ∧
    occurs .flushBuffer (itemsOf "FileWriter.Write") = false ∧
    firstIdx .flushBuffer (itemsOf "FileWriter.Close") = some 0 ∧
    acts (itemsOf "Appender.Rotate") = [.closeCurrentWalWriter, .setupNextWriter] :=
  ⟨by decide +kernel, by decide +kernel, append_checks_size_then_writes.1, by decide +kernel, by decide +kernel,
   rotate_closes_before_creating_next.1⟩

/-- the C13 part of `model_order_matches_source`; the put path is the synchronous one (`cfgPut`: `enableAsyncWAL`
false, `fsStep false`), the conjunct C02 has too — for the asynchronous one see `model_async_write_order_matches_source` -/
theorem model_order_matches_source :
    srcKinds .table cfgPut "DB.rotateWalAndFlushMemstore" = some (modelKinds (rotateEvs vOpen).1) ∧
    srcKinds .table cfgPut "DB.PutBytes" = some (modelKinds (fsStep false {} vOpen { st := .putB (some [1]) (some [2]) true }).1) :=
  ⟨model_rotate_order_matches_source.1, put_path_matches_model⟩

end SST.C13.Order
