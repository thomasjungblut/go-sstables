/-
C13, whole histories — the asynchronous WAL with `Close` and re-`Open` inside the interleaved crash model.  Same model
and same proofs as Props/C02_Sessions.lean (read its header): `Session.async = true` makes an append return as soon as
the record is in the appender's buffer; the buffer is written out inside later appends, when a rotation closes the
file — `Close`'s own rotation included (`Mv.torn` / `Mv.append` while `Close` holds the lock) — and by `wal.Close()`
(where it is provably empty).
-/
import SST.Proofs.FSSessionsHistory
namespace SST.C13.Sessions
open SST SST.FS SST.DBM SST.FSI SST.FSS SST.Proofs.FS SST.Proofs.FSI SST.Proofs.FSS

/-- MAIN THEOREM — for EVERY well-formed initial disk and EVERY history (any number of sessions, each with killed
`Open`s, any program, ANY schedule cut anywhere or run to a completed `Close`; any WAL flavour per session — in
particular all asynchronous): the final disk is well-formed, `Open` succeeds on it, and there is one number `p` per
session such that the opened database is the reference after, session by session, the first `p` mutations of the
session's history — a PREFIX (no holes, no reordering) that contains every mutation issued up to the session's last
completed rotation (`mark`), and is the WHOLE history when `Close` completed (or only got past waiting for the
flusher): closed sessions are fully durable.  In every session at most one call was not yet acknowledged. -/
theorem async_crash_prefix_history (d0 : Disk) (h0 : DiskOk d0) (H : History) (o : Opts) :
    let r := runHistory d0 H
    DiskOk r.1 ∧ r.2.length = H.sessions.length ∧
      ∃ ps : List Nat, ps.length = H.sessions.length ∧
        (∀ x ∈ triples H.sessions r.2 ps,
          x.2.1.opened = true ∧ x.2.1.acked ≤ x.2.1.hist.length ∧ x.2.1.hist.length ≤ x.2.1.acked + 1 ∧
          x.2.1.mark ≤ x.2.2 ∧ x.2.2 ≤ x.2.1.hist.length ∧
          (x.2.1.ph.rejecting = true → x.2.2 = x.2.1.hist.length ∧ x.2.1.acked = x.2.1.hist.length) ∧
          ∃ pre rej post, x.1.prog = pre ++ rej ++ post ∧ x.2.1.hist = pre.filterMap Op.accepted) ∧
        ∃ d' st, recover r.1 o = .ok (d', st) ∧ abs st = applySpec (logical d0) (chosenMuts (r.2.zip ps)) := by
  intro r
  obtain ⟨hok, hlen, ps, hpl, hall, d', st, hr, habs⟩ := history_good d0 h0 H o
  refine ⟨hok, hlen, ps, hpl, ?_, d', st, hr, by rw [habs, refAfter_eq]⟩
  intro x hx
  have hso := hall x hx
  obtain ⟨pre, rej, post, e1, e2, _⟩ := hso.prog
  exact ⟨hso.opened, hso.a1, hso.a2, hso.mark, hso.le, hso.all, pre, rej, post, e1, e2⟩

/-- a session that ends with a completed `Close` is fully durable whatever the flavour: see
`C02.Sessions.close_complete_all_durable` (stated for both).  Here: the per-session form of the theorem above. -/
theorem async_session_prefix (d : Disk) (h : DiskOk d) (s : Session) (o : Opts) :
    let r := runSession d s
    DiskOk r.1 ∧ ∃ p, r.2.mark ≤ p ∧ p ≤ r.2.hist.length ∧ (r.2.closed = true → p = r.2.hist.length) ∧
      ∃ d' st, recover r.1 o = .ok (d', st) ∧ abs st = applySpec (logical d) (r.2.hist.take p) := by
  intro r
  obtain ⟨hok, p, hso, hlog, _⟩ := session_good d h s
  obtain ⟨d', st, hr, ha⟩ := recover_serves r.1 hok o
  refine ⟨hok, p, hso.mark, hso.le, ?_, d', st, hr, ha.trans hlog⟩
  intro hc
  have hph : r.2.ph = .closed := by simpa [Ghost.closed] using hc
  exact (hso.all (by rw [hph]; rfl)).1

def bd : List SMv := [.sys .begin, .sys .done]
def rot4 : List SMv := [.sys .close, .sys .create, .sys .header, .sys .handoff]
def fl7 : List SMv := [.sys .fstep, .sys .fstep, .sys .fstep, .sys .fstep, .sys .fstep, .sys .fstep, .sys .fadd]

/-- session 1: three puts acknowledged with NOTHING written; `Close` writes the buffer out (in pieces) when its rotation
closes the file, hands the store over, waits for the flusher, … -/
def a1 : Session :=
  { async := true
    prog := [.put [1] [1] false, .put [2] [2] false, .put [3] [3] false]
    sched := bd ++ bd ++ bd ++ [.cbegin, .sys .append, .sys .torn, .sys .append, .sys .append] ++ rot4 ++ fl7 ++
      [.cunlock, .kexit, .cwal, .sys .close, .cfinish] }

/-- session 2: a put that rotates (written by the rotation), a delete (written during the next append), a put that is
acknowledged and still in the buffer when the process is killed -/
def a2 : Session :=
  { async := true
    prog := [.put [4] [4] true, .del [1], .put [5] [5] false]
    sched := [.sys .begin, .sys .done, .sys .append] ++ rot4 ++ [.sys .begin, .sys .done, .sys .begin, .sys .append, .sys .done] }

def histA : History := { sessions := [a1, a2] }

/-- the closed session is fully durable; the killed one keeps a prefix of its 3 acknowledged mutations that contains
the one before its rotation (`mark = 1`): here `p = 2`, the acknowledged `put [5]` is lost — `ps = [3, 2]` -/
example :
    let r := runHistory {} histA
    r.2.map (fun g => (g.hist.length, g.acked, g.mark, g.ph)) = [(3, 3, 3, .closed), (3, 3, 1, .running)] ∧
      DiskOk r.1 ∧ r.1.wal.map (fun f => (f.num, f.recs.length)) = [(0, 1), (1, 1)] ∧
      [[1], [2], [3], [4], [5]].map (logical r.1) = [none, some [2], some [3], some [4], none] ∧
      (∀ k ∈ [[1], [2], [3], [4], [5]], logical r.1 k = applySpec (fun _ => none) (chosenMuts (r.2.zip [3, 2])) k) := by
  decide +kernel

/-- session 1 killed INSIDE `Close` (after 9 moves: the rotation is writing the buffer out, one record and a piece of
the next have reached the file): three acknowledged mutations, one durable — the asynchronous WAL's guarantee, not
more, until `Close` has closed the file -/
example :
    let r := runSession {} { a1 with sched := a1.sched.take 9 }
    r.2.ph = .locked ∧ r.2.acked = 3 ∧ r.2.mark = 0 ∧ DiskOk r.1 ∧
      r.1.wal = [{ num := 0, recs := [.put [1] [1]], torn := true }] ∧
      [[1], [2], [3]].map (logical r.1) = [some [1], none, none] := by
  decide +kernel

end SST.C13.Sessions
