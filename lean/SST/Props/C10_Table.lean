/-
C10 / C02 / C13 — the BYTES of a table directory refine the abstract disk of L6-fs.

The crash theorems (`C02.crash_safe_sync`, `C10.recover_idempotent_under_crash`, C13) are proved on the abstract disk
(SST/Model/FS.lean), where a table directory is `part hasMeta | complete cells` and a table writer is the event sequence
`tblMkdir g, tblLoadable g [], tblMetaCreate g, tblProgress g, tblComplete g cells` (`FS.flushEvs`, `FS.phase3Events`),
a `RemoveAll` of a complete table `FS.rmAll`.  Here that sequence (`tableEvs`) and `FS.rmAll` are derived from the
bytes, for the pairs `kvs` the writer accepts (strictly ascending keys); `flush_events_are_table_events` identifies
`tableEvs` with the events of `FS.flushEvs`, whose cells are the layer `v.s.r` as the memstore model keeps it (newest
binding first) — that the sorted pairs and that layer are the same map is not stated here. SST/Model/TableDirBytes.lean
has the directory image (`DirImage`: index.rio, data.rio, meta.pb.bin, bloom.bf.gz), the file-system calls of one
table-writer run as the code performs them now (`flushCalls`: header of each recordio file written at `Open`, records
through the buffered writers with the flush points as a parameter — every chunking that writes no byte before the code
handed it to the buffered writer —, metadata written LAST into a file created EMPTY at `Open`), the clean-up calls
(`removeUnfinishedCalls`: index.rio first; `removeAllCalls`: any order) and `classify` = `reconstructSSTables` on one
directory as a function of the image (`hasEmptyMetadata`, `NewSSTableReader` with SimpleDB's options through the
byte-level `openTable` / version-0 path, `isUnfinishedTable`).

Hypotheses (`Hyp`): byte-wise comparator, lawful compressors matching the codes in the file headers, sizes within the
64-bit fields of the formats, strictly ascending keys (= the pairs the writer accepts); `BloomReads`: the filter file
the writer wrote reads back.  Proofs: SST/Proofs/TableDirBytes{,Class,FS}.lean.  Kill-9 model: each call atomic — also
the ONE `write` that carries the metadata (`metaCalls`): a torn image of that write is outside these theorems (evaluating
`classifyX`: the first 2, 5, 8, 10, 12 or 14 of the 18 metadata bytes of `kvs0` below make the complete directory load as
the legacy table of `legacy_get_fails`).
-/
import SST.Proofs.TableDirBytesFS
namespace SST.C10.Table
open SST SST.TblDir SST.FS Generated
open SST.Proofs.TblDir (Hyp BloomReads rmState preMetaImg)

/-- the abstract events of a flush ARE `tableEvs` (followed by the unlink of the WAL file) -/
theorem flush_events_are_table_events (v : Vol) (h1 : v.s.flushPending = true) (h2 : v.s.r.isEmpty = false) :
    (flushEvs v).1 = tableEvs (v.s.gen + 1) v.s.r ++
      (match v.walOld with | some n => [Ev.walUnlink n] | none => []) := by
  simp [flushEvs, h1, h2, tableEvs]
  cases v.walOld <;> rfl

/-- For EVERY accepted write sequence `kvs` (strictly ascending keys; any values, nil and
empty included), EVERY chunking `ch` of the two byte streams into write calls, EVERY number `n` of completed
file-system calls of `MkdirAll` + `Open` + the `WriteNext`s + `Close`: what `reconstructSSTables` makes of the
directory image IS the abstract table state after the first `evIdx len n` events of `tableEvs` on any abstract disk
`d` that has no directory `g` yet.  `evIdx` counts: the directory (call 1) — the header of data.rio (call 5) — the
creation of the EMPTY meta.pb.bin (call 6) — anything after it — the metadata write (the last but one call). -/
theorem writer_prefix_classified (P : Params) (cfg : SstCfg) (ch : Chunking) (kvs : List KV) (h : Hyp P cfg kvs)
    (hb : BloomReads P ch) (g : Nat) (d : Disk) (hd : lookupT g d.tables = none) (n : Nat) :
    abstractOf P (applyCalls {} ((flushCalls cfg ch kvs).take n)) =
      lookupT g (applyEvs d ((tableEvs g kvs).take (evIdx (flushCalls cfg ch kvs).length n))).tables := by
  rw [Proofs.TblDir.writer_prefix P cfg ch kvs h hb n, Proofs.TblDir.tableEvs_state g kvs d hd]

/-- `evIdx` is monotone in the call count (for any `len`): the byte-level run walks through the abstract run forwards -/
theorem writer_prefix_monotone (len : Nat) {n n' : Nat} (h : n ≤ n') : evIdx len n ≤ evIdx len n' := by
  unfold evIdx
  grind

/-- `writer_prefix_classified` spelled out.  Before the metadata write the directory is: absent (nothing done), an EMPTY
LEGACY TABLE that recovery keeps exactly when 5 calls are done (index.rio and data.rio hold their headers, meta.pb.bin
does not exist yet: `tblLoadable g []`), and discarded (`part false`) at every other point — in particular at every
point after the creation of the empty metadata file, whatever has reached index.rio / data.rio / bloom.bf.gz: records
are never visible without metadata. -/
theorem writer_window (P : Params) (cfg : SstCfg) (ch : Chunking) (kvs : List KV) (h : Hyp P cfg kvs)
    (hb : BloomReads P ch) (n : Nat) (hn : n + 1 < (flushCalls cfg ch kvs).length) :
    abstractOf P (applyCalls {} ((flushCalls cfg ch kvs).take n)) =
      if n = 0 then none else if n = 5 then some (.complete []) else some (.part false) :=
  Proofs.TblDir.writer_window P cfg ch kvs h hb n hn

/-- from the metadata write on (the last call is the `close` of meta.pb.bin): the complete table, serving exactly the
written pairs as SimpleDB reads them -/
theorem writer_complete (P : Params) (cfg : SstCfg) (ch : Chunking) (kvs : List KV) (h : Hyp P cfg kvs)
    (hb : BloomReads P ch) (n : Nat) (hn : (flushCalls cfg ch kvs).length ≤ n + 1) :
    abstractOf P (applyCalls {} ((flushCalls cfg ch kvs).take n)) = some (.complete kvs) :=
  Proofs.TblDir.writer_final P cfg ch kvs h hb n hn

/-- The `Get` of every key of the complete directory answers the written value — no failing
`Get`, nil and empty values kept apart (so `Served.toLayer` loses nothing there) -/
theorem served_has_no_error (P : Params) (cfg : SstCfg) (ch : Chunking) (kvs : List KV) (h : Hyp P cfg kvs)
    (hb : BloomReads P ch) :
    classifyX P (applyCalls {} (flushCalls cfg ch kvs)) = .complete (kvs.map fun p => (p.1, .val p.2)) := by
  rw [Proofs.TblDir.final_image, Proofs.TblDir.finalImg_classifyX h ch hb]

/-- the files a complete run leaves are those of the stream-writer model `SstW` (C15), whatever the chunking -/
theorem writer_final_files (cfg : SstCfg) (ch : Chunking) (kvs : List KV) :
    applyCalls {} (flushCalls cfg ch kvs) =
      { dir := true, index := some (writeTable cfg kvs).index, data := some (writeTable cfg kvs).data,
        metaf := some (writeTable cfg kvs).metaf, bloom := some ch.bloom.flatten } :=
  Proofs.TblDir.final_image cfg ch kvs

/-- On ANY directory image that recovery classifies as unfinished (`part false`),
after EVERY prefix of `removeUnfinishedTable` — index.rio first, then the remaining files in ANY order (any list of
files, repetitions allowed), then the directory — the directory is gone or classifies `part false` again: never
`complete _`, never `part true`. -/
theorem unfinished_removal_classified (P : Params) (img : DirImage) (hd : img.dir = true)
    (hp : classify P img = .part false) (order : List File) (k : Nat) :
    abstractOf P (applyCalls img ((removeUnfinishedCalls order).take k)) = none ∨
    abstractOf P (applyCalls img ((removeUnfinishedCalls order).take k)) = some (.part false) := by
  have _ := hd  -- not used: where there is no directory every call leaves the image alone
  exact Proofs.TblDir.unfinished_removal P img hp order k

/-- `unfinished_removal_classified` on every image of a writer run that recovery discards (all but "nothing done" and
the empty-legacy-table window, which recovery does not remove) -/
theorem unfinished_removal_of_writer_image (P : Params) (cfg : SstCfg) (ch : Chunking) (kvs : List KV)
    (h : Hyp P cfg kvs) (hb : BloomReads P ch) (n : Nat) (hn : n + 1 < (flushCalls cfg ch kvs).length)
    (h0 : n ≠ 0) (h5 : n ≠ 5) (order : List File) (k : Nat) :
    let img := applyCalls (applyCalls {} ((flushCalls cfg ch kvs).take n)) ((removeUnfinishedCalls order).take k)
    abstractOf P img = none ∨ abstractOf P img = some (.part false) :=
  have _ := hb  -- not used: only the two header compression codes matter
  Proofs.TblDir.unfinished_removal_reachable P cfg ch kvs h.comps.dataCode_le h.comps.indexCode_le n hn h0 h5 order k

/-- a complete `removeUnfinishedTable` whose `RemoveAll` names every file that is left removes the directory -/
theorem unfinished_removal_ends (img : DirImage) (hd : img.dir = true) (order : List File)
    (hall : ∀ f, (applyCall img (.unlink .index)).get f ≠ none → f ∈ order) :
    (applyCalls img (removeUnfinishedCalls order)).dir = false := by
  have hd' : (applyCall img (.unlink .index)).dir = true := by simp [applyCall, hd]
  exact Proofs.TblDir.removeAll_gone _ hd' order hall

/-- THE PRE-FIX COUNTEREXAMPLE (what commit d2bdde6 closes), for every table: take the writer image just before the
metadata write (index.rio, data.rio, bloom.bf.gz complete, meta.pb.bin still empty: `preMetaImg`, by
`Proofs.TblDir.prefix_preMeta` — recovery discards it, `preMeta_discarded`); a plain `RemoveAll` that unlinks
meta.pb.bin first and is killed leaves a directory that LOADS: a legacy table whose values are the written values parsed
as `DataEntry` protobufs (`junkOf`). -/
theorem prefix_removal_keeps_legacy_table (P : Params) (cfg : SstCfg) (ch : Chunking) (kvs : List KV)
    (h : Hyp P cfg kvs) (hb : BloomReads P ch) (order : List File) :
    abstractOf P (applyCalls (applyCalls {} ((flushCalls cfg ch kvs).take ((flushCalls cfg ch kvs).length - 2)))
      ((removeUnfinishedCallsPreFix (.metaf :: order)).take 1)) = some (.complete (junkOf kvs).toLayer) :=
  Proofs.TblDir.prefix_removal_legacy P cfg ch kvs h hb order

theorem preMeta_discarded (P : Params) (cfg : SstCfg) (ch : Chunking) (kvs : List KV) :
    abstractOf P (preMetaImg cfg ch kvs) = some (.part false) := by
  rw [Proofs.TblDir.abstractOf_dir P _ _ (by simp [preMetaImg])
    (Proofs.TblDir.classifyX_emptyMeta P _ (by simp [preMetaImg]))]
  rfl

/-- For EVERY order in which `RemoveAll` unlinks the files of a complete table (any
list of files) and EVERY number `k` of completed calls: the directory's classification IS the abstract state after
`rmIdx img` events of `FS.rmAll g (some junk)` = `[tblLoadable g junk, tblUnlinkPart g true, tblUnlinkPart g false,
tblRmdir g]`, with `junk` characterised from the bytes: `junkOf kvs` = every written value parsed as a `DataEntry`
protobuf (a value that does not parse makes `Get` fail: listed as a tombstone in the layer, see `legacy_get_fails`).
`rmIdx`: 0 = meta.pb.bin, index.rio, data.rio all there (bloom.bf.gz or not: `complete kvs`), 1 = metadata gone
first, index.rio and data.rio still there (`complete junk`), 2 = metadata there, index.rio or data.rio gone
(`part true`: `Open` fails), 3 = metadata and one of the two gone (`part false`), 4 = directory gone. -/
theorem complete_removal_classified (P : Params) (cfg : SstCfg) (ch : Chunking) (kvs : List KV) (h : Hyp P cfg kvs)
    (hb : BloomReads P ch) (g : Nat) (d : Disk) (hd : lookupT g d.tables = some (.complete kvs))
    (order : List File) (k : Nat) :
    let img := applyCalls (applyCalls {} (flushCalls cfg ch kvs)) ((removeAllCalls order).take k)
    abstractOf P img =
      lookupT g (applyEvs d ((rmAll g (some (junkOf kvs).toLayer)).take (rmIdx img))).tables := by
  intro img
  have h1 := Proofs.TblDir.complete_removal h ch hb order k
  rw [← Proofs.TblDir.final_image cfg ch kvs] at h1
  rw [Proofs.TblDir.rmAll_state g kvs _ d hd]
  exact h1

/-- `rmIdx` is monotone along a `RemoveAll`, from any image: a later kill point is never at an earlier abstract event —
the chain complete → (legacy) → part true → part false → gone is only walked forwards -/
theorem complete_removal_monotone (img0 : DirImage) (order : List File) {k k' : Nat} (hk : k ≤ k') :
    rmIdx (applyCalls img0 ((removeAllCalls order).take k)) ≤
      rmIdx (applyCalls img0 ((removeAllCalls order).take k')) :=
  Proofs.TblDir.complete_removal_mono img0 order hk

/-- `complete_removal_classified` spelled out: one of five outcomes -/
theorem complete_removal_cases (P : Params) (cfg : SstCfg) (ch : Chunking) (kvs : List KV) (h : Hyp P cfg kvs)
    (hb : BloomReads P ch) (order : List File) (k : Nat) :
    let a := abstractOf P (applyCalls (applyCalls {} (flushCalls cfg ch kvs)) ((removeAllCalls order).take k))
    a = some (.complete kvs) ∨ a = some (.complete (junkOf kvs).toLayer) ∨ a = some (.part true) ∨
      a = some (.part false) ∨ a = none := by
  intro a
  have h1 := Proofs.TblDir.complete_removal h ch hb order k
  rw [← Proofs.TblDir.final_image cfg ch kvs] at h1
  have ha : a = rmState kvs (junkOf kvs).toLayer
      (rmIdx (applyCalls (applyCalls {} (flushCalls cfg ch kvs)) ((removeAllCalls order).take k))) := h1
  rw [ha]
  generalize rmIdx _ = i
  match i with
  | 0 => exact .inl rfl
  | 1 => exact .inr (.inl rfl)
  | 2 => exact .inr (.inr (.inl rfl))
  | 3 => exact .inr (.inr (.inr (.inl rfl)))
  | _ + 4 => exact .inr (.inr (.inr (.inr rfl)))

/-! Non-vacuity: a three-key table with a tombstone, no compression. -/

def P0 : Params := { comps := plainComps, readBloom := fun _ => some fun _ => true }

/-- `a ↦ 0a 01 41` (a value that happens to be a `DataEntry` protobuf holding "A"), `b ↦ tombstone`, `c ↦ 01 02 03` -/
def kvs0 : List KV := [([97], some [0x0a, 0x01, 0x41]), ([98], none), ([99], some [1, 2, 3])]

/-- data.rio: 3 bytes then the rest of record 0 during the first `WriteNext`; index.rio: 5 bytes during the second -/
def ch0 : Chunking := { recs := [([3, 100], []), ([], [5]), ([], [])], bloom := [[0xaa, 0xbb], [0xcc]] }

example : Hyp P0 plainCfg kvs0 :=
  { cmp := rfl
    comps := ⟨rfl, rfl, trivial, trivial, by decide, by decide⟩
    fits := by unfold FitsKV; exact ⟨by decide +kernel, by decide +kernel, by decide +kernel⟩
    asc := by unfold StrictAsc; decide }

example : BloomReads P0 ch0 := ⟨_, rfl⟩

/-- the prefix images of `flushCalls plainCfg ch0 kvs0` and of the clean-ups on them; the examples below and
`legacy_get_fails` are its parts -/
theorem kvs0_flush_images :
    (flushCalls plainCfg ch0 kvs0).length = 19 ∧
    abstractOf P0 (applyCalls {} ((flushCalls plainCfg ch0 kvs0).take 5)) = some (.complete []) ∧
    abstractOf P0 (applyCalls {} ((flushCalls plainCfg ch0 kvs0).take 6)) = some (.part false) ∧
    abstractOf P0 (applyCalls {} ((flushCalls plainCfg ch0 kvs0).take 17)) = some (.part false) ∧
    abstractOf P0 (applyCalls {} ((flushCalls plainCfg ch0 kvs0).take 18)) = some (.complete kvs0) ∧
    ((applyCalls {} ((flushCalls plainCfg ch0 kvs0).take 8)).data.map List.length = some 21 ∧
      (applyCalls {} ((flushCalls plainCfg ch0 kvs0).take 8)).index.map List.length = some 8) ∧
    (List.range 6).map (fun k => abstractOf P0 (applyCalls (applyCalls {} ((flushCalls plainCfg ch0 kvs0).take 17))
        ((removeUnfinishedCalls [.data, .metaf, .bloom]).take k))) =
      [some (.part false), some (.part false), some (.part false), some (.part false), some (.part false), none] ∧
    classifyX P0 (applyCalls (applyCalls {} ((flushCalls plainCfg ch0 kvs0).take 17)) [.unlink .metaf]) =
      .complete [([97], .val (some [0x41])), ([98], .val none), ([99], .err .other)] ∧
    (List.range 6).map (fun k => abstractOf P0 (applyCalls (applyCalls {} (flushCalls plainCfg ch0 kvs0))
        ((removeAllCalls [.metaf, .bloom, .index, .data]).take k))) =
      [some (.complete kvs0), some (.complete [([97], some [0x41]), ([98], none), ([99], none)]),
       some (.complete [([97], some [0x41]), ([98], none), ([99], none)]), some (.part false), some (.part false), none] ∧
    (List.range 6).map (fun k => abstractOf P0 (applyCalls (applyCalls {} (flushCalls plainCfg ch0 kvs0))
        ((removeAllCalls [.index, .bloom, .metaf, .data]).take k))) =
      [some (.complete kvs0), some (.part true), some (.part true), some (.part false), some (.part false), none] := by
  decide +kernel

/-- 19 calls: mkdir, 5 of `Open`, 2 + 1 buffer flushes, 10 of `Close` -/
example : (flushCalls plainCfg ch0 kvs0).length = 19 := kvs0_flush_images.1

/-- the window: after 5 calls an empty legacy table, after 6 (empty metadata file) discarded again -/
example : abstractOf P0 (applyCalls {} ((flushCalls plainCfg ch0 kvs0).take 5)) = some (.complete []) :=
  kvs0_flush_images.2.1
example : abstractOf P0 (applyCalls {} ((flushCalls plainCfg ch0 kvs0).take 6)) = some (.part false) :=
  kvs0_flush_images.2.2.1

/-- still discarded when everything but the metadata is written (17 calls) -/
example : abstractOf P0 (applyCalls {} ((flushCalls plainCfg ch0 kvs0).take 17)) = some (.part false) :=
  kvs0_flush_images.2.2.2.1

/-- complete with the metadata write (call 18) -/
example : abstractOf P0 (applyCalls {} ((flushCalls plainCfg ch0 kvs0).take 18)) = some (.complete kvs0) :=
  kvs0_flush_images.2.2.2.2.1

/-- the image after 8 calls: the header and 3 + 10 bytes of the first record in data.rio, only the header in index.rio -/
example : (applyCalls {} ((flushCalls plainCfg ch0 kvs0).take 8)).data.map List.length = some 21 ∧
    (applyCalls {} ((flushCalls plainCfg ch0 kvs0).take 8)).index.map List.length = some 8 :=
  kvs0_flush_images.2.2.2.2.2.1

/-- `removeUnfinishedTable` on the 17-call image, every prefix (data.rio, metadata, filter in that order) -/
example : (List.range 6).map (fun k => abstractOf P0 (applyCalls (applyCalls {} ((flushCalls plainCfg ch0 kvs0).take 17))
      ((removeUnfinishedCalls [.data, .metaf, .bloom]).take k))) =
    [some (.part false), some (.part false), some (.part false), some (.part false), some (.part false), none] :=
  kvs0_flush_images.2.2.2.2.2.2.1

/-- The pre-fix order on the 17-call image: the metadata file unlinked first.  The directory loads;
key `a` reads as "A" (not as the three bytes written), key `c` makes `Get` fail (01 02 03 is not a protobuf). -/
theorem legacy_get_fails :
    classifyX P0 (applyCalls (applyCalls {} ((flushCalls plainCfg ch0 kvs0).take 17)) [.unlink .metaf]) =
      .complete [([97], .val (some [0x41])), ([98], .val none), ([99], .err .other)] :=
  kvs0_flush_images.2.2.2.2.2.2.2.1

example : junkOf kvs0 = [([97], .val (some [0x41])), ([98], .val none), ([99], .err .other)] := by decide +kernel

/-- `RemoveAll` of the complete table, metadata first: complete, legacy, legacy, discarded, discarded, gone -/
example : (List.range 6).map (fun k => abstractOf P0 (applyCalls (applyCalls {} (flushCalls plainCfg ch0 kvs0))
      ((removeAllCalls [.metaf, .bloom, .index, .data]).take k))) =
    [some (.complete kvs0), some (.complete [([97], some [0x41]), ([98], none), ([99], none)]),
     some (.complete [([97], some [0x41]), ([98], none), ([99], none)]), some (.part false), some (.part false), none] :=
  kvs0_flush_images.2.2.2.2.2.2.2.2.1

/-- `RemoveAll` of the complete table, index.rio first: complete, `Open` fails, `Open` fails, discarded, discarded, gone -/
example : (List.range 6).map (fun k => abstractOf P0 (applyCalls (applyCalls {} (flushCalls plainCfg ch0 kvs0))
      ((removeAllCalls [.index, .bloom, .metaf, .data]).take k))) =
    [some (.complete kvs0), some (.part true), some (.part true), some (.part false), some (.part false), none] :=
  kvs0_flush_images.2.2.2.2.2.2.2.2.2

end SST.C10.Table
