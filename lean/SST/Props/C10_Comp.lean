/-
C10 / C02 — the BYTES of a compaction directory refine the abstract disk of L6-fs.

The crash theorems (`C02.crash_safe_sync`, `C10.recover_idempotent_under_crash`, C13) are proved on the abstract disk
(SST/Model/FS.lean), where a compaction directory is `CompDir {id, out : TableDir, flag : Option CompMeta}`, a
compaction run the event sequence `compMkdir id, compProgress id, compComplete id cells, compProgress id, compFlag id cm`
(`FS.compactEvs`) and `repairCompactions` is `FS.phase1` / `FS.finishComp`.  `C10.Table` derived the table part from the
bytes; here the same is done for the whole directory: SST/Model/CompDirBytes.lean has the flag file
`compaction_successful` (`FlagImage`), the protobuf encoding of `CompactionMetadata` (`encCompMeta`, three strings, the
third repeated), the calls of `saveCompactionMetadata` as coded now (`flagCalls`: the file is created EMPTY, the 8
header bytes are written at `Open`, the record reaches the file in the `write` calls of the buffered writer — flush
points are a parameter — the last one at `Close`), the reading code of `repairCompactions` (`readFlag`: proto reader
`Open` = file header, `ReadNext`, unmarshal with UTF-8 validation; ANY failure = `none` = the directory is deleted), the
whole call sequence of `executeCompaction` (`compCalls`: `MkdirTemp`, the table writer's calls of `C10.Table`, then the
flag), the directory names ↔ table numbers map (`tableName`, `compName`, `absMeta`, `rawOf`) and `repairCompactions` on
a database directory image (`repairBytes`).

Hypotheses: `MetaOk m` (the strings are valid UTF-8 — otherwise `proto.Marshal` refuses them and nothing but the file
header is written, `invalid_metadata_never_flags` — and the record length fits the 64-bit header field);
`comps 0 = none` (compression code 0 of a recordio file header means "no compression", what the flag writer uses); for
the table part the hypotheses of `C10.Table` (`Hyp`, `BloomReads`); for names `Canonical` (a readable flag names its own
directory and table directories: what `executeCompaction` writes, `written_flag_canonical`).  `readFlag` models the
reader of recordio version 4, the only version the writer produces: a flag file of versions 1–3 counts as unreadable.
Proofs: SST/Proofs/CompDirBytes{Defs,Flag,Pad,PadPb,PadRec,Names,Dir}.lean.  Kill-9 model: each call atomic.
-/
import SST.Proofs.CompDirBytesFlag
import SST.Proofs.CompDirBytesPad
import SST.Proofs.CompDirBytesDir
import SST.Props.C10_Table
namespace SST.C10.Comp
open SST SST.CompDir SST.TblDir SST.FS Generated
open SST.Proofs.CompDir (MetaOk zeros zeroTail zeroTailStr compState lookupC)
open SST.Proofs.TblDir (Hyp BloomReads)

/-- the abstract events of a compaction cycle ARE `compEvs` (followed by the removal of the inputs and the rename) -/
theorem compact_events_are_comp_events (d : Disk) (v : Vol) (sizes : List Nat) (junk : List (Nat × DBM.Layer))
    (r : Nat) (rest : List Nat) (h : (DBM.compactStep v.s sizes).2 = r :: rest) :
    (compactEvs d v sizes junk).1 =
      compEvs (freshId d)
        (match (DBM.compactStep v.s sizes).1.tables.find? (·.gen == r) with
          | some t => t.cells
          | none => [])
        { inputs := r :: rest, replacement := r } ++
      (r :: rest).flatMap (fun g => rmAll g (lookupJ junk g)) ++ [Ev.compRename (freshId d) r] := by
  unfold compactEvs
  generalize hcs : DBM.compactStep v.s sizes = cs at h
  obtain ⟨s', sel⟩ := cs
  simp only at h
  subst h
  simp only [compEvs, List.cons_append, List.nil_append]
  rfl

/-- The round trip at message level: `proto.Unmarshal (proto.Marshal m) = m` for EVERY metadata value `Marshal` accepts
— any write path, any replacement path, any list of paths: the empty list, empty strings inside the list, strings of any
length (the length prefix is a varint of any size below 2^64) -/
theorem meta_roundtrip (m : RawMeta) (h : MetaOk m) : decCompMeta (encCompMeta m) = some m :=
  Proofs.CompDir.decCompMeta_enc m h

/-- The round trip at file level: the complete flag file (file header ++ the one record), read with the reading code of
`repairCompactions`, gives EXACTLY the metadata written — whatever follows the record in the file -/
theorem flag_roundtrip (comps : Nat → Compression) (hc : comps 0 = none) (m : RawMeta) (h : MetaOk m) (t : Bytes) :
    readFlag comps (some (flagBytes m ++ t)) = some m :=
  Proofs.CompDir.flag_roundtrip comps hc m h t

/-- The round trip in terms of the abstract disk: the flag `executeCompaction` writes into directory `id` for the tables
`cm` reads as `cm` (inputs and replacement), and names its own directory -/
theorem flag_roundtrip_abstract (comps : Nat → Compression) (hc : comps 0 = none) (id : Nat) (cm : CompMeta)
    (hf : (encCompMeta (rawOf id cm)).length < 2 ^ 64) :
    absFlag comps (some (flagBytes (rawOf id cm))) = some cm ∧
    (readFlag comps (some (flagBytes (rawOf id cm)))).map (·.writePath) = some (compName id) := by
  have hm : MetaOk (rawOf id cm) := ⟨Proofs.CompDir.rawOf_valid id cm, hf⟩
  have h := Proofs.CompDir.flag_roundtrip comps hc _ hm []
  rw [List.append_nil] at h
  refine ⟨by simp [absFlag, h, Proofs.CompDir.absMeta_rawOf], ?_⟩
  rw [h]; rfl

/-- the path ↔ number map: names written for numbers resolve back to them; a table name is never taken for a
compaction directory and vice versa; generated names are ASCII (so `Marshal` accepts them) -/
theorem names_roundtrip (id : Nat) (cm : CompMeta) (g : Nat) :
    absMeta (rawOf id cm) = some cm ∧ compOfName (compName id) = some id ∧ tableOfName (tableName g) = some g ∧
    tableOfName (compName id) = none ∧ compOfName (tableName g) = none ∧ (rawOf id cm).valid = true :=
  ⟨Proofs.CompDir.absMeta_rawOf id cm, Proofs.CompDir.compOfName_compName id, Proofs.CompDir.tableOfName_tableName g,
   Proofs.CompDir.tableOfName_compName id, Proofs.CompDir.compOfName_tableName g, Proofs.CompDir.rawOf_valid id cm⟩

/-- only the canonical name of a table resolves, and different numbers have different names -/
theorem names_injective {p : Bytes} {g g' : Nat} :
    (tableOfName p = some g → p = tableName g) ∧ (tableName g = tableName g' → g = g') :=
  ⟨Proofs.CompDir.tableOfName_some, Proofs.CompDir.tableName_inj⟩

/-- For EVERY metadata value, EVERY chunking `sizes` of the buffered writer's flushes and
EVERY number `n` of completed calls of `saveCompactionMetadata` (`open(O_CREATE)`, `close`, `open(O_CREATE)`, `write`
of the file header, the `write`s during `Write`, the `write` of `Close`, `close`): the reading code of
`repairCompactions` fails as long as a `write` call remains, and reads EXACTLY `m` once the last one has completed. -/
theorem flag_prefix_classified (comps : Nat → Compression) (hc : comps 0 = none) (m : RawMeta) (h : MetaOk m)
    (sizes : List Nat) (n : Nat) :
    readFlag comps (applyFlagCalls none ((flagCalls sizes m).take n)) =
      if flagDone (flagCalls sizes m) n then some m else none :=
  Proofs.CompDir.flag_prefix comps hc m h sizes n

/-- `flag_prefix_classified` as a statement about the abstract disk: the flag of directory `id` after `n` calls IS its
flag after the first `flagEvIdx` (0 or 1) events of `[compFlag id cm]` on any disk on which the directory is not flagged
yet -/
theorem flag_prefix_events (comps : Nat → Compression) (hc : comps 0 = none) (m : RawMeta) (h : MetaOk m)
    (cm : CompMeta) (ha : absMeta m = some cm) (sizes : List Nat) (n : Nat) (id : Nat) (d : Disk) (c0 : CompDir)
    (hd : lookupC id d.comps = some c0) (h0 : c0.flag = none) :
    absFlag comps (applyFlagCalls none ((flagCalls sizes m).take n)) =
      (lookupC id (applyEvs d ([Ev.compFlag id cm].take (flagEvIdx (flagCalls sizes m) n))).comps).bind (·.flag) := by
  unfold absFlag
  rw [Proofs.CompDir.flag_prefix comps hc m h sizes n]
  unfold flagEvIdx
  cases hdn : flagDone (flagCalls sizes m) n
  · simp [applyEvs, hd, h0]
  · have := Proofs.CompDir.lookupC_updC id (fun c => { c with flag := some cm }) (fun _ => rfl) d.comps
    simp [applyEvs, applyEv, this, hd, ha]

/-- the image itself: after the first call the flag file exists and holds a PREFIX of the final file; it is the whole
file exactly when no `write` call remains.  (So the images of a kill are the cuts of `flag_cut_never_misread`.) -/
theorem flag_prefix_image (sizes : List Nat) (m : RawMeta) (hv : m.valid = true) (n : Nat) :
    ∃ w, w ≤ (flagBytes m).length ∧
      applyFlagCalls none ((flagCalls sizes m).take n) = (if n = 0 then none else some ((flagBytes m).take w)) ∧
      (flagDone (flagCalls sizes m) n = true ↔ (n ≠ 0 ∧ w = (flagBytes m).length)) :=
  Proofs.CompDir.flag_prefix_image sizes m hv n

/-- the event count `flagEvIdx` (0 or 1) is monotone in the number of completed calls: once readable, always readable
(`flagDone_mono`) -/
theorem flag_prefix_monotone (sizes : List Nat) (m : RawMeta) {n n' : Nat} (hn : n ≤ n') :
    flagEvIdx (flagCalls sizes m) n ≤ flagEvIdx (flagCalls sizes m) n' := by
  unfold flagEvIdx
  cases h : flagDone (flagCalls sizes m) n
  · simp
  · simp [Proofs.CompDir.flagDone_mono _ hn h]

/-- metadata `proto.Marshal` rejects (a string that is not UTF-8) never produces a readable flag: `Write` fails
before anything but the file header has been written -/
theorem invalid_metadata_never_flags (comps : Nat → Compression) (hc : comps 0 = none) (m : RawMeta)
    (hv : m.valid = false) (sizes : List Nat) (n : Nat) :
    readFlag comps (applyFlagCalls none ((flagCalls sizes m).take n)) = none :=
  have _ := hc  -- not used: a file that holds only the header reads as no flag whatever code 0 stands for
  Proofs.CompDir.flag_invalid_never_reads comps m hv sizes n

/-! ## cuts of the flag file

One would like: "ANY proper prefix of the flag file's bytes, and any prefix followed by zero padding, reads as `none` —
never as a DIFFERENT metadata".  The first half (every image a kill can leave: the writer only appends) HOLDS:
`flag_cut_never_misread`.  The second half is FALSE as the code is now (the recordio V4 record checksums its header, not
its payload): `zero_padded_flag_misread` is a concrete counterexample, `flag_cut_zero_padded_partial` bounds what a
zero-padded cut can read as.  Zero padding is NOT a kill-9 image (it needs a file system that extends a file before its
data is durable + a power loss), so C10/C02 as stated (kill-9) are not affected. -/

/-- For EVERY metadata value, ANY proper prefix of the flag file does not read: "any read failure = unfinished
compaction" never takes a half-written flag for a finished one, nor for another metadata -/
theorem flag_cut_never_misread (comps : Nat → Compression) (hc : comps 0 = none) (m : RawMeta) (h : MetaOk m) (k : Nat)
    (hk : k < (flagBytes m).length) : readFlag comps (some ((flagBytes m).take k)) = none :=
  Proofs.CompDir.flag_cut_none comps hc m h.fits k hk

/-- For EVERY metadata value, EVERY proper prefix of its flag file and EVERY amount of zero padding: the flag does not
read, or it reads as `zeroTail m i` = `m` with the bytes of its LAST written string (the last path) replaced by NUL
bytes from position `i` on.  (`zeroTail m i = m` when that tail is empty or was zero anyway.) MISSING for "reads as
none": the second alternative; the counterexample is a cut inside the content of the last string. -/
theorem flag_cut_zero_padded_partial (comps : Nat → Compression) (hc : comps 0 = none) (m : RawMeta) (h : MetaOk m)
    (k : Nat) (hk : k < (flagBytes m).length) (z : Nat) :
    readFlag comps (some ((flagBytes m).take k ++ zeros z)) = none ∨
    ∃ i, readFlag comps (some ((flagBytes m).take k ++ zeros z)) = some (zeroTail m i) :=
  Proofs.CompDir.flag_pad comps hc m h.fits k hk z

/-- With the names `executeCompaction` writes the misread is harmless in ONE respect: whatever a zero-padded cut of
the flag of directory `id` for tables `cm` reads as, it is that very flag or metadata whose paths do not all name tables
(the zeroed path contains NUL bytes) — never a finished compaction of OTHER tables.  (The real `Open` fails on it with
EINVAL, persistently: reported as a finding outside the kill-9 model.) -/
theorem zero_padded_never_names_other_tables (comps : Nat → Compression) (hc : comps 0 = none) (id : Nat) (cm : CompMeta)
    (hf : (encCompMeta (rawOf id cm)).length < 2 ^ 64) (k : Nat) (hk : k < (flagBytes (rawOf id cm)).length) (z : Nat)
    (r : RawMeta) (hr : readFlag comps (some ((flagBytes (rawOf id cm)).take k ++ zeros z)) = some r) :
    r = rawOf id cm ∨ absMeta r = none :=
  Proofs.CompDir.flag_pad_generated comps hc id cm hf k hk z r hr

/-- the payload level of `flag_cut_zero_padded_partial`: a cut marshalled message padded with zeros to its length -/
theorem meta_cut_zero_padded (m : RawMeta) (h : MetaOk m) (j : Nat) (hj : j < (encCompMeta m).length) :
    decCompMeta ((encCompMeta m).take j ++ zeros ((encCompMeta m).length - j)) = none ∨
    ∃ i, decCompMeta ((encCompMeta m).take j ++ zeros ((encCompMeta m).length - j)) = some (zeroTail m i) :=
  Proofs.CompDir.Pad.decCompMeta_padCut m h.fits j hj

/-- For EVERY merged table `kvs` (strictly ascending keys, any values), EVERY chunking of
the table writer and of the flag writer, EVERY metadata value `m` naming the tables `cm`, and EVERY number `n ≠ 5` of
completed calls of `MkdirTemp` + table writer (`Open`, `WriteNext`s, `Close`) + `saveCompactionMetadata`: what recovery
makes of the directory image (`abstractComp`: table part as `reconstructSSTables` classifies it, flag as
`repairCompactions` reads it) IS the abstract directory after the first `cevIdx` events of `compEvs` on any abstract
disk that has no directory `id` yet.  (`n = 5`: `compdir_window`.) -/
theorem compdir_prefix_classified (P : Params) (cfg : SstCfg) (ch : Chunking) (kvs : List KV) (h : Hyp P cfg kvs)
    (hb : BloomReads P ch) (hc : P.comps 0 = none) (sizes : List Nat) (m : RawMeta) (hm : MetaOk m) (cm : CompMeta)
    (ha : absMeta m = some cm) (id : Nat) (d : Disk) (hd : lookupC id d.comps = none) (n : Nat) (h5 : n ≠ 5) :
    abstractComp P id (applyCCalls {} ((compCalls cfg ch kvs sizes m).take n)) =
      lookupC id (applyEvs d ((compEvs id kvs cm).take
        (cevIdx (flushCalls cfg ch kvs).length (flagCalls sizes m) n))).comps := by
  rw [Proofs.CompDir.compdir_prefix P cfg ch kvs h hb sizes m cm ha
    (fun j => Proofs.CompDir.flag_prefix P.comps hc m hm sizes j) id n, if_neg h5,
    Proofs.CompDir.compEvs_state id kvs cm d hd]

/-- `cevIdx` is monotone in the call count (for any `lenT`, `fcs`): the byte-level run walks through the abstract run
forwards -/
theorem compdir_prefix_monotone (lenT : Nat) (fcs : List FlagCall) {n n' : Nat} (h : n ≤ n') :
    cevIdx lenT fcs n ≤ cevIdx lenT fcs n' := by
  have hm := Proofs.CompDir.flagDone_mono fcs (Nat.sub_le_sub_right h lenT)
  unfold cevIdx
  grind

/-- After exactly 5 calls (index.rio and data.rio hold their headers, meta.pb.bin does not exist yet)
the table part classifies as an EMPTY LEGACY TABLE (`C10.Table.writer_window`), where the abstract run has `part false`;
the flag is absent there, so recovery sees no difference (`window_invisible`). -/
theorem compdir_window (P : Params) (cfg : SstCfg) (ch : Chunking) (kvs : List KV) (h : Hyp P cfg kvs)
    (hb : BloomReads P ch) (hc : P.comps 0 = none) (sizes : List Nat) (m : RawMeta) (hm : MetaOk m) (cm : CompMeta)
    (ha : absMeta m = some cm) (id : Nat) :
    abstractComp P id (applyCCalls {} ((compCalls cfg ch kvs sizes m).take 5)) =
      some { id := id, out := .complete [], flag := none } := by
  -- of the hypotheses, only that the two compression codes of the table's file headers are legal is used
  have _ := hb; have _ := hc; have _ := hm; have _ := ha  -- not used: only the two header compression codes matter
  exact Proofs.CompDir.compdir_window_any P cfg ch kvs h.comps.dataCode_le h.comps.indexCode_le sizes m id 5
    (by rw [Proofs.TblDir.flushCalls_length]; omega)

/-- The difference at 5 calls (`compdir_window`) is INVISIBLE to recovery: an unflagged compaction directory is deleted
whatever its table part is (`finishComp` ignores `out` without a flag) -/
theorem window_invisible (ts : List (Nat × TableDir)) (c : CompDir) (o : TableDir) (h : c.flag = none) :
    finishComp ts { c with out := o } = finishComp ts c ∧ finishComp ts c = ts := by
  refine ⟨Proofs.CompDir.finishComp_unflagged ts c o h, ?_⟩
  simp [finishComp, h]

/-- What commit 036cc7d established and seeded change C11-m4 breaks: at EVERY prefix of
`executeCompaction`'s calls, a readable flag implies the COMPLETE output table with exactly the merged records -/
theorem flag_never_before_table (P : Params) (cfg : SstCfg) (ch : Chunking) (kvs : List KV) (h : Hyp P cfg kvs)
    (hb : BloomReads P ch) (hc : P.comps 0 = none) (sizes : List Nat) (m : RawMeta) (hm : MetaOk m) (cm : CompMeta)
    (ha : absMeta m = some cm) (id n : Nat) (c : CompDir)
    (hcd : abstractComp P id (applyCCalls {} ((compCalls cfg ch kvs sizes m).take n)) = some c)
    (hfl : c.flag.isSome = true) : c.out = .complete kvs ∧ c.flag = some cm := by
  rw [Proofs.CompDir.compdir_prefix P cfg ch kvs h hb sizes m cm ha
    (fun j => Proofs.CompDir.flag_prefix P.comps hc m hm sizes j) id n] at hcd
  split at hcd
  · cases hcd; simp at hfl
  · generalize cevIdx (flushCalls cfg ch kvs).length (flagCalls sizes m) n = e at hcd
    match e, hcd with
    | 0, hcd => simp [compState] at hcd
    | 1, hcd | 2, hcd | 3, hcd | 4, hcd => simp only [compState, Option.some.injEq] at hcd; subst hcd; simp at hfl
    | _ + 5, hcd => simp only [compState, Option.some.injEq] at hcd; subst hcd; exact ⟨rfl, rfl⟩

/-- after ALL calls: the complete table and the flag naming `cm` -/
theorem compdir_complete (P : Params) (cfg : SstCfg) (ch : Chunking) (kvs : List KV) (h : Hyp P cfg kvs)
    (hb : BloomReads P ch) (hc : P.comps 0 = none) (sizes : List Nat) (m : RawMeta) (hm : MetaOk m) (cm : CompMeta)
    (ha : absMeta m = some cm) (id : Nat) :
    abstractComp P id (applyCCalls {} (compCalls cfg ch kvs sizes m)) =
      some { id := id, out := .complete kvs, flag := some cm } := by
  have hf := Proofs.CompDir.flag_roundtrip P.comps hc m hm []
  rw [List.append_nil] at hf
  rw [Proofs.CompDir.comp_final_image cfg ch kvs sizes m hm.valid, Proofs.CompDir.abstractComp_eq,
    Proofs.TblDir.abstractOf_finalImg h ch hb, absFlag, hf, Option.bind_some, ha]
  rfl

/-- a compaction directory whose flag does not read stays unflagged under EVERY prefix of its `RemoveAll`, whatever the
order of the unlinks: an interrupted clean-up is cleaned up again by the next `Open` -/
theorem unflagged_removal_classified (comps : Nat → Compression) (img : CompImage)
    (h : readFlag comps img.flag = none) (order : List (Option File)) (k : Nat) :
    readFlag comps (applyCCalls img ((removeCompCalls order).take k)).flag = none :=
  List.foldlRecOn _ applyCCall h fun x hx c hc =>
    Proofs.CompDir.rmC_step comps x c (Proofs.CompDir.removeComp_isRmC order c (List.mem_of_mem_take hc)) hx

/-- For EVERY database directory image whose readable flags name their own directory and table
directories (`Canonical`), `repairCompactions` as it acts on the bytes and names (`repairBytes`: unreadable flag ⇒ the
directory is deleted; readable ⇒ `RemoveAll` of the other inputs, `RemoveAll` of the replacement path, `Rename`) succeeds
and commutes with the abstraction: its result abstracts to `FS.phase1` of the abstract disk. -/
theorem phase1_on_bytes (P : Params) (D : DiskImage) (hC : Canonical P.comps D) :
    ∃ D', repairBytes P.comps D = some D' ∧ absDisk P D' = phase1 (absDisk P D) :=
  Proofs.CompDir.repair_on_bytes P D hC

/-- `phase1_on_bytes` per directory: the decision read off the flag bytes (`repairDecision`: delete, or finish with
these paths) is `FS.finishComp` of the directory's abstraction, on every abstract table list -/
theorem decision_on_bytes (P : Params) (id : Nat) (ci : CompImage) (hF : FlagCanonical P.comps id ci.flag)
    (ts : List (Nat × TableDir)) :
    finishComp ts (classifyComp P id ci) =
      match repairDecision P.comps ci.flag with
      | .delete => ts
      | .finish remove replacement _ =>
        match remove.mapM tableOfName, tableOfName replacement with
        | some rm, some rp =>
          insertT rp (classify P ci.tbl) ((ts.filter fun p => !rm.contains p.1).filter fun p => p.1 != rp)
        | _, _ => ts :=
  Proofs.CompDir.decision_on_bytes P id ci hF ts

/-- the assumption on names holds for what `executeCompaction` writes: every prefix image of the flag of directory `id`
for tables `cm` is `FlagCanonical` -/
theorem written_flag_canonical (comps : Nat → Compression) (hc : comps 0 = none) (id : Nat) (cm : CompMeta)
    (hf : (encCompMeta (rawOf id cm)).length < 2 ^ 64) (sizes : List Nat) (n : Nat) :
    FlagCanonical comps id (applyFlagCalls none ((flagCalls sizes (rawOf id cm)).take n)) := by
  intro r hr
  have hm : MetaOk (rawOf id cm) := ⟨Proofs.CompDir.rawOf_valid id cm, hf⟩
  rw [Proofs.CompDir.flag_prefix comps hc _ hm sizes n] at hr
  split at hr
  · cases hr
    exact ⟨rfl, by rw [Proofs.CompDir.absMeta_rawOf]; rfl⟩
  · cases hr

/-! ## non-vacuity: a compaction of tables 1 and 2 into directory `sstable_compaction42`, replacing table 1 -/

open SST.C10.Table (P0 kvs0 ch0)

def cm0 : CompMeta := { inputs := [1, 2], replacement := 1 }
def m0 : RawMeta := rawOf 42 cm0

theorem m0_ok : MetaOk m0 := ⟨by decide +kernel, by decide +kernel⟩
example : MetaOk m0 := m0_ok
example : absMeta m0 = some cm0 := by decide +kernel

theorem flagBytes_m0_length : (flagBytes m0).length = 116 := by decide +kernel
/-- the flag file: 8 + 11 + 97 bytes -/
example : (flagBytes m0).length = 116 := flagBytes_m0_length

/-- `saveCompactionMetadata` with a buffered writer that flushes 3 and then 50 bytes during `Write`: 8 calls, the
writes carry 8, 3, 50 and 55 bytes -/
example : (flagCalls [3, 50] m0).map (fun c => match c with | .write b => b.length | _ => 0) = [0, 0, 0, 8, 3, 50, 55, 0] := by
  decide +kernel

/-- the flag reads after the 7th call (the last `write`), not before -/
example : (List.range 9).map (fun n => (readFlag plainComps (applyFlagCalls none ((flagCalls [3, 50] m0).take n))).isSome) =
    [false, false, false, false, false, false, false, true, true] := by decide +kernel
example : readFlag plainComps (applyFlagCalls none (flagCalls [3, 50] m0)) = some m0 := by decide +kernel

/-- every one of the 116 proper prefixes is unreadable: `flag_cut_never_misread` at `m0` -/
example : (List.range 116).all (fun k => (readFlag plainComps (some ((flagBytes m0).take k))).isNone) = true := by
  rw [List.all_eq_true]
  intro k hk
  rw [flag_cut_never_misread plainComps rfl m0 m0_ok k (flagBytes_m0_length ▸ List.mem_range.mp hk)]
  rfl

/-- THE COUNTEREXAMPLE to "a zero-padded cut never reads as a different metadata": cut the flag 10 bytes before its end
(inside the name of input table 2) and pad with 10 zero bytes: the flag READS, as metadata whose last path is
"sstable_00000" followed by ten NUL bytes — a path that names no table (the real `Open` then fails with EINVAL on
`RemoveAll`, in this example after having removed nothing: the replacement comes first in the list and is skipped, and
no other input precedes the zeroed path) -/
theorem zero_padded_flag_misread :
    readFlag plainComps (some ((flagBytes m0).take 106 ++ zeros 10)) = some (zeroTail m0 13) ∧
    zeroTail m0 13 ≠ m0 ∧ absMeta (zeroTail m0 13) = none := by decide +kernel

/-- the whole directory: 19 table calls + 8 flag calls; abstract events done after each call -/
example : (compCalls plainCfg ch0 kvs0 [3, 50] m0).length = 27 := by decide +kernel

example : (List.range 28).map (cevIdx 19 (flagCalls [3, 50] m0)) =
    [0, 1, 2, 2, 2, 2, 2, 2, 2, 2, 2, 2, 2, 2, 2, 2, 2, 2, 3, 3, 4, 4, 4, 4, 4, 4, 5, 5] := by decide +kernel

/-- the classification of every prefix image: gone, unflagged with an unfinished table (the legacy window at 5 calls),
unflagged with the complete table from the metadata write (call 18) on, flagged with the last flag write (call 26) -/
example : (List.range 28).map (fun n => abstractComp P0 42 (applyCCalls {} ((compCalls plainCfg ch0 kvs0 [3, 50] m0).take n))) =
    [none] ++ List.replicate 4 (some { id := 42 }) ++ [some { id := 42, out := .complete [] }] ++
    List.replicate 12 (some { id := 42 }) ++ List.replicate 8 (some { id := 42, out := .complete kvs0 }) ++
    List.replicate 2 (some { id := 42, out := .complete kvs0, flag := some cm0 }) := by decide +kernel

def tblA : DirImage := applyCalls {} (flushCalls plainCfg {} [([97], some [1])])
def tblB : DirImage := applyCalls {} (flushCalls plainCfg {} [([98], none)])
def tblC : DirImage := applyCalls {} (flushCalls plainCfg {} [([99], some [3])])
def merged : CompImage := applyCCalls {} (compCalls plainCfg ch0 kvs0 [3, 50] m0)
def D0 : DiskImage := { tables := [(1, tblA), (2, tblB), (3, tblC)], comps := [(42, merged)] }

/-- `repairCompactions` on a database directory with tables 1, 2, 3 and the finished compaction 42 of 1 and 2: tables 1
and 2 go, the merged table takes the place of table 1, table 3 stays, no compaction directory is left; on the
abstraction `FS.phase1` gives the same tables. -/
theorem D0_repair :
    repairBytes plainComps D0 = some { tables := [(1, merged.tbl), (3, tblC)], comps := [] } ∧
    (absDisk P0 D0).comps = [{ id := 42, out := .complete kvs0, flag := some cm0 }] ∧
    (phase1 (absDisk P0 D0)).tables = [(1, .complete kvs0), (3, .complete [([99], some [3])])] := by decide +kernel

example : repairBytes plainComps D0 = some { tables := [(1, merged.tbl), (3, tblC)], comps := [] } := D0_repair.1
example : (absDisk P0 D0).comps = [{ id := 42, out := .complete kvs0, flag := some cm0 }] := D0_repair.2.1
example : (phase1 (absDisk P0 D0)).tables = [(1, .complete kvs0), (3, .complete [([99], some [3])])] := D0_repair.2.2

/-- the same directory with the flag cut after its file header (what seeded change C02-m7 turns into a failing `Open`):
the compaction directory is deleted, the tables stay -/
def D1 : DiskImage := { D0 with comps := [(42, { merged with flag := some ((flagBytes m0).take 8) })] }
example : repairBytes plainComps D1 = some { tables := [(1, tblA), (2, tblB), (3, tblC)], comps := [] } := by decide +kernel
example : repairDecision plainComps (some ((flagBytes m0).take 8)) = .delete := by decide +kernel

end SST.C10.Comp
