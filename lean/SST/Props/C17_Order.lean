/-
C17 (order tie) — a rejected call has no effect: the validation of `PutBytes` / `Put` comes BEFORE anything is logged,
locked or marshalled, in the Go source TODAY (table regenerated by tools/orderfacts before every proof build, see
Props/C02_Order.lean).  The model: `stepMut` / `putBytes` (validation first).
-/
import SST.Proofs.Order
namespace SST.C17.Order
open SST SST.OrderSpec SST.Generated.Order SST.FS SST.DBM

theorem listed_functions_found :
    (["DB.Put", "DB.PutBytes", "DB.Delete", "DB.DeleteBytes"].all foundFn) = true := by decide +kernel

/-- D10 (dd6bb0c) + C17-m1: `PutBytes` rejects empty keys and values (`return ErrEmptyKeyValue`) as its very first
action: before marshalling, before taking the lock, before the WAL -/
theorem put_validates_before_logging :
    let p := itemsOf "DB.PutBytes"
    firstIdx .validateEmpty p = some 0 ∧
    allBefore .validateEmpty .walAppend p = true ∧ allBefore .validateEmpty .walAppendSync p = true ∧
    allBefore .validateEmpty .memUpsert p = true ∧ allBefore .validateEmpty .lock p = true := by decide +kernel

/-- the string flavour validates, too, and then delegates; `Delete` delegates (every key is accepted) -/
theorem string_api_validates_then_delegates :
    acts (itemsOf "DB.Put") = [.validateEmpty, .putBytesCall] ∧ acts (itemsOf "DB.Delete") = [.deleteBytesCall] ∧
    occurs .validateEmpty (itemsOf "DB.DeleteBytes") = false := by decide +kernel

/-- the open/closed checks come after the lock and before the log: a call on a closed database logs nothing -/
theorem state_checks_before_logging :
    let p := itemsOf "DB.PutBytes"
    let d := itemsOf "DB.DeleteBytes"
    -- (PutBytes does its locked part in a called body — a function literal or a helper, the table is the same —, whose
    -- normal form writes the two state checks as enclosing conditionals; DeleteBytes has them as guards)
    ((p.filterMap fun | .ifBegin c => some c | _ => none).take 3) =
      ["simpledb.DB.open", "!simpledb.DB.closed", "simpledb.DB.enableAsyncWAL"] ∧
    ((d.filterMap fun | .ifBegin c => some c | _ => none).take 3) =
      ["!simpledb.DB.open", "simpledb.DB.closed", "simpledb.DB.enableAsyncWAL"] ∧
    -- both state checks hold / are guards passed before either flavour of the log append
    pathConds .walAppend p = [["simpledb.DB.enableAsyncWAL", "!simpledb.DB.closed", "simpledb.DB.open"]] ∧
    pathConds .walAppendSync p = [["else: simpledb.DB.enableAsyncWAL", "!simpledb.DB.closed", "simpledb.DB.open"]] ∧
    pathConds .walAppend d = [["simpledb.DB.enableAsyncWAL", "not: simpledb.DB.closed", "not: !simpledb.DB.open"]] ∧
    pathConds .walAppendSync d = [["else: simpledb.DB.enableAsyncWAL", "not: simpledb.DB.closed", "not: !simpledb.DB.open"]] ∧
    firstBefore .lock .walAppend p = true ∧ firstBefore .lock .walAppend d = true := by decide +kernel

/-- MODEL = SOURCE for a rejected call: the model emits no event for it, and in the source the rejection returns
before the first action of any kind -/
theorem model_rejected_put_matches_source :
    (fsStep false {} vOpen { st := .putB (some []) (some [2]) false }).1 = [] ∧
    (fsStep false {} vOpen { st := .putB (some [1]) none true }).1 = [] ∧
    (fsStep true {} vOpen { st := .putS [] [2] false }).1 = [] ∧
    firstIdx .validateEmpty (itemsOf "DB.PutBytes") = some 0 ∧ firstIdx .validateEmpty (itemsOf "DB.Put") = some 0 := by
  decide +kernel

/-- the C17 part of `model_order_matches_source`: an accepted `PutBytes` (validation, log, memstore, rotation) -/
theorem model_order_matches_source :
    srcKinds .table cfgPut "DB.PutBytes" = some (modelKinds (fsStep false {} vOpen { st := .putB (some [1]) (some [2]) true }).1) ∧
    (trace cfgPut "DB.PutBytes").map (fun t => (acts t).head?) = some (some .validateEmpty) := by
  refine ⟨put_path_matches_model, ?_⟩
  cases ht : trace cfgPut "DB.PutBytes" with
  | none =>
    have h := put_path_matches_model
    rw [srcKinds, ht] at h
    cases h
  | some t => exact congrArg some (trace_head put_validates_before_logging.1 (by decide) ht)

end SST.C17.Order
