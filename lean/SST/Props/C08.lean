/-
C08 — Merging or stacking tables equals the latest-wins union of their contents.

Model: SST/Model/Merge.lean (sstables/sstable_merger.go, sstables/super_sstable_reader.go as coded after the
D6/D7/D8 fixes) on top of the merge heap SST/Model/PQ.lean / PQF.lean.  Spec: SST/Spec/Merge.lean (`overlay`).
Everything is for ALL lists of tables (oldest → newest), each a strictly ascending list of
(key, value) with value `none` = tombstone, `some []` = empty value: arbitrary overlap, empty tables, the empty
key, tombstones over values and vice versa.  Assumptions that are part of every statement: the comparator is
`skiplist.BytesComparator` (`bytes.Compare`, proved consistent in SST/Proofs/BytesOrd.lean); a table is the
abstract reader of SST/Model/Merge.lean (that byte-level table files implement it is another layer).
-/
import SST.Proofs.Merge
namespace SST.C08
open SST SST.Merge

/-- The spec is what the property text says: `overlay` (apply the tables in order, later ones overriding)
is a sorted map that holds, for every key, the value of the newest table having that key. -/
theorem overlay_spec (ts : List Table) (hts : ∀ t ∈ ts, Asc t) :
    Asc (overlay ts) ∧ ∀ k, tget (overlay ts) k = newestValue ts k :=
  ⟨Proofs.MergeSpec.overlay_asc ts, Proofs.MergeSpec.tget_overlay hts⟩

/-- "Newest" is: table number `c` has the key with value `v` and no table after it has the key. -/
theorem newestValue_char (ts : List Table) (k : Bytes) (v : GoBytes) :
    newestValue ts k = some v ↔
      ∃ (c : Nat) (t : Table), ts[c]? = some t ∧ tget t k = some v ∧
        ∀ (c' : Nat) (t' : Table), c < c' → ts[c']? = some t' → tget t' k = none :=
  Proofs.MergeSpec.newestValue_some_iff

/-- `SuperSSTableReader.Get` = lookup in the overlay; a key absent from every table is NotFound.  As coded, a
key whose newest value is a tombstone yields `(nil, nil)` — the overlay's entry — not NotFound. -/
theorem super_get_eq_overlay (ts : List Table) (hts : ∀ t ∈ ts, Asc t) (k : Bytes) :
    superGet ts k = (match tget (overlay ts) k with | some v => .ok v | none => .error .notFound) :=
  Proofs.Merge.super_get ts hts k

/-- `SuperSSTableReader.Contains` = "the overlay has an entry for the key".  As coded a tombstone entry
counts: Contains is true iff ANY table has the key, live or deleted. -/
theorem super_contains_eq_overlay (ts : List Table) (hts : ∀ t ∈ ts, Asc t) (k : Bytes) :
    superContains ts k = .ok (tget (overlay ts) k).isSome :=
  Proofs.Merge.super_contains ts hts k

/-- `SuperSSTableReader.Scan`, drained until Done, returns exactly the overlay's entries whose value is not a
tombstone, in order (`asItems`: keys are handed out as NON-nil slices, also the empty key).  As coded an
EMPTY non-nil newest value is not a tombstone and IS returned. -/
theorem super_scan_eq_overlay (ts : List Table) (hts : ∀ t ∈ ts, Asc t) :
    superScan ts = .ok (asItems (live (overlay ts))) :=
  Proofs.Merge.super_scan ts hts

/-- `ScanStartingAt k`: what `Scan` returns, restricted to keys ≥ k (any k: present, absent, below or above all
keys). -/
theorem super_scanFrom_eq_overlay (ts : List Table) (hts : ∀ t ∈ ts, Asc t) (k : Bytes) :
    superScanFrom ts k = .ok (asItems (fromKey (live (overlay ts)) k)) :=
  Proofs.Merge.super_scanFrom ts hts k

/-- `ScanRange lo hi`: what `Scan` returns, restricted to lo ≤ key ≤ hi; lower > upper is the first reader's error
(as coded a reader stack without readers has nobody to reject it and returns the empty scan). -/
theorem super_scanRange_eq_overlay (ts : List Table) (hts : ∀ t ∈ ts, Asc t) (lo hi : Bytes) :
    superScanRange ts lo hi =
      if bytesCmp lo hi = .gt ∧ ts ≠ [] then .error .rejected
      else .ok (asItems (between (live (overlay ts)) lo hi)) :=
  Proofs.Merge.super_scanRange ts hts lo hi

/-- What the scans' right-hand side means, spelled out: every key at most once and in ascending order, and
an entry `(k, v)` is returned iff `v` is the value of the newest table that has `k` and is not a tombstone —
no value is ever attributed to a different key, the empty key included (k ranges over all byte strings). -/
theorem scan_content (ts : List Table) (hts : ∀ t ∈ ts, Asc t) :
    Asc (live (overlay ts)) ∧
    ∀ k v, (k, v) ∈ live (overlay ts) ↔ (newestValue ts k = some v ∧ v.isSome) := by
  refine ⟨Proofs.MergeSpec.filter_asc _ (Proofs.MergeSpec.overlay_asc ts), ?_⟩
  intro k v
  unfold live
  rw [List.mem_filter, ← Proofs.MergeSpec.tget_some_iff (Proofs.MergeSpec.overlay_asc ts),
    Proofs.MergeSpec.tget_overlay hts]

/-- `MergeCompact` with `ScanReduceLatestWins` over all tables into a fresh writer succeeds and writes exactly
the overlay without its tombstoned keys; with `ScanReduceLatestWinsSkipTombstones` additionally without the
keys whose newest value is EMPTY (`len(val) == 0`, as coded and documented for that reducer). -/
theorem mergeCompact_latestWins_eq_overlay (ts : List Table) (hts : ∀ t ∈ ts, Asc t) :
    ((mergeCompact ((ts.map toItems).map inputOf) {} scanReduceLatestWins).1 = none ∧
     (mergeCompact ((ts.map toItems).map inputOf) {} scanReduceLatestWins).2.out = live (overlay ts)) ∧
    ((mergeCompact ((ts.map toItems).map inputOf) {} scanReduceLatestWinsSkipTombstones).1 = none ∧
     (mergeCompact ((ts.map toItems).map inputOf) {} scanReduceLatestWinsSkipTombstones).2.out
        = liveNonEmpty (overlay ts)) :=
  have ha := Proofs.MergeSpec.overlay_asc ts
  ⟨Proofs.Merge.mergeCompact_eq (g := fun v => v) Proofs.MergeGroup.lw_valReducer ts hts
      (Proofs.MergeSpec.filter_asc _ ha) (Proofs.MergeGroup.tget_live ha),
    Proofs.Merge.mergeCompact_eq Proofs.MergeGroup.skip_valReducer ts hts
      (Proofs.MergeSpec.filter_asc _ ha) (Proofs.MergeGroup.tget_liveNonEmpty ha)⟩

/-- Plain `Merge`: on pairwise key-disjoint tables it succeeds and writes the overlay, which then is the
sorted union of all records (tombstones included); on tables sharing a key the writer rejects the duplicate
and `Merge` returns that error. -/
theorem merge_disjoint_eq_union (ts : List Table) (hts : ∀ t ∈ ts, Asc t) :
    (PairwiseDisjoint ts →
      (merge ((ts.map toItems).map inputOf) {}).1 = none ∧
      (merge ((ts.map toItems).map inputOf) {}).2.out = overlay ts ∧
      (overlay ts).Perm ts.flatten) ∧
    (¬ PairwiseDisjoint ts → (merge ((ts.map toItems).map inputOf) {}).1 = some .rejected) :=
  ⟨Proofs.Merge.merge_disjoint ts hts, Proofs.Merge.merge_overlap ts hts⟩

/-- The index `ScanReduceLatestWins` computes lies inside a non-empty context list, so `values[maxCtxIndex]` is in
range for the groups the iterator builds (never empty, values and contexts equally long: facts about the iterator
that this statement takes as given). -/
theorem reducer_index_in_range (cs : List Nat) (hne : cs ≠ []) : maxCtxIndex cs 0 0 0 < cs.length :=
  Proofs.MergeGroup.maxCtxIndex_lt cs hne

/-! ### non-vacuity: a concrete stack with the empty key, an empty table, a tombstone over a live value, a
live value over a tombstone, an empty value -/

def exTables : List Table :=
  [ [([], some [1]), ([97], none), ([98], some []), ([99], some [3])],
    [],
    [([], none), ([97], some [7]), ([99], none), ([100], some [9])] ]

theorem exTables_asc : ∀ t ∈ exTables, Asc t := by
  intro t ht
  simp only [exTables, List.mem_cons, List.not_mem_nil, or_false] at ht
  rcases ht with rfl | rfl | rfl <;> simp [Asc, StrictAsc, bytesCmp] <;> decide

example : ∀ t ∈ exTables, Asc t := exTables_asc

example : superScan exTables = .ok [(some [97], some [7]), (some [98], some []), (some [100], some [9])] := by rfl
example : superGet exTables [] = .ok none := by rfl
example : superContains exTables [] = .ok true := by rfl
example : (mergeCompact ((exTables.map toItems).map inputOf) {} scanReduceLatestWinsSkipTombstones).2.out
    = [([97], some [7]), ([100], some [9])] := by rfl
example : ¬ PairwiseDisjoint exTables := by
  intro h
  have := (merge_disjoint_eq_union exTables exTables_asc).1 h
  exact absurd this.1 (by decide)
example : PairwiseDisjoint [[([], some [1])], [([97], none)]] := by
  simp [PairwiseDisjoint]

end SST.C08
