/-
C04 (extension) — the buffered reader stack under the RecordIO file reader.

The C04 / C12 theorems are about the pure-stream reader model (`readNextS`, `skipNextS`, … on `Bytes`).  The Go
code reads through `Reader` (bufio_vendor.go), `CountingBufferedReader`, `checksumByteReader`, `io.ReadFull`,
`io.ReadAll` and `binary.ReadUvarint`.  The theorems below show that this stack — modelled literally in
SST/Model/BufReader.lean over an underlying reader that hands out its bytes according to an arbitrary SCHEDULE
of short and empty reads — returns exactly what the pure-stream model returns:
for EVERY requested buffer capacity (0 included), EVERY schedule without 100 consecutive empty reads, EVERY byte stream.
So every size around a buffer or page boundary is covered by a theorem, not by a sample.

Supported capacities: EVERY requested buffer length.  `NewReaderBuf` replaces a zero-length buffer by a
16-byte one (`effCap cap = if cap = 0 then 16 else cap`; /repo commit 964130e — before it capacity 0 panicked on
the first `ReadByte`, i.e. on the first `ReadNext`/`SkipNext`), so a constructed reader always has capacity ≥ 1
(`constructed_cap_pos`) and `fill`'s panic branch is unreachable; `cap0_reader_works_fixed` is the
regression theorem on the input that used to panic.

Both constructors are covered: `NewReaderBuf` (`aligned = false`) and `NewAlignedReaderBuf` (`aligned = true`,
used by `DirectIOFactory.CreateNewReader` since /repo commit 9c40b59; it never takes the "large read, empty
buffer" shortcut).  The theorems quantify over `aligned : Bool` (`Rd.make aligned cap u`), the state-based ones
(`readByte_refines`, `bufReadNext_eq_readNextS`, …) hold in every state whatever the flag is, and
`aligned_reads_only_into_own_buffer` states what the flag is for.  The model's underlying reader serves every
request: that an O_DIRECT file rejects a read whose length or offset is not block-aligned (a buffer smaller than a
block; a `ReadNext` after a `SkipNext`, finding `directio-read-after-skipnext-einval`) is outside the model.

Property theorems only; lemmas are in SST/Proofs/BufReader*.lean.
-/
import SST.Proofs.BufReaderRun
import SST.Proofs.BufReaderRoundtrip
import SST.Proofs.BufReaderAligned
namespace SST.C04Buf
open SST Generated SST.Buf

/-- Any sequence of `ReadByte` / `io.ReadFull(n)` calls on `NewCountingByteReader(NewReaderBuf(u, buf))`:
every result (byte, bytes, EOF iff nothing is left, ErrUnexpectedEOF iff 0 < available < n) and every value of
`Count()` equals the one computed on the raw byte stream — for EVERY requested capacity (0 included: the
constructor then uses 16 bytes), every schedule of short and empty reads without 100 consecutive empty ones,
every data.  Independent of capacity and schedule: the right hand side mentions neither. -/
theorem calls_refine (aligned : Bool) (cap : Nat) (data : Bytes) (sched : List Nat) (hns : NoStall sched)
    (calls : List Call) :
    runCalls { rd := Rd.make aligned cap { rem := data, sched := sched, eofData := false }, count := 0 } calls
      = specCalls data 0 calls :=
  (runCalls_spec (effCap cap) false calls _ data 0
    (rep_make aligned cap { rem := data, sched := sched, eofData := false } hns)).2 rfl

/-- The same for an underlying reader that may return its last bytes TOGETHER with `io.EOF` (`ed`, either value;
legal for an io.Reader): all results are still those of the raw stream; only `Count()` is not claimed (see
`eofData_not_counted`). -/
theorem calls_refine_eofData (aligned : Bool) (cap : Nat) (data : Bytes) (sched : List Nat) (hns : NoStall sched)
    (ed : Bool) (calls : List Call) :
    (runCalls { rd := Rd.make aligned cap { rem := data, sched := sched, eofData := ed }, count := 0 } calls).map
        CallRes.erase = (specCalls data 0 calls).map CallRes.erase :=
  (runCalls_spec (effCap cap) ed calls _ data 0
    (rep_make aligned cap { rem := data, sched := sched, eofData := ed } hns)).1

/-- One `ReadByte` in ANY state of the stack that stands for the raw stream `s` with `k` bytes consumed
(`CRd.Rep`: capacity ≥ 1, the schedule never stalls, a sticky error is the EOF of an exhausted reader): the next
byte, or EOF iff nothing is left; the new state stands for the rest; the count moves by one (`Rep` claims the count
for `ed = false` only). -/
theorem readByte_refines (cap : Nat) (ed : Bool) (c : CRd) (s : Bytes) (k : Nat) (h : c.Rep cap ed s k) :
    ∃ c', c.readByte = ((specByte s).1, c') ∧
      c'.Rep cap ed (specByte s).2 (k + if s.isEmpty then 0 else 1) :=
  crd_readByte_spec h

/-- One `io.ReadFull` of `n` bytes in any such state: the next `n` bytes; EOF iff nothing is left;
ErrUnexpectedEOF iff 0 < available < n; the count (for `ed = false`) moves by the number of bytes handed out. -/
theorem readFull_refines (cap : Nat) (ed : Bool) (c : CRd) (s : Bytes) (k n : Nat) (h : c.Rep cap ed s k) :
    ∃ c', c.readFull n = ⟨(specFull s n).1, (specFull s n).2.1, c'⟩ ∧
      c'.Rep cap ed (specFull s n).2.2 (k + (specFull s n).1.length) :=
  readFull_spec n h

/-- `io.ReadAll` (used by the zero-tail rule) in any such state: everything that is left, no error — whatever
growth policy `append` follows. -/
theorem readAll_refines (cap : Nat) (ed : Bool) (c : CRd) (s : Bytes) (k : Nat) (grow : Nat → Nat)
    (hg : ∀ x, x < grow x) (h : c.Rep cap ed s k) :
    ∃ c', c.readAll grow = ⟨s, none, c'⟩ ∧ c'.Rep cap ed [] (k + s.length) :=
  readAll_spec grow hg h

/-- `Open` over the stack = `parseFileHeader`; afterwards the reader stands behind the 8 header bytes. -/
theorem bufOpen_eq_parseFileHeader (aligned : Bool) (cap : Nat) (file : Bytes) (sched : List Nat)
    (hns : NoStall sched) (ed : Bool) :
    ∃ fr', (FileRd.new file cap { rem := file, sched := sched, eofData := ed } aligned).open
        = (liftE (parseFileHeader file), fr') ∧
      (∀ v ct, parseFileHeader file = .ok (v, ct) → fr'.Rep (effCap cap) ed file v fileHeaderSize) :=
  open_spec cap file { rem := file, sched := sched, eofData := ed } hns rfl aligned

/-- `ReadNext` (file version 4) through buffered reader, counting reader, checksum byte reader, ReadUvarint,
ReadFull and ReadAll returns exactly what `readNextS` returns on the raw stream — same record (nil ≠ empty), same
error class — in every state that stands at byte `pos` of the file: every effective capacity (≥ 1 by
construction, see `bufOpen_eq_parseFileHeader`), every non-stalling schedule, every file content (valid, damaged,
cut), with or without data-with-EOF.  After a success the reader stands behind the record (for an aligned reader
as well: the invariant does not mention the flag).  Hence C04's and C12's reader theorems hold for the modelled
stack, either constructor (the allocation of the record buffer always succeeds in the model, see
SST/Model/BufReader.lean: Go's `make` panics on a claimed length of 2^63). -/
theorem bufReadNext_eq_readNextS (cap : Nat) (ed : Bool) (cmp : Compression) (grow : Nat → Nat)
    (hg : ∀ x, x < grow x) (file : Bytes) (v : Nat) (fr : FileRd) (pos : Nat)
    (hrep : fr.Rep cap ed file v pos) :
    ∃ fr', bufReadNext cmp grow fr = (liftE ((readNextS cmp (file.drop pos)).map Prod.fst), fr') ∧
      (∀ r n, readNextS cmp (file.drop pos) = .ok (r, n) → fr'.Rep cap ed file v (pos + n)) :=
  readNextV4_spec cap ed cmp grow hg file v fr pos hrep

/-- `SkipNext` (file version 4): header through the stack, `Seek`, `Reset` = `skipNextS`.  The only proviso is
the seek itself: Go converts the target with `int64(...)` and `lseek` rejects offsets above the file system's
limit `maxOff` (< 2^63), so the target must not exceed `maxOff` — true of every real file; a header that passes
the checksum may claim any length (example `hugeFile` at the end).  Stated for an underlying reader that never
returns data together with `io.EOF` (`ed = false`, true of `os.File`): the seek target is computed from `Count()`
(see `eofData_not_counted`). -/
theorem bufSkipNext_eq_skipNextS (cap : Nat) (cmp : Compression) (maxOff : Nat) (hmax : maxOff < 2 ^ 63)
    (file : Bytes) (v : Nat) (fr : FileRd)
    (pos : Nat) (hrep : fr.Rep cap false file v pos)
    (hfit : ∀ n, skipNextS cmp (file.drop pos) = .ok n → pos + n ≤ maxOff) :
    ∃ fr', bufSkipNext cmp maxOff fr = (liftE ((skipNextS cmp (file.drop pos)).map (fun _ => ())), fr') ∧
      (∀ n, skipNextS cmp (file.drop pos) = .ok n → fr'.Rep cap false file v (pos + n)) :=
  skipNextV4_spec cap cmp maxOff hmax file v fr pos hrep hfit

/-- With the legacy versions: `ReadNext` of a file of version 2, 3 or 4 = that version's pure-stream reader
`readNextSV`. -/
theorem bufReadNext_legacy (cap : Nat) (ed : Bool) (cmp : Compression) (grow : Nat → Nat)
    (hg : ∀ x, x < grow x) (file : Bytes) (v : Nat) (hv : v = 2 ∨ v = 3 ∨ v = 4) (fr : FileRd) (pos : Nat)
    (hrep : fr.Rep cap ed file v pos) :
    ∃ fr', fr.readNext cmp grow = (liftE ((readNextSV v cmp (file.drop pos)).map Prod.fst), fr') ∧
      (∀ r n, readNextSV v cmp (file.drop pos) = .ok (r, n) → fr'.Rep cap ed file v (pos + n)) :=
  readNext_spec cap ed cmp grow hg file v hv fr pos hrep

/-- Whole programs: open a file of version 2, 3 or 4 with ANY requested buffer capacity over ANY non-stalling read
schedule (of a reader that never returns data together with `io.EOF`; the file reader after a `SkipNext` reads
without a schedule) and run ANY program of ReadNext / SkipNext up to its first error: the outputs are exactly those of the
pure-stream model (`streamRun`, which for version 4 is `readNextS` / `skipNextS`). -/
theorem bufFile_eq_stream (aligned : Bool) (cap : Nat) (file : Bytes) (sched : List Nat) (hns : NoStall sched)
    (cmp : Compression) (grow : Nat → Nat) (hg : ∀ x, x < grow x) (maxOff : Nat) (hmax : maxOff < 2 ^ 63)
    (v ct : Nat)
    (hp : parseFileHeader file = .ok (v, ct)) (hv : v = 2 ∨ v = 3 ∨ v = 4) (ops : List ROp)
    (hfit : skipsFit v cmp maxOff file fileHeaderSize ops = true) :
    ∃ fr, (FileRd.new file cap { rem := file, sched := sched, eofData := false } aligned).open
        = (.ok (v, ct), fr) ∧
      bufRun cmp grow maxOff fr ops = streamRun v cmp file fileHeaderSize ops := by
  obtain ⟨fr, h1, h2⟩ := open_spec cap file { rem := file, sched := sched, eofData := false } hns rfl aligned
  rw [hp] at h1
  exact ⟨fr, h1, bufRun_eq_streamRun (effCap cap) cmp grow hg maxOff hmax file v hv ops fr _ (h2 v ct hp) hfit⟩

/-- Sequential reading of a version-4 file with no more records than bytes (`hlen`) through the stack (either
constructor, any requested capacity, any non-stalling schedule) yields what the pure sequential reader `readAll`
yields: its records, then the error that ended it.  So what C04 and C12 prove of `readAll` on a file carries over to
the stack once `hlen` is shown; `buffered_seq_roundtrip` is the case of `seq_roundtrip`. -/
theorem buffered_readAll (aligned : Bool) (cap : Nat) (sched : List Nat) (hns : NoStall sched) (c : Compression)
    (grow : Nat → Nat) (hg : ∀ x, x < grow x) (maxOff : Nat) (hmax : maxOff < 2 ^ 63) (file : Bytes) (ct : Nat)
    (hp : parseFileHeader file = .ok (4, ct)) (rs : List GoBytes) (e : Err) (hr : readAll c file = (rs, e))
    (hlen : rs.length ≤ file.length) :
    ∃ fr, (FileRd.new file cap { rem := file, sched := sched, eofData := false } aligned).open = (.ok (4, ct), fr) ∧
      bufRun c grow maxOff fr (List.replicate rs.length .read ++ [.read]) = rs.map .record ++ [.fail (.e e)] := by
  obtain ⟨fr, h1, h2⟩ := bufFile_eq_stream aligned cap file sched hns c grow hg maxOff hmax 4 ct hp
    (Or.inr (Or.inr rfl)) _ (List.replicate_succ' ▸ skipsFit_reads 4 c maxOff file (rs.length + 1) fileHeaderSize)
  exact ⟨fr, h1, h2.trans (streamRun_readAll c file rs e hr hlen)⟩

/-- C04's sequential round trip for the REAL reader stack: any records (nil, empty, any bytes, any lawful
compressor) written back to back after the file header, read through the buffered stack (either constructor) with
any requested capacity over any non-stalling schedule of short and empty reads: `Open` succeeds and `ReadNext`
yields exactly the records, nil distinguished from empty, then end-of-file. -/
theorem buffered_seq_roundtrip (aligned : Bool) (cap : Nat) (sched : List Nat) (hns : NoStall sched)
    (c : Compression) (ct : Nat) (hct : ct ≤ maxCompression) (rs : List GoBytes)
    (hl : LawfulC c) (hf : ∀ r ∈ rs, FitsRec c r) (grow : Nat → Nat) (hg : ∀ x, x < grow x)
    (maxOff : Nat) (hmax : maxOff < 2 ^ 63) :
    ∃ fr, (FileRd.new (fileHeader currentVersion ct ++ encAll c rs) cap
          { rem := fileHeader currentVersion ct ++ encAll c rs, sched := sched, eofData := false } aligned).open
        = (.ok (currentVersion, ct), fr) ∧
      bufRun c grow maxOff fr (List.replicate rs.length .read ++ [.read])
        = rs.map .record ++ [.fail (.e .eof)] :=
  buffered_readAll aligned cap sched hns c grow hg maxOff hmax (fileHeader currentVersion ct ++ encAll c rs) ct
    (Proofs.file_header_accepted currentVersion ct (encAll c rs) ⟨by decide, by decide⟩ hct) rs .eof
    (Proofs.seq_roundtrip c ct rs hl hf)
    (by rw [List.length_append]; exact Nat.le_trans (Proofs.length_le_encAll c rs) (Nat.le_add_left _ _))

/-- The point of `NewAlignedReaderBuf` (/repo commit 9c40b59, direct I/O): whatever `Read(p)` / `ReadByte` calls
are made on it (`io.ReadFull`, `io.ReadAll`, `ReadUvarint` and the wrappers are nothing else), with whatever
`len p`, EVERY `Read` call the underlying reader sees asks for at most the reader's own buffer length.  (In the Go
code the aligned reader only ever hands (a suffix of) its own block-aligned buffer down, never the caller's slice;
the underlying reader of the model logs only the `len p` of every call it receives, so the bound on the length is
what is stated.) -/
theorem aligned_reads_only_into_own_buffer (cap : Nat) (u : Under) (hu : u.reqs = []) (ops : List RdOp) :
    ∀ r ∈ ((Rd.newAligned cap u).run ops).under.reqs, r ≤ effCap cap := by
  have h := run_own ops (Rd.newAligned cap u) (cap := effCap cap)
    ⟨rfl, rfl, fun r hr => by simp [Rd.newAligned, Rd.reset, hu] at hr⟩
  intro r hr
  exact h.1 ▸ h.2.2 r hr

/-- the contrast: the unaligned reader passes the caller's length straight through (a 10-byte read on a 4-byte
buffer asks the file for 10 bytes — into the caller's unaligned slice, EINVAL under O_DIRECT), the aligned one
asks for its 4-byte buffer -/
example : ((Rd.new 4 { rem := [1, 2, 3, 4, 5, 6, 7, 8, 9, 10, 11], sched := [], eofData := false }).read 10).st.under.reqs
      = [10] ∧
    ((Rd.newAligned 4 { rem := [1, 2, 3, 4, 5, 6, 7, 8, 9, 10, 11], sched := [], eofData := false }).read 10).st.under.reqs
      = [4] := by decide +kernel

/-- A schedule with 100 consecutive empty reads: `ReadByte` (hence `ReadUvarint`, hence the record header
reader) reports `io.ErrNoProgress` — an error, never data; nothing of the stream is lost, the 100 schedule
entries are used up and the sticky error is cleared, so the next call tries again. -/
theorem no_progress_reported (b : Rd) (hp : b.pend = []) (he : b.err = none) (hcap : 0 < b.cap)
    (hz : 100 ≤ zeroRun b.under.sched) :
    ∃ b', b.readByte = (.error .noProgress, b') ∧ b'.pend = [] ∧ b'.err = none ∧ b'.cap = b.cap ∧
      b'.under.rem = b.under.rem ∧ b'.under.sched = b.under.sched.drop 100 ∧ b'.stream = b.stream := by
  have hfill : b.fill = some (b.fillLoop maxConsecutiveEmptyReads) := by
    simp only [Rd.fill, hp, List.length_nil]; rw [if_neg (by omega)]
  obtain ⟨g1, g2, g3, g5, g6⟩ := fillLoop_stall maxConsecutiveEmptyReads b hp hz
  refine ⟨{ b.fillLoop maxConsecutiveEmptyReads with err := none }, ?_, g2, rfl, g3, g5, g6, ?_⟩
  · simp only [Rd.readByte, Rd.readByteLoop, hp, he, hfill, g1, g2]
  · simp [Rd.stream, g2, g5, hp]

/-- A reader made by `NewReaderBuf` (`Rd.new`; `BufferedIOFactory.CreateNewReader` calls it) never has capacity 0: a
zero-length buffer is replaced by 16 bytes.  At capacity 0 `ReadByte` panics in `fill` ("bufio: tried to fill full buffer",
`Buf.readByte_cap0_panics`); `Buf.constructed_cap_pos'` is the same fact for either constructor. -/
theorem constructed_cap_pos (cap : Nat) (u : Under) : 0 < (Rd.new cap u).cap :=
  effCap_pos cap

/-- QUIRK (data together with EOF).  When the underlying reader returns its last bytes together with `io.EOF`
and the read bypasses the buffer (len(p) ≥ effective capacity), `Reader.Read` returns `(n, EOF)`,
`CountingBufferedReader.Read` does not count those `n` bytes, and `io.ReadFull` returns them with a nil error:
the data is right, `Count()` is too small by `n`.  `os.File` never returns `(n>0, EOF)`, so the file reader's
offset bookkeeping is not affected; the exported `NewCountingByteReader(NewReaderBuf(r, buf))` over another
io.Reader is. -/
theorem eofData_not_counted (cap k : Nat) (d : Bytes) (hd : d ≠ []) (hcap : effCap cap ≤ d.length) :
    let c : CRd := { rd := Rd.new cap { rem := d, sched := [], eofData := true }, count := k }
    (c.readFull d.length).data = d ∧ (c.readFull d.length).err = none ∧ (c.readFull d.length).st.count = k :=
  have _ := hd  -- not used: for `d = []` nothing is asked for and nothing is read
  readFull_uncounted_reset (effCap cap) k d hcap

/-- a schedule with short and empty reads that never stalls -/
example : NoStall [3, 0, 0, 1, 0, 7] := by decide +kernel

/-- a stalling schedule meets the hypothesis of `no_progress_reported` -/
example : 100 ≤ zeroRun (List.replicate 100 0 ++ [5]) := by decide +kernel

/-- `calls_refine` on a concrete case: capacity 2, schedule 1,0,2, mixed calls -/
example : runCalls { rd := Rd.new 2 { rem := [1, 2, 3, 4], sched := [1, 0, 2], eofData := false }, count := 0 }
      [.readByte, .readFull 2, .readFull 3, .readByte]
    = [.byte (.ok 1) 1, .bytes [2, 3] none 3, .bytes [4] (some (.e .unexpectedEof)) 4,
       .byte (.error (.e .eof)) 4] := by decide +kernel

/-- the state hypothesis `CRd.Rep` holds of every freshly constructed stack, whatever capacity was requested -/
example (aligned : Bool) (cap : Nat) (data : Bytes) (sched : List Nat) (hns : NoStall sched) (ed : Bool) :
    ({ rd := Rd.make aligned cap { rem := data, sched := sched, eofData := ed }, count := 0 } : CRd).Rep
      (effCap cap) ed data 0 :=
  rep_make aligned cap { rem := data, sched := sched, eofData := ed } hns

/-- the count quirk, concretely: three bytes delivered with EOF through a 2-byte buffer, `Count()` stays 0 -/
example : (({ rd := Rd.new 2 { rem := [1, 2, 3], sched := [], eofData := true }, count := 0 } : CRd).readFull 3).data
      = [1, 2, 3] ∧
    (({ rd := Rd.new 2 { rem := [1, 2, 3], sched := [], eofData := true }, count := 0 } : CRd).readFull 3).st.count
      = 0 := by decide +kernel

/-- 100 empty reads, concretely: error, and the byte is still there for the next call -/
example : ((Rd.new 4 { rem := [9], sched := List.replicate 100 0, eofData := false }).readByte).1
      = .error .noProgress ∧
    (((Rd.new 4 { rem := [9], sched := List.replicate 100 0, eofData := false }).readByte).2.readByte).1
      = .ok 9 := by decide +kernel

/-- a small version-4 file: a record, a nil record, an empty record -/
def demoFile : Bytes :=
  fileHeader 4 0 ++ encRecord none (some [7, 8]) ++ encRecord none none ++ encRecord none (some [])

/-- `bufFile_eq_stream`'s hypothesis holds of a concrete program with a skip … -/
example : skipsFit 4 none (2 ^ 63 - 1) demoFile 8 [.read, .skip, .read, .read] = true := by decide +kernel

/-- … and its conclusion, concretely: capacity 5, schedule 1,0,0,3,2 -/
example : bufRun none (· + 1) (2 ^ 63 - 1)
      ((FileRd.new demoFile 5 { rem := demoFile, sched := [1, 0, 0, 3, 2], eofData := false }).open).2
      [.read, .skip, .read, .read]
    = [.record (some [7, 8]), .skipped, .record (some []), .fail (.e .eof)] := by decide +kernel

/-- the same through an ALIGNED reader with a 1-byte buffer (every record is larger than the buffer) -/
example : bufRun none (· + 1) (2 ^ 63 - 1)
      ((FileRd.new demoFile 1 { rem := demoFile, sched := [1, 0, 0, 3, 2], eofData := false } true).open).2
      [.read, .skip, .read, .read]
    = [.record (some [7, 8]), .skipped, .record (some []), .fail (.e .eof)] := by decide +kernel

/-- REGRESSION (/repo commit 964130e, "fix: a reader with buffer size 0 panicked on its first read").
`recordio.NewFileReader(ReaderPath(p), ReaderBufferSizeBytes(0))` on `demoFile`: before the fix `Open` succeeded
and the first `ReadNext` panicked ("bufio: tried to fill full buffer"); now the whole file reads back —
record, skipped nil record, empty record, end-of-file — and so does a byte-wise reader with a requested
capacity of 0. -/
theorem cap0_reader_works_fixed :
    ((FileRd.new demoFile 0 { rem := demoFile, sched := [], eofData := false }).open).1 = .ok (4, 0) ∧
    bufRun none (· + 1) (2 ^ 63 - 1)
        ((FileRd.new demoFile 0 { rem := demoFile, sched := [], eofData := false }).open).2
        [.read, .skip, .read, .read]
      = [.record (some [7, 8]), .skipped, .record (some []), .fail (.e .eof)] ∧
    ((Rd.new 0 { rem := [9], sched := [], eofData := false }).readByte).1 = .ok 9 := by decide +kernel

/-- a header that passes the checksum and claims 2^63 bytes -/
def hugeFile : Bytes := fileHeader 4 0 ++ encHeader false (2 ^ 63) 0

/-- QUIRK: the pure-stream `skipNextS` accepts the record, the real `SkipNext` fails because the
seek target does not fit (so `bufSkipNext_eq_skipNextS`'s proviso is needed) -/
example : skipNextS none (hugeFile.drop 8) = .ok (2 ^ 63 + 20) ∧
    ((((FileRd.new hugeFile 3 { rem := hugeFile, sched := [1, 0, 2], eofData := false }).open).2).skipNext none
      (2 ^ 63 - 1)).1 = .error (.e .other) := by decide +kernel

end SST.C04Buf
