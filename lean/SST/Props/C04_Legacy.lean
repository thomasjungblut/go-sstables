/-
C04, legacy part — the recordio file versions 1, 2 and 3 as the library still reads them
(`recordio/common_reader.go`, `file_reader.go`, `mmap_reader.go`), against reference encoders of the three layouts
(SST/Model/RecordIOLegacy.lean; confirmed byte for byte against /repo/recordio/test_files/v{1,2,3}_compat).
Property theorems; the lemmas they cite are in SST/Proofs/RecordIOLegacy.lean, RecordIOLegacySeek.lean and
SeekScan.lean.

Parameters: `en` = does the compressor's `Decompress` hand back nil (snappy) or an empty slice (gzip, lzw) for an
empty result; `v` = file version; `c` = the compressor (`none` = uncompressed), `comps ct` = the compressor the
file header's code `ct` selects; `backL en v c r` = what reading the written record `r` hands back.
-/
import SST.Proofs.RecordIOLegacySeek
namespace SST.C04.Legacy
open SST Generated SST.Legacy SST.Buf

/-- `FileReader.Open` + `ReadNext` until the first error, on a file of ANY supported version (1, 2, 3, 4) holding
the records `rs`: exactly the records — nil as the version can express it — then `io.EOF`. -/
theorem legacy_seq_roundtrip (en : Bool) (comps : Nat → Compression) (v ct : Nat) (c : Compression)
    (rs : List GoBytes) (hv : Proofs.Legacy.IsVersion v) (hct : ct ≤ maxCompression) (hc : comps ct = c)
    (hl : LawfulC c) (hf : ∀ r ∈ rs, FitsL c r) :
    openReadAllL en comps (encFileL v c ct rs) = (rs.map (backL en v c), .eof) :=
  Proofs.Legacy.legacy_seq_roundtrip en comps v ct c rs hv hct hc hl hf

/-- `MMapReader.ReadNextAt` (`readNextAtV1/V2/V3`, version 4 inline) at the offset at which record `k` starts
returns record `k`. -/
theorem legacy_readAt_offset (en : Bool) (v ct : Nat) (c : Compression) (rs : List GoBytes) (k : Nat)
    (hk : k < rs.length) (hv : Proofs.Legacy.IsVersion v) (hl : LawfulC c) (hf : ∀ r ∈ rs, FitsL c r) :
    readAtL en v c (encFileL v c ct rs) (offsetOfL v c rs k) = .ok (backL en v c rs[k]) :=
  Proofs.Legacy.legacy_readAt_offset en v ct c rs k hk hv hl hf

/-- `SkipNextV1/V2/V3` (and V4) move the reader exactly as far as `readNextV1/V2/V3` do. -/
theorem legacy_skip_eq_read_discard (en : Bool) (v : Nat) (hv : Proofs.Legacy.IsVersion v) (c : Compression)
    (r : GoBytes) (rest : Bytes) (hl : LawfulC c) (hf : FitsL c r) :
    skipNextL v c (encRecordL v c r ++ rest) = .ok (encRecordL v c r).length ∧
    readNextL en v c (encRecordL v c r ++ rest) = .ok (backL en v c r, (encRecordL v c r).length) :=
  Proofs.Legacy.legacy_skip_eq_read_discard en v hv c r rest hl hf

/-- nil and empty records.  Version 3 has the nil flag and keeps them apart.  Versions 1 and 2 have no nil flag:
the FILE is the same for a nil and an empty record; version 2 (`readNextV2` copies into a fresh buffer) hands back
the empty slice for both; so does version 1 unless the compressor's `Decompress` returns nil for an empty result
(snappy), in which case version 1 — which returns the decompressor's slice as it is — hands back nil for BOTH. -/
theorem legacy_nil_empty (en : Bool) (c : Compression) :
    (backL en 3 c none = none ∧ backL en 3 c (some []) = some []) ∧
    (∀ v, v = 1 ∨ v = 2 → encRecordL v c none = encRecordL v c (some [])) ∧
    (backL en 2 c none = some [] ∧ backL en 2 c (some []) = some []) ∧
    (backL false 1 c none = some [] ∧ backL false 1 c (some []) = some []) ∧
    (backL en 1 none none = some [] ∧ backL en 1 none (some []) = some []) ∧
    (∀ cc : Comp, backL true 1 (some cc) (some []) = none ∧ backL true 1 (some cc) none = none) :=
  ⟨Proofs.Legacy.legacy_nil_empty_v3 en c, fun v hv => Proofs.Legacy.legacy_nil_empty_enc v hv c,
   Proofs.Legacy.legacy_nil_empty_v2 en c, Proofs.Legacy.legacy_nil_empty_v1 c,
   Proofs.Legacy.legacy_nil_empty_v1_plain en, Proofs.Legacy.legacy_nil_empty_v1_emptyNil⟩

/-- versions 2 and 3: a tail of zero bytes (direct-I/O block padding) reads as `io.EOF` (`readNextV2/V3`: magic
number mismatch, then "is everything that is left zero?"). -/
theorem legacy_zero_tail (en : Bool) (v : Nat) (hv : v = 2 ∨ v = 3) (c : Compression) (n : Nat) :
    readNextL en v c (List.replicate n 0) = .error .eof :=
  Proofs.Legacy.legacy_zero_tail en v hv c n

/-- version 1 has NO such rule (`readNextV1` returns the `MagicNumberMismatchErr` of `readRecordHeaderV1`): 20
or more zero bytes are a magic-number mismatch, 1 to 19 a truncated header (`io.ErrUnexpectedEOF` of
`io.ReadFull`). -/
theorem legacy_zero_tail_v1 (en : Bool) (c : Compression) :
    (∀ n, readNextL en 1 c (List.replicate (n + 20) 0) = .error .magic) ∧
    (∀ n, 0 < n → n < 20 → readNextL en 1 c (List.replicate n 0) = .error .unexpectedEof) :=
  ⟨Proofs.Legacy.legacy_zero_tail_v1 en c, Proofs.Legacy.legacy_zero_tail_v1_short en c⟩

/-- the scan of `SeekNext` as coded (4 KiB windows, three marker bytes, a trial `ReadNextAt` at every marker) over
ANY trial reader `rd` that does not accept the bare marker at the very end of the file: the FIRST position at or
after `off` where the marker stands and the trial read succeeds, `io.EOF` if there is none — for every file
content and every offset up to the length of the file. -/
theorem seekNextG_spec (rd : Nat → Except Err GoBytes) (file : Bytes) (ht : Proofs.Legacy.TailSafe rd file)
    (off : Nat) (hoff : off ≤ file.length) :
    match seekNextG rd file off with
    | .ok (p, r) => off ≤ p ∧ MarkerAtL file p ∧ rd p = .ok r ∧ ∀ q, off ≤ q → q < p → ¬ ValidAtG rd file q
    | .error e => e = .eof ∧ ∀ q, off ≤ q → ¬ ValidAtG rd file q :=
  Proofs.Legacy.seekNextG_spec rd file ht off hoff

/-- `TailSafe` is the weakest hypothesis on the trial reader under which that specification holds at every offset
(the scan gives up without a trial read when its three-byte match runs into the end of the file); every
`ReadNextAt` of the library satisfies it, whatever the file version. -/
theorem tailSafe_weakest (rd : Nat → Except Err GoBytes) (file : Bytes) :
    (Proofs.Legacy.TailSafe rd file ↔
      ∀ off, off ≤ file.length → Proofs.Legacy.SeekPostG rd file off (seekNextG rd file off)) ∧
    (∀ en v c, Proofs.Legacy.TailSafe (readAtL en v c file) file) :=
  ⟨Proofs.Legacy.tailSafe_iff_spec rd file, fun en v c => Proofs.Legacy.tailSafe_readAtL en v c file⟩

/-- the generic scan with the version 4 trial reader IS the version 4 model of `SeekNext` (`SST.seekNext`,
`C04.seekNext_spec`). -/
theorem seekNextG_v4 (c : Compression) (file : Bytes) (off : Nat) :
    seekNextG (readAt c file) file off = seekNext c file off :=
  Proofs.Legacy.seekNextG_v4 c file off

/-- `SeekNext` on a file of version 2 or 3 (any version from 2 on): the first position at or after `off` where
the marker stands and `readNextAtV2/V3` succeeds.  Without a header checksum "succeeds" is weak: the bytes after
the marker parse as varints and the announced payload fits into the file (and decompresses). -/
theorem legacy_seekNext_spec (en : Bool) (v : Nat) (hv : 2 ≤ v) (c : Compression) (file : Bytes) (off : Nat)
    (hoff : off ≤ file.length) :
    match seekNextL en v c file off with
    | .ok (p, r) => off ≤ p ∧ MarkerAtL file p ∧ readAtL en v c file p = .ok r ∧
        ∀ q, off ≤ q → q < p → ¬ ValidAtG (readAtL en v c file) file q
    | .error e => e = .eof ∧ ∀ q, off ≤ q → ¬ ValidAtG (readAtL en v c file) file q := by
  rw [Proofs.Legacy.seekNextL_ge2 en v hv]
  exact seekNextG_spec _ file (Proofs.Legacy.tailSafe_readAtL en v c file) off hoff

/-- `SeekNext` refuses files of version 1 ("unsupported on files with version lower than v2"). -/
theorem legacy_seekNext_v1_unsupported (en : Bool) (c : Compression) (file : Bytes) (off : Nat) :
    seekNextL en 1 c file off = .error .other := by
  simp [seekNextL]

/-- on a written file of version 2 or 3 (or 4) in which a trial read succeeds nowhere but at a record start
(`NoPhantomL`), `SeekNext` from any byte offset returns the first record that starts at or after that offset,
or `io.EOF` when there is none. -/
theorem legacy_seekNext_first_record (en : Bool) (v ct : Nat) (hv : Proofs.Legacy.IsVersion v) (hv2 : 2 ≤ v)
    (c : Compression) (rs : List GoBytes) (hl : LawfulC c) (hf : ∀ r ∈ rs, FitsL c r)
    (hnp : NoPhantomL en v c ct rs) (off : Nat) (hoff : off ≤ (encFileL v c ct rs).length) :
    match seekNextL en v c (encFileL v c ct rs) off with
    | .ok (p, r) => ∃ k, ∃ hk : k < rs.length, p = offsetOfL v c rs k ∧ r = backL en v c rs[k] ∧ off ≤ p ∧
        ∀ j, j < k → offsetOfL v c rs j < off
    | .error e => e = .eof ∧ ∀ k, k < rs.length → offsetOfL v c rs k < off := by
  rw [Proofs.Legacy.seekNextL_ge2 en v hv2]
  exact (Proofs.Legacy.isFramingL en hv c).seek_first_record hl (Proofs.Legacy.encRecordL_marker v hv2 c)
    (fileHeader v ct) rs hf (Proofs.Legacy.tailSafe_readAtL en v c _) hnp off hoff

/-- `NoPhantomL` is a real restriction on legacy files: the version 3 file with the single record
`91 8d 4c 00 01 00 7a` (21 bytes, the record starts at offset 8).  `SeekNext(9)` returns offset 14 — the middle
of the payload — and the "record" `7a`, which nobody wrote: marker, nil flag 0, length 1, compressed length 0,
and one more byte is all a version 3 header needs.  The same on version 2; the version 4 reader is immune on
the analogous file (the embedded header has no valid checksum) and reports `io.EOF`. -/
theorem legacy_seekNext_phantom :
    (seekNextL false 3 none Proofs.Legacy.phantomV3 9 = .ok (14, some [0x7a]) ∧
      offsetOfL 3 none [some [0x91, 0x8d, 0x4c, 0, 1, 0, 0x7a]] 0 = 8 ∧
      Proofs.Legacy.phantomV3.length = 21 ∧
      ¬ NoPhantomL false 3 none 0 [some [0x91, 0x8d, 0x4c, 0, 1, 0, 0x7a]]) ∧
    seekNextL false 2 none Proofs.Legacy.phantomV2 9 = .ok (13, some [0x7a]) ∧
    seekNext none Proofs.Legacy.phantomV4 9 = .error .eof :=
  ⟨Proofs.Legacy.legacy_seekNext_phantom, by decide +kernel, by decide +kernel⟩

/-- /repo/recordio/test_files/v1_compat/recordio_UncompressedSingleRecord (41 bytes) -/
def repoV1Single : Bytes :=
  [1, 0, 0, 0, 0, 0, 0, 0, 0x91, 0x06, 0x13, 0x00, 0x0d, 0, 0, 0, 0, 0, 0, 0, 0, 0, 0, 0, 0, 0, 0, 0,
   0, 1, 2, 3, 4, 5, 6, 7, 8, 9, 10, 11, 12]

/-- /repo/recordio/test_files/v2_compat/recordio_UncompressedSingleRecord (26 bytes) -/
def repoV2Single : Bytes :=
  [2, 0, 0, 0, 0, 0, 0, 0, 0x91, 0x8d, 0x4c, 0x0d, 0, 0, 1, 2, 3, 4, 5, 6, 7, 8, 9, 10, 11, 12]

/-- /repo/recordio/test_files/v3_compat/recordio_UncompressedSingleRecord (27 bytes) -/
def repoV3Single : Bytes :=
  [3, 0, 0, 0, 0, 0, 0, 0, 0x91, 0x8d, 0x4c, 0, 0x0d, 0, 0, 1, 2, 3, 4, 5, 6, 7, 8, 9, 10, 11, 12]

/-- /repo/recordio/test_files/v3_compat/recordio_UncompressedNilAndEmptyRecord (20 bytes) -/
def repoV3NilEmpty : Bytes :=
  [3, 0, 0, 0, 0, 0, 0, 0, 0x91, 0x8d, 0x4c, 1, 0, 0, 0x91, 0x8d, 0x4c, 0, 0, 0]

/-- /repo/recordio/test_files/v3_compat/recordio_UncompressedMagicNumberContent (35 bytes) -/
def repoV3Magic : Bytes :=
  [3, 0, 0, 0, 0, 0, 0, 0, 0x91, 0x8d, 0x4c, 0, 3, 0, 0x91, 0x8d, 0x4c, 0x91, 0x8d, 0x4c, 0, 3, 0, 0x15, 8, 0x17,
   0x91, 0x8d, 0x4c, 0, 3, 0, 0x91, 0x8d, 0x4c]

/-- the first 40 bytes of /repo/recordio/test_files/v2_compat/recordio_UncompressedSingleRecord_directio
(the remaining 4056 bytes of the 4096-byte file are zero as well; `…_directio_trailer` starts with the same 40
bytes but has non-zero bytes at offsets 1024–1025: its test expects `MagicNumberMismatchErr`) -/
def repoV2DirectIOHead : Bytes :=
  [2, 0, 0, 0, 0, 0, 0, 0, 0x91, 0x8d, 0x4c, 4, 0, 0x0d, 0x06, 0x1d, 0x07] ++ List.replicate 23 0

def thirteen : Bytes := [0, 1, 2, 3, 4, 5, 6, 7, 8, 9, 10, 11, 12]

example : repoV1Single = encFileV1 none 0 [some thirteen] := by decide +kernel
example : repoV2Single = encFileV2 none 0 [some thirteen] := by decide +kernel
example : repoV3Single = encFileV3 none 0 [some thirteen] := by decide +kernel
example : repoV3NilEmpty = encFileV3 none 0 [none, some []] := by decide +kernel
example : repoV3Magic =
    encFileV3 none 0 [some [0x91, 0x8d, 0x4c], some [0x15, 8, 0x17], some [0x91, 0x8d, 0x4c]] := by decide +kernel

example : openReadAllL false (fun _ => none) repoV1Single = ([some thirteen], .eof) := by decide +kernel
example : openReadAllL false (fun _ => none) repoV2Single = ([some thirteen], .eof) := by decide +kernel
example : openReadAllL false (fun _ => none) repoV3Single = ([some thirteen], .eof) := by decide +kernel
example : openReadAllL false (fun _ => none) repoV3NilEmpty = ([none, some []], .eof) := by decide +kernel
example : openReadAllL false (fun _ => none) repoV3Magic =
    ([some [0x91, 0x8d, 0x4c], some [0x15, 8, 0x17], some [0x91, 0x8d, 0x4c]], .eof) := by decide +kernel

/-- the direct-I/O file: one record, then the zero padding reads as end-of-file -/
example : openReadAllL false (fun _ => none) repoV2DirectIOHead = ([some [0x0d, 0x06, 0x1d, 0x07]], .eof) := by
  decide +kernel

/-- random access and `SkipNext` on the repository's files -/
example : readAtL false 1 none repoV1Single 8 = .ok (some thirteen) := by decide +kernel
example : readAtL false 2 none repoV2Single 8 = .ok (some thirteen) := by decide +kernel
example : readAtL false 3 none repoV3NilEmpty 8 = .ok none ∧
    readAtL false 3 none repoV3NilEmpty 14 = .ok (some []) := by decide +kernel
example : skipNextL 1 none (repoV1Single.drop 8) = .ok 33 ∧ skipNextL 2 none (repoV2Single.drop 8) = .ok 18 ∧
    skipNextL 3 none (repoV3NilEmpty.drop 8) = .ok 6 := by decide +kernel

/-- the repository's "magic number content" file has markers inside its payloads but no phantom: the bytes after
an embedded marker announce a payload (9741 bytes) that does not fit, so `SeekNext` from inside the first record
lands on the second one, and from inside the last record on `io.EOF` -/
example : seekNextL false 3 none repoV3Magic 9 = .ok (17, some [0x15, 8, 0x17]) ∧
    seekNextL false 3 none repoV3Magic 18 = .ok (26, some [0x91, 0x8d, 0x4c]) ∧
    seekNextL false 3 none repoV3Magic 27 = .error .eof ∧
    seekNextL false 1 none repoV1Single 8 = .error .other := by decide +kernel

/-- the hypotheses of the round-trip theorems are met by concrete records -/
example : FitsL none (some thirteen) ∧ FitsL none none ∧ LawfulC none ∧ Proofs.Legacy.IsVersion 1 ∧
    Proofs.Legacy.IsVersion 3 := by
  refine ⟨by decide, by decide, trivial, by unfold Proofs.Legacy.IsVersion; omega,
    by unfold Proofs.Legacy.IsVersion; omega⟩

/-- `NoPhantomL` is satisfiable: the version 3 file with the nil and the empty record -/
example : NoPhantomL false 3 none 0 [none, some []] := by
  intro p hv
  have hlen : (encFileL 3 none 0 [none, some []]).length = 20 := by decide +kernel
  have hm := Proofs.Legacy.markerAtL_len _ p hv.1
  have h8 : offsetOfL 3 none [none, some []] 0 = 8 := by decide +kernel
  have h14 : offsetOfL 3 none [none, some []] 1 = 14 := by decide +kernel
  have hp : p < 18 := by omega
  have key : ∀ q, q < 18 → q ≠ 8 → q ≠ 14 →
      ¬ ((encFileL 3 none 0 [none, some []]).drop q).take magicBytes.length = magicBytes := by decide +kernel
  by_cases e8 : p = 8
  · exact ⟨0, by simp, by omega⟩
  by_cases e14 : p = 14
  · exact ⟨1, by simp, by omega⟩
  exact absurd hv.1 (key p hp e8 e14)

/-- a toy lawful compressor (one byte in front), to exercise the compressed paths -/
def toyComp : Comp := ⟨fun x => 0x2a :: x, fun | _ :: t => some t | [] => none⟩

example : LawfulC (some toyComp) := fun _ => rfl

/-- a compressed version 1 file read with a nil-returning decompressor: the empty AND the nil record come back nil;
with an empty-slice-returning one both come back empty; version 2 and 3 do not depend on it -/
example :
    openReadAllL true (fun _ => some toyComp) (encFileV1 (some toyComp) 1 [some [], none, some [7]]) =
      ([none, none, some [7]], .eof) ∧
    openReadAllL false (fun _ => some toyComp) (encFileV1 (some toyComp) 1 [some [], none, some [7]]) =
      ([some [], some [], some [7]], .eof) ∧
    openReadAllL true (fun _ => some toyComp) (encFileV2 (some toyComp) 1 [some [], none, some [7]]) =
      ([some [], some [], some [7]], .eof) ∧
    openReadAllL true (fun _ => some toyComp) (encFileV3 (some toyComp) 1 [some [], none, some [7]]) =
      ([some [], none, some [7]], .eof) := by decide +kernel

end SST.C04.Legacy
