/-
C07 — WAL replay yields the appended records in order; synced appends survive a kill.
Property theorems only; the lemmas live in SST/Proofs/{BufW,WalEvents,WalReplay,Wal}.lean.

Model (SST/Model/Wal.lean): the vendored buffered writer as coded (`BufW`), the recordio file writer over
it (`FW`), the appender (`Wal.append/rotate/close`, size rule `Size() + len(record) > max` before the write,
one-million-files guard after the close), the file-system events every call issues (`create`, one `write`
per chunk the buffered writer hands down, `fsync`, `close`), and the replayer (`replay`: `*.wal` names
sorted as strings, per file `Open` + `ReadNext`; in the LAST file a missing/short header means "empty" and an
unexpected EOF means "torn final record").

Quantifiers: ALL maximum file sizes, buffer sizes (0 included), compression codes with ANY lawful compressor,
ALL programs over Append/AppendSync/Rotate (nil, empty, larger-than-limit, larger-than-buffer records), and
ALL kill points = numbers of file-system events that have happened.
-/
import SST.Proofs.Wal
namespace SST.C07
open SST Generated

/-! ## the buffered writer (also used by C04 and C13) -/

/-- Non-aligned mode (the writer `FW.open` creates; an aligned `Flush` pads with zeros).  For every buffer size
(0 and 1 included) and every sequence of `Write`/`Flush`: what was handed to the underlying writer, followed by
what is still buffered, is exactly what was written. -/
theorem bufw_transparent (size : Nat) (ops : List BufOp) :
    ((BufW.init size).run ops).2.flatten ++ ((BufW.init size).run ops).1.buf = BufOp.logical ops := by
  have := Proofs.run_transp (BufW.init size) ops rfl
  simpa [BufW.init] using this

/-- Non-aligned mode as well.  Every chunk boundary lies at a prefix of the logical stream (a kill between two
`write` calls leaves a byte prefix), and after a `Flush` the buffer is empty and the whole stream has been handed
down. -/
theorem bufw_flush_boundaries (size : Nat) (ops : List BufOp) :
    (∀ k, (((BufW.init size).run ops).2.take k).flatten <+: BufOp.logical ops) ∧
    ((BufW.init size).run (ops ++ [.flush])).1.buf = [] ∧
    ((BufW.init size).run (ops ++ [.flush])).2.flatten = BufOp.logical ops := by
  refine ⟨fun k => ?_, ?_⟩
  · have := Proofs.run_prefix (BufW.init size) ops rfl k
    simpa [BufW.init] using this
  · have := Proofs.run_then_flush (BufW.init size) ops rfl
    simpa [BufW.init] using this

/-- The `for len(p) > b.Available()` loop ends within three iterations (the model's fuel is never the reason
it stops): when the modelled loop returns, the rest of `p` fits the buffer. -/
theorem bufw_loop_terminates (b : BufW) (p : Bytes) :
    (BufW.writeLoop BufW.loopFuel b p []).2.1.length ≤ (BufW.writeLoop BufW.loopFuel b p []).1.avail :=
  Proofs.writeLoop_done b p

/-- Aligned (direct-I/O) mode, no single write longer than the buffer: every chunk handed to the file is
exactly one buffer long (full, or zero-padded by `Flush`).  (A write longer than the buffer arriving at an
empty buffer bypasses it and is handed down unaligned: see `bufw_aligned_bypass`.) -/
theorem bufw_aligned (size : Nat) (ops : List BufOp) (hp : ∀ p, BufOp.write p ∈ ops → p.length ≤ size) :
    ∀ ch ∈ ((BufW.init size true).run ops).2, ch.length = size :=
  Proofs.run_aligned_len (BufW.init size true) ops rfl (by simp [BufW.init]) hp

/-- witness for the side condition of `bufw_aligned`: a 5-byte write into an empty 4-byte aligned buffer is
handed down as one unaligned 5-byte chunk -/
theorem bufw_aligned_bypass :
    ((BufW.init 4 true).run [.write [1, 2, 3, 4, 5]]).2 = [[1, 2, 3, 4, 5]] := by decide

/-- `replay_eq_appends`: for every configuration and every program, the directory left by the program and
`Close` replays without error to exactly the records whose append returned without error, in order.
(`walRecords` = all records of the program unless the one-million-files guard fired:
`replay_eq_appends_all`.) -/
theorem replay_eq_appends (o : WalOpts) (c : Compression) (cOf : Nat → Compression)
    (hra : ReaderAgrees cOf o c) (hl : LawfulC c) (prog : List WalOp) (hpf : ProgFits c prog) :
    replay cOf (dirOf o c prog) = (walRecords o c prog, none) :=
  Proofs.replay_eq_appends o c cOf hra hl prog hpf

/-- ... and with fewer than 999 999 operations (every operation opens at most one file, so fewer than one
million files) no call fails and replay delivers every record of the program. -/
theorem replay_eq_appends_all (o : WalOpts) (c : Compression) (cOf : Nat → Compression)
    (hra : ReaderAgrees cOf o c) (hl : LawfulC c) (prog : List WalOp) (hpf : ProgFits c prog)
    (hlen : prog.length < maxWalFiles - 1) :
    NoGuard o c prog ∧ replay cOf (dirOf o c prog) = (progRecords prog, none) := by
  obtain ⟨h1, h2⟩ := Proofs.noGuard_of_short o c prog (Nat.lt_of_lt_of_le hlen (Nat.sub_le _ _))
  exact ⟨h1, h2 ▸ replay_eq_appends o c cOf hra hl prog hpf⟩

/-- The guard as coded: the rotation that would create file number 1 000 000 fails AFTER flushing and closing the
current file (these are all its events); the appender is then unusable (`dead`). -/
theorem million_guard (o : WalOpts) (w : Wal) (hd : w.dead = false) (hn : w.next ≥ maxWalFiles) :
    (w.rotate o).2.2 = some .other ∧ (w.rotate o).1.dead = true ∧
    (w.rotate o).2.1 = w.fw.flush.2.map (.write w.num) ++ [.close w.num] := by
  rw [Proofs.rotate_eq, if_neg (by simp [hd]), if_pos hn]
  exact ⟨rfl, rfl, rfl⟩

/-- `sync_is_durable`: an `AppendSync r` that returns without error has, in this order, issued `write`s to
the file the record went to that end with all bytes of the encoded record, then an `fsync` of that file as
its LAST event; nothing of the record is left in the buffer.  (`hna`: the writer is not in direct-I/O mode, as is
every writer `FW.open` creates; the real `WriteSync` refuses a direct-I/O writer.) -/
theorem sync_is_durable (o : WalOpts) (c : Compression) (w : Wal) (r : GoBytes)
    (hna : w.fw.w.aligned = false) (hok : (w.append o c true r).2.2 = none) :
    ∃ evs0 pre, (w.append o c true r).2.1 = evs0 ++ [.fsync (w.append o c true r).1.num] ∧
      bytesWritten (w.append o c true r).1.num evs0 = pre ++ encRecord c r ∧
      (w.append o c true r).1.fw.w.buf = [] :=
  Proofs.sync_is_durable o c w r hna hok

/-- `replay_after_crash`: kill the process after ANY number `n` of file-system events of the run (the events
of `NewAppender`, of every operation and of the final `Close`; `n` past the end = no kill): the replayer
succeeds on what is on disk, delivers a prefix of the appended records, and this prefix contains every record
appended up to the last `AppendSync` that had returned within the first `n` events. -/
theorem replay_after_crash (o : WalOpts) (c : Compression) (cOf : Nat → Compression)
    (hra : ReaderAgrees cOf o c) (hl : LawfulC c) (prog : List WalOp) (hpf : ProgFits c prog) (n : Nat) :
    ∃ rs, replay cOf (dirAfter ((walEventsClosed o c prog).take n)) = (rs, none) ∧
      rs <+: walRecords o c prog ∧
      (walRecords o c prog).take (durableWithin o c prog n) <+: rs :=
  Proofs.replay_after_crash o c cOf hra hl prog hpf n

/-- Ingredient "only the last file can be incomplete", as a statement of its own: after any number of
events the directory is empty, or holds files `0 .. j-1` complete and a byte prefix of file `j`. -/
theorem crash_image_shape (o : WalOpts) (c : Compression) (cOf : Nat → Compression)
    (hra : ReaderAgrees cOf o c) (hl : LawfulC c) (prog : List WalOp) (hpf : ProgFits c prog) (n : Nat) :
    ∃ full : List (List GoBytes), full.flatten = walRecords o c prog ∧
      Img (fileOf c o.ct full) full.length (dirAfterN ((walEventsClosed o c prog).take n)) := by
  have _ := hra; have _ := hl; have _ := hpf  -- not used: no reader occurs in the statement
  exact Proofs.crash_image_shape_any o c prog n

/-- Ingredient: below the guard, Go's string order on `%06d.wal` names is the order of the file numbers. -/
theorem names_sorted (a b : Nat) (ha : a < maxWalFiles) (hb : b < maxWalFiles) :
    bytesLt (walName a) (walName b) = decide (a < b) :=
  Proofs.walName_lt a b ha hb

/-! ## non-vacuity -/

/-- an uncompressed log: the reader's choice agrees with the writer's -/
example : ReaderAgrees (fun _ => none) { maxSize := 20, bufSize := 5, ct := 0 } none :=
  ⟨rfl, by decide⟩

/-- a program with a nil record, an empty record, a record larger than the limit and the buffer, a rotation -/
example : ProgFits none [.append none, .appendSync (some []), .rotate,
    .appendSync (some (List.replicate 40 7)), .append (some [1])] := by
  intro op hop
  simp only [List.mem_cons, List.not_mem_nil, or_false] at hop
  rcases hop with rfl | rfl | rfl | rfl | rfl <;> simp [OpFits, FitsRec, clenOf]

/-- `durableWithin` is not trivially 0, and a kill before the sync returns guarantees nothing yet:
`NewAppender` = 2 events, `AppendSync [1,2]` with a 5-byte buffer = write(header), write(payload), fsync. -/
example : durableWithin { maxSize := 100, bufSize := 5, ct := 0 } none
    [.appendSync (some [1, 2]), .append (some [3])] 5 = 1 := by decide +kernel
example : durableWithin { maxSize := 100, bufSize := 5, ct := 0 } none
    [.appendSync (some [1, 2]), .append (some [3])] 4 = 0 := by decide +kernel

/-- the hypothesis of `sync_is_durable` is met by the first append on a fresh log -/
example : ((Wal.init { maxSize := 100, bufSize := 5, ct := 0 }).1.append
    { maxSize := 100, bufSize := 5, ct := 0 } none true (some [1, 2])).2.2 = none := by decide

end SST.C07
