/-
C02 (synchronous WAL) — the composition step between the BYTES of the write-ahead log and the abstract disk of
L6-fs on which C02 / C10 / C13 are proved.

L6-fs (SST/Model/FS.lean) treats a log file as `WalFile = { num, header, recs : List Mutation, torn }` and recovery as
"replay `recs` of all files in order; only the last file may lack its header or end in a torn piece".
L5 (SST/Model/Wal.lean, C07) has the real bytes: recordio frames, the buffered writer's chunks, the replayer.
Here: the protobuf form of the record (`SST/Model/WalMutation.lean`: what `PutBytes`/`DeleteBytes` marshal, what
the recovery callback unmarshals and dispatches), the abstraction function `absWal` from a byte-level directory
to `List WalFile` (`SST/Spec/WalAbs.lean`), and the theorems that the abstraction commutes with recovery and with
every single file-system event of the appender.  Proofs: SST/Proofs/{WalMutation,WalAbs}.lean.
-/
import SST.Proofs.WalAbs
namespace SST.C02.WalBytes
open SST SST.FS SST.WalMut SST.WalAbs Generated
open SST.Proofs.WalMut (MutFits Loggable)
open SST.Proofs.WalAbs (DecodesMut LogOk)

/-- `Unmarshal(Marshal(WalMutation{Addition{KeyBytes k, ValueBytes v}}))`, for ALL `k`, `v` (any UTF-8 oracle):
the oneof holds an upsert with exactly the non-empty bytes fields. -/
theorem decode_encode_put (utf8 : Bytes → Bool) (k v : Bytes) (h : MutFits (.put k v)) :
    decWalMutation utf8 (encPut k v) = .ok (.add (Proofs.WalMut.upsertFields k v)) :=
  Proofs.WalMut.decode_encode_put utf8 k v h

/-- A record of `PutBytes(k, v)` (non-empty key and value: everything `PutBytes` logs) replays as `put k v`. -/
theorem replay_put (utf8 : Bytes → Bool) (k v : Bytes) (h : MutFits (.put k v)) (hk : k ≠ []) (hv : v ≠ []) :
    replayRecord utf8 (some (encPut k v)) = .ok (.mut (.put k v)) :=
  Proofs.WalMut.replay_put utf8 k v h hk hv

/-- A record of `DeleteBytes(k)` replays as `del k` for EVERY key, the empty one included (`12 00`). -/
theorem decode_encode_del (utf8 : Bytes → Bool) (k : Bytes) (h : MutFits (.del k)) :
    replayRecord utf8 (some (encDel k)) = .ok (.mut (.del k)) :=
  Proofs.WalMut.decode_encode_del utf8 k h

/-- As coded: an upsert record with a key and an EMPTY value makes the memstore reject it — `Open` fails.
(`PutBytes` validates before it logs, so the database never writes one.) -/
theorem replay_put_empty_value (utf8 : Bytes → Bool) (k : Bytes) (h : MutFits (.put k [])) (hk : k ≠ []) :
    replayRecord utf8 (some (encPut k [])) = .error .rejected := by
  unfold replayRecord
  simp only [Option.getD_some, Proofs.WalMut.decode_encode_put utf8 k [] h, dispatch,
    Proofs.WalMut.get_upsertFields, Proofs.WalMut.normKey_of_ne hk]
  rfl

/-- `replay_refines_abstract`: for EVERY directory image the appender can leave at a kill (`Img`: files
`0 .. j-1` complete, file `j` any byte prefix of its final content — exactly what `C07.crash_image_shape` admits),
EVERY lawful compressor and EVERY record content (decodable or not): recovery on the bytes — `Replayer.Replay` with
the unmarshal-and-apply callback — and recovery on the abstract files — `FS.walReadable`, `FS.walMuts` — either
both fail or both replay the same mutations in the same order. -/
theorem replay_refines_abstract (cOf : Nat → Compression) (utf8 : Bytes → Bool) (c : Compression) (ct : Nat)
    (hc : cOf ct = c) (hl : LawfulC c) (hct : ct ≤ maxCompression) (full : List (List GoBytes))
    (hf : Proofs.FitsAll c full) (hm : full.length ≤ maxWalFiles) (d : DirN)
    (hd : Img (fileOf c ct full) full.length d) :
    byteRecovery cOf utf8 d = (absWal cOf utf8 d).bind absRecovery :=
  Proofs.WalAbs.replay_refines_abstract cOf utf8 c ct hc hl hct full hf hm d hd

/-- `appender_events_refine`: for EVERY program over Append/AppendSync/Rotate whose records the callback turns
into mutations, and EVERY number `n` of byte-level file-system events (create / one write per chunk of the
buffered writer / fsync / close; the final `Close` included): the abstraction of the directory after `n` events
IS the WAL (`.wal`) of the abstract disk after the abstract events they map to (`walCreate`; `walHeader` when the
header becomes complete; one `walAppend` per record that becomes complete; `walTorn` when a piece of a further record
is in the file afterwards; `walClose`; an `fsync` maps to none). -/
theorem appender_events_refine (o : WalOpts) (c : Compression) (cOf : Nat → Compression) (utf8 : Bytes → Bool)
    (hra : ReaderAgrees cOf o c) (hl : LawfulC c) (prog : List WalOp) (hpf : ProgFits c prog)
    (hdec : ∀ r ∈ walRecords o c prog, DecodesMut utf8 r) (n : Nat) :
    absWal cOf utf8 (dirAfterN ((walEventsClosed o c prog).take n)) =
      some (applyEvs disk0 (mapEvs cOf utf8 [] ((walEventsClosed o c prog).take n))).wal :=
  Proofs.WalAbs.appender_events_refine o c cOf utf8 hra hl prog hpf hdec n

/-- the abstract events of the first `n` byte-level events are a prefix of the abstract events of the run -/
theorem abstract_events_prefix (cOf : Nat → Compression) (utf8 : Bytes → Bool) (evs : List FsEvent) (n : Nat) :
    mapEvs cOf utf8 [] (evs.take n) <+: mapEvs cOf utf8 [] evs := by
  conv => rhs; rw [← List.take_append_drop n evs, Proofs.WalAbs.mapEvs_append]
  exact List.prefix_append _ _

/-- LOGGED BEFORE ACKNOWLEDGED (the step C02's abstract model takes as `[walTorn, walAppend]` before the call
returns): for EVERY list `ms` of mutations logged synchronously (`LogOk`: what `PutBytes`/`DeleteBytes` log, lengths
fitting the 64-bit fields, fewer than `maxWalFiles - 1` of them) — hence at the return of every single call of a
session —, when the last `AppendSync` has returned the abstraction of what is on disk is a readable WAL that
holds every mutation issued so far, in order.  No `Close`, no assumption on what else sits in buffers. -/
theorem sync_log_durable (o : WalOpts) (c : Compression) (cOf : Nat → Compression) (utf8 : Bytes → Bool)
    (hra : ReaderAgrees cOf o c) (hl : LawfulC c) (ms : List Mutation) (h : LogOk c ms) :
    ∃ W, absWal cOf utf8 (dirAfterN (walEvents o c (logProg true ms))) = some W ∧
      walReadable W = true ∧ walMuts W = ms :=
  Proofs.WalAbs.sync_log_durable o c cOf utf8 hra hl ms h

/-- ... and a kill anywhere (general form, any mix of Append/AppendSync/Rotate): the abstract WAL of the image is
readable and holds a prefix of the issued mutations containing everything up to the last synchronous append that
had returned (`durableWithin`, the measure of `C07.replay_after_crash`). -/
theorem crash_image_abstract (o : WalOpts) (c : Compression) (cOf : Nat → Compression) (utf8 : Bytes → Bool)
    (hra : ReaderAgrees cOf o c) (hl : LawfulC c) (prog : List WalOp) (hpf : ProgFits c prog)
    (hdec : ∀ r ∈ walRecords o c prog, DecodesMut utf8 r) (issued : List Mutation)
    (hiss : replayRecords utf8 (walRecords o c prog) = some issued) (n : Nat) :
    ∃ W p, absWal cOf utf8 (dirAfterN ((walEventsClosed o c prog).take n)) = some W ∧
      walReadable W = true ∧ walMuts W = issued.take p ∧
      durableWithin o c prog n ≤ p ∧ p ≤ issued.length :=
  Proofs.WalAbs.crash_image_abstract o c cOf utf8 hra hl prog hpf hdec issued hiss n

/-! ## non-vacuity: a concrete two-file image with a torn last record -/

/- file 0: one upsert, complete; file 1: a tombstone and an upsert (43 bytes), cut after 30 bytes -/
def file0 : Bytes := fileBytes none 0 [some (encPut [1] [2])]
def file1 : Bytes := fileBytes none 0 [some (encDel [1]), some (encPut [3] [4])]
def image : DirN := [(0, file0), (1, file1.take 30)]

/-- the abstraction is the expected `WalFile` list: the cut record shows up as `torn` only -/
example : absWal (fun _ => none) (fun _ => true) image =
    some [{ num := 0, recs := [.put [1] [2]] }, { num := 1, recs := [.del [1]], torn := true }] := by
  decide +kernel

/-- both recoveries replay the same two mutations -/
example : byteRecovery (fun _ => none) (fun _ => true) image = some [.put [1] [2], .del [1]] := by
  decide +kernel
example : (absWal (fun _ => none) (fun _ => true) image).bind absRecovery = some [.put [1] [2], .del [1]] := by
  decide +kernel

/-- the image is one `replay_refines_abstract` speaks about -/
example : Img (fileOf none 0 [[some (encPut [1] [2])], [some (encDel [1]), some (encPut [3] [4])]]) 2 image :=
  Or.inr ⟨1, file1.take 30, by decide, List.take_prefix _ _, rfl⟩

/-- were a file cut inside a payload NOT the last one, both sides fail -/
example : byteRecovery (fun _ => none) (fun _ => true) [(0, file1.take 38), (1, file0)] = none := by
  decide +kernel
example : (absWal (fun _ => none) (fun _ => true) [(0, file1.take 38), (1, file0)]).bind absRecovery = none := by
  decide +kernel

/-- Why the refinement is stated for crash images (`Img`) and not for arbitrary damage: a NON-last file cut exactly
between two fields of a record header (here after the length fields, before the header checksum) reads as a clean
end of file — the replayer continues with the next file and the cut record is silently dropped —, whereas the
abstract model counts every leftover piece as `torn` and lets recovery fail.  No kill produces such a directory
(`C07.crash_image_shape`); here the abstract model is the stricter one (on a wrong RECORD magic number in the last
file it is the laxer one: the bytes fail, the abstraction reads a torn file). -/
theorem nonlast_cut_at_field_boundary :
    byteRecovery (fun _ => none) (fun _ => true) [(0, file1.take 30), (1, file0)] =
      some [.del [1], .put [1] [2]] ∧
    (absWal (fun _ => none) (fun _ => true) [(0, file1.take 30), (1, file0)]).bind absRecovery = none := by
  constructor <;> decide +kernel

/-- a loggable list meets `LogOk` -/
example : LogOk none [.put [1] [2], .del [], .put [3] [4]] :=
  { fits := by intro m hm; simp at hm; rcases hm with rfl | rfl | rfl <;> simp [MutFits]
    loggable := by intro m hm; simp at hm; rcases hm with rfl | rfl | rfl <;> simp [Loggable]
    frame := by
      intro m hm; simp at hm
      rcases hm with rfl | rfl | rfl <;> exact ⟨by decide +kernel, by decide⟩
    short := by decide }

end SST.C02.WalBytes
