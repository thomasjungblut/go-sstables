/-
C15 — A table holds exactly the accepted writes, ascending, with truthful metadata.
Property theorems only; helper lemmas live in SST/Proofs/SSTableWriter.lean and SSTableReader.lean.
Quantification: ALL programs of `WriteNext` calls (`cs : List Call`: arbitrary keys and values, in any
order, repeated, of any length, empty) with ANY subset of calls failing at the data append or at the
index append (`Call.fault`), any comparator, any compressors and compression codes.  Only
`closed_table_eq_accepted` and the decoding clause of `metadata_truthful` ask for more: a comparator that is
transitive on `.lt` (for "strictly ascending"), lawful compressors under codes the reader knows (`CompsOk`) and
sizes that fit the 64-bit fields (`FitsKV`) for the read-backs.
-/
import SST.Proofs.SSTableReader
namespace SST.C15
open SST Generated

/-- After any program `cs`, a fault-free call is accepted iff its key is strictly greater than the last
ACCEPTED key (or nothing has been accepted yet); otherwise it is rejected with the duplicate / non-ascending
error and leaves the writer untouched. -/
theorem writer_accepts_iff_ascending (cfg : SstCfg) (cs : List Call) (key : Bytes) (value : GoBytes) :
    let w := ((SstW.open cfg).run cfg cs).1
    let acc := accepted cfg.cmp cs
    ((w.writeNext cfg key value .none).2 = .ok ↔
      (acc = [] ∨ ∃ l, acc.getLast? = some l ∧ cfg.cmp l.1 key = .lt)) ∧
    ((w.writeNext cfg key value .none).2 ≠ .ok →
      (w.writeNext cfg key value .none).1 = w ∧
      ((w.writeNext cfg key value .none).2 = .dup ∨ (w.writeNext cfg key value .none).2 = .desc)) :=
  Proofs.Sst.writer_accepts_iff_ascending cfg cs key value

/-- A call that fails for an I/O reason (at the data append or at the index append) reports an error and
leaves the writer as if the call had not been made, in everything but the bloom filter (the key was added
before the I/O, `bloomKeys`; `bloom.bf.gz` is outside the three modelled files): the files `Close` would
produce and the metadata are unchanged, and EVERY continuation program `cs'` (in particular a retry of the
same key) gets the same answers and produces the same table and metadata. -/
theorem fault_rolled_back (cfg : SstCfg) (cs : List Call) (key : Bytes) (value : GoBytes) (f : Fault)
    (hf : f ≠ .none) (cs' : List Call) :
    let w := ((SstW.open cfg).run cfg cs).1
    let w' := (w.writeNext cfg key value f).1
    (w.writeNext cfg key value f).2 ≠ .ok ∧
    w'.close = w.close ∧ w'.finalMeta = w.finalMeta ∧
    (w'.run cfg cs').2 = (w.run cfg cs').2 ∧
    (w'.run cfg cs').1.close = (w.run cfg cs').1.close ∧
    (w'.run cfg cs').1.finalMeta = (w.run cfg cs').1.finalMeta :=
  Proofs.Sst.fault_rolled_back cfg cs key value f hf cs'

/-- Every call of a program gets the specified answer (ok / duplicate / non-ascending / I/O error). -/
theorem call_results (cfg : SstCfg) (cs : List Call) :
    ((SstW.open cfg).run cfg cs).2 = specResults cfg.cmp [] cs :=
  (Proofs.Sst.run_open_spec cfg cs).2

/-- After `Close` the three files are exactly those of the accepted pairs; the accepted pairs are strictly
ascending (comparator transitive on `.lt`); `data.rio` reads sequentially as exactly their values and
`index.rio` loads as exactly their keys (in that order) with the offset and CRC-64 of each value (lawful
compressors under known codes, sizes within the 64-bit fields). -/
theorem closed_table_eq_accepted (comps : Nat → Compression) (cfg : SstCfg) (cs : List Call)
    (htr : ∀ a b c, cfg.cmp a b = .lt → cfg.cmp b c = .lt → cfg.cmp a c = .lt)
    (hc : CompsOk comps cfg) (hf : FitsKV cfg (accepted cfg.cmp cs)) :
    StrictAsc cfg.cmp (accepted cfg.cmp cs) ∧
    ((SstW.open cfg).run cfg cs).1.close = tableOf cfg (accepted cfg.cmp cs) ∧
    readAll cfg.dc ((SstW.open cfg).run cfg cs).1.close.data = ((accepted cfg.cmp cs).map (·.2), .eof) ∧
    loadEntries comps ((SstW.open cfg).run cfg cs).1.close.index =
      .ok ((entriesOf cfg.dc (accepted cfg.cmp cs)).map fun e => (normKey e.1, e.2)) :=
  Proofs.Sst.closed_table_eq_accepted comps cfg cs htr hc hf

/-- The metadata `Close` writes is `metaOf` of the accepted pairs: their count, the number of nil values,
the first and the last accepted key, the byte sizes of `data.rio` and `index.rio` as closed and their sum;
`meta.pb.bin` is its protobuf encoding and, when the sizes fit (`FitsKV`), decodes back to it (empty keys
become nil). -/
theorem metadata_truthful (cfg : SstCfg) (cs : List Call) :
    ((SstW.open cfg).run cfg cs).1.close.metaf = encMeta ((SstW.open cfg).run cfg cs).1.finalMeta ∧
    ((SstW.open cfg).run cfg cs).1.finalMeta = metaOf cfg (accepted cfg.cmp cs) ∧
    ((SstW.open cfg).run cfg cs).1.close = tableOf cfg (accepted cfg.cmp cs) ∧
    (FitsKV cfg (accepted cfg.cmp cs) →
      decMeta ((SstW.open cfg).run cfg cs).1.close.metaf = .ok (metaOf cfg (accepted cfg.cmp cs)).norm) :=
  Proofs.Sst.metadata_truthful cfg cs

/-- what `metaOf` says, spelled out (definitional) -/
theorem metaOf_fields (cfg : SstCfg) (kvs : List KV) :
    (metaOf cfg kvs).numRecords = kvs.length ∧
    (metaOf cfg kvs).nullValues = (kvs.filter (·.2.isNone)).length ∧
    (metaOf cfg kvs).minKey = kvs.head?.map (·.1) ∧
    (metaOf cfg kvs).maxKey = kvs.getLast?.map (·.1) ∧
    (metaOf cfg kvs).dataBytes = (tableOf cfg kvs).data.length ∧
    (metaOf cfg kvs).indexBytes = (tableOf cfg kvs).index.length ∧
    (metaOf cfg kvs).totalBytes = (tableOf cfg kvs).data.length + (tableOf cfg kvs).index.length :=
  ⟨rfl, rfl, rfl, rfl, rfl, rfl, rfl⟩

/-- non-vacuity: a program with an unsorted key, a duplicate, an empty key and a fault of each kind attached (only
the `.data` fault is reached: the call carrying the `.index` fault is rejected by the order check first); the
accepted pairs are the ones the property names -/
example : accepted bytesCmp
    [⟨[5], some [1], .none⟩, ⟨[1], none, .index⟩, ⟨[5], some [], .none⟩, ⟨[9], none, .data⟩,
     ⟨[], some [2], .none⟩, ⟨[9], none, .none⟩] = [([5], some [1]), ([9], none)] := by decide

example : bytesCmp [5] [9] = .lt := by decide

/-- the hypotheses of `closed_table_eq_accepted` are satisfiable: no compression, and the sizes of the
accepted pairs of the program above fit -/
example : CompsOk plainComps plainCfg := ⟨rfl, rfl, trivial, trivial, by decide, by decide⟩

example : FitsKV plainCfg [([5], some [1]), ([9], none)] := by
  unfold FitsKV
  exact ⟨by decide +kernel, by decide +kernel, by decide +kernel⟩

end SST.C15
