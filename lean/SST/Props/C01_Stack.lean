/-
L7 ("stack") — the FORMAL COMPOSITION of the layers: SimpleDB built from the byte-level table writer and reader
(C03, C15), the merge iterator and reducers (C08), the memstore on the skip list (C14) refines the layer
model `DBM` of C01/C06/C17 step by step, hence the reference map.  Strengthens C01 (`db_refines_map`) from abstract
layers to the bytes of `index.rio`, `data.rio`, `meta.pb.bin`; C06 (`compact_preserves_reads`) and C17 (rejected
calls) are statements about `DBM`, which the stack follows step by step, and are not restated for the stack here.

Model: SST/Model/Stack.lean.  Relation and hypotheses: SST/Spec/Stack.lean.  Lemmas: SST/Proofs/Stack*.lean.
Quantification: ALL step lists (client programs of Put/Delete/Get/Close/re-Open in both API flavours, valid and
rejected, interleaved with ANY placement of rotations, flush completions and compaction cycles), ALL skip-list
node heights ≥ 1, ALL options per session (threshold, max size, ratio), ALL lawful compressors and bloom
filters without false negatives.  Hypotheses, explicit: `ParamsOk` (laws of the external code) and `RunOk`
(heights ≥ 1; every table a step writes fits the 64-bit fields of the formats — `FitsKV`, always true of real
slices); I/O is fault-free (`Fault.none` in every `WriteNext`).
-/
import SST.Proofs.StackSim
import SST.Proofs.StackLoops
import SST.Props.C01
namespace SST.StackRefine
open SST SST.Stack SST.DBM SST.Proofs.Stack Generated

theorem rel_initial (P : Params) : Rel P ({} : Stack.State) ({} : DBM.State) := rel_init P

/-- ONE STEP.  From related states, any step of the byte-level stack (with its node height and with sizes
that fit) does not fail, returns exactly the client-visible result of the layer step it stands for, selects
the same tables (compaction) and leads to related states: each memstore's reference map is the layer, each
live table's three files are `tableOf` a strictly ascending list holding the layer table's cells, its open
reader answers as that list's sorted map and carries truthful metadata; generation, flags, options equal. -/
theorem stack_step_refines_layers (P : Params) (hP : ParamsOk P) (c : Stack.State) (s : DBM.State)
    (h : Rel P c s) (st : Stack.Step) (hok : StepOk P c st) :
    ∃ c', Stack.step P c st =
        .ok (c', (DBM.step s (absStep c st)).2.1.map SRes.db, (DBM.step s (absStep c st)).2.2) ∧
      Rel P c' (DBM.step s (absStep c st)).1 :=
  step_sim hP h st hok

/-- MAIN THEOREM 1 — the concrete stack refines the layer model: for EVERY step list meeting `RunOk` the run of the
byte-level stack from the initial state never fails, and its outputs (client results, selected table numbers) are
exactly the outputs of the layer model `DBM` on the corresponding layer program (`absSteps`: heights forgotten,
a compaction given the `TotalBytes` the tables' metadata report); the final states are related. -/
theorem stack_refines_layers (P : Params) (hP : ParamsOk P) (steps : List Stack.Step)
    (hok : RunOk P {} steps) :
    Stack.run P {} steps = ((DBM.run {} (absSteps P {} steps)).map liftOut, none) ∧
    ∃ c', Stack.runState P {} steps = .ok c' ∧ Rel P c' (DBM.runState {} (absSteps P {} steps)) :=
  run_sim hP steps {} {} (rel_init P) hok

/-- MAIN THEOREM 2 — by `C01.db_refines_map`: every client call of the concrete byte-level stack returns what
the reference map returns (`specRun`: a map with open/closed flags; flushes, rotations, compactions do
nothing), whatever the schedule of background work, the node heights, the table sizes and the options. -/
theorem stack_refines_map (P : Params) (hP : ParamsOk P) (steps : List Stack.Step)
    (hok : RunOk P {} steps) :
    (Stack.run P {} steps).2 = none ∧
    (Stack.run P {} steps).1.map (·.1) = (specRun {} (steps.map specOf)).map (Option.map SRes.db) := by
  obtain ⟨h, _⟩ := stack_refines_layers P hP steps hok
  rw [h]
  refine ⟨rfl, ?_⟩
  rw [← specRun_abs P steps {} {}, ← C01.db_refines_map, List.map_map, List.map_map]
  rfl

/-- NO STEP FAILS (C01's last clause).  From the initial state, for every step list — valid or rejected client
calls, rotations, flush completions, compaction cycles under any options, close / re-open — under the explicit
hypotheses (lawful compressors, bloom filter without false negatives, heights ≥ 1, sizes fit 64 bits,
fault-free I/O) NO step returns an error, where the model's step can fail for these causes of the code's:
`NewSSTableStreamWriter` rejects its options (bloom size 0: the flush of an empty store is skipped, the
compaction raises 0 to 1), a `WriteNext` of a flush or compaction is rejected (duplicate / non-ascending key),
the merge fails, a written table does not load again (`NewSSTableReader` incl. verify-on-load: every stored
checksum is compared with the CRC-64 of the value read back), a table does not load at re-open, or a memstore
iterator hits a wild pointer.  Moreover every client result is a result of the reference vocabulary: no
read ever reports an I/O error, no memstore call an error or a panic. -/
theorem stack_no_step_fails (P : Params) (hP : ParamsOk P) (steps : List Stack.Step)
    (hok : RunOk P {} steps) :
    (Stack.run P {} steps).2 = none ∧ (Stack.run P {} steps).1.length = steps.length ∧
    (∀ o ∈ (Stack.run P {} steps).1, ∀ r, o.1 = some r → ∃ d, r = SRes.db d) ∧
    ∀ (pre post : List Stack.Step) (st : Stack.Step), steps = pre ++ st :: post →
      ∃ c out, Stack.runState P {} pre = .ok c ∧ Stack.step P c st = .ok out := by
  obtain ⟨h, _⟩ := stack_refines_layers P hP steps hok
  refine ⟨(stack_refines_map P hP steps hok).1, ?_, ?_, ?_⟩
  · rw [h, List.length_map]
    exact run_abs_length P steps {} {}
  · rw [h]
    intro o ho r hr
    obtain ⟨o', _, rfl⟩ := List.mem_map.mp ho
    obtain ⟨d, _, hd⟩ := Option.map_eq_some_iff.mp hr
    exact ⟨d, hd.symm⟩
  · rintro pre post st rfl
    exact run_reaches hP pre {} {} (rel_init P) hok

/-- BYTE-LEVEL CONTENT of every reachable state: each live table's three files are EXACTLY `tableOf` (C15's
file images) of a strictly ascending list of pairs whose sizes fit; `NewSSTableReader` on these bytes (default
options: slice index, verify on load) yields the table's open reader, which answers `Get` / `Contains` / the
scans as the sorted map of that list (C03) and whose metadata is the truthful `metaOf` (C15). -/
theorem stack_tables_decode (P : Params) (hP : ParamsOk P) (steps : List Stack.Step)
    (hok : RunOk P {} steps) :
    ∃ c, Stack.runState P {} steps = .ok c ∧ ∀ t ∈ c.tables, ∃ kvs, TblDec P t kvs := by
  obtain ⟨_, c, hc, hr⟩ := stack_refines_layers P hP steps hok
  refine ⟨c, hc, ?_⟩
  exact hr.tables.forall_left fun t _ ht => by
    obtain ⟨kvs, hd, _⟩ := ht.dec
    exact ⟨kvs, hd⟩

/-! ## the bridging lemmas between neighbouring layers, as theorems of their own -/

/-- C15 ∘ C03: a strictly ascending list written call by call through the byte-level writer with the
default options is accepted entirely, and the closed table loads (verify on load included) into a reader that
answers as the list's sorted map, with truthful metadata. -/
theorem written_table_loads (P : Params) (hP : ParamsOk P) (g : Nat) (kvs : List KV)
    (ha : StrictAsc bytesCmp kvs) (hf : FitsKV P.cfg kvs) (onW : WRes → Fail) (onO : Err → Fail) :
    ∃ t, writeAndOpen P g (kvs.map fun p => { key := p.1, value := p.2, fault := .none }) onW onO = .ok t ∧
      t.gen = g ∧ TblDec P t kvs :=
  writeAndOpen_ok P hP g kvs ha hf onW onO

/-- C08 for simpledb's own reducer `scanReduceLatestWinsKeepTombstones` (the one a compaction uses when the
run does not start at the oldest table): `MergeCompact` succeeds and writes the overlay of the tables with
every tombstone / empty newest value as the EMPTY non-nil value — no key of the overlay is dropped. -/
theorem mergeCompact_keepTombstones_eq_overlay (ts : List Merge.Table) (hts : ∀ t ∈ ts, Merge.Asc t) :
    (Merge.mergeCompact ((ts.map Merge.toItems).map Merge.inputOf) {} scanReduceLatestWinsKeepTombstones).1 = none ∧
    (Merge.mergeCompact ((ts.map Merge.toItems).map Merge.inputOf) {} scanReduceLatestWinsKeepTombstones).2.out
      = keepEmpty (Merge.overlay ts) :=
  mergeCompact_keep ts hts

/-- C03 ∘ C08: the newest-first `Get` loop over the byte-level readers answers as the layer stack. -/
theorem reader_stack_get_eq_layers (P : Params) (ts : List LiveTbl) (tbls : List Tbl)
    (h : Rel2 (TblRel P) ts tbls) (k : Bytes) :
    superGet ts k = some (match tablesGet tbls k with | some v => .ok v | none => .error .notFound) :=
  superGet_tables h k

/-- C15 → C06: the compaction's candidate test evaluated on the metadata the byte-level writer produced is
the layer model's test (NumRecords, NullValues truthful; TotalBytes as reported). -/
theorem candidate_on_metadata (P : Params) (t : LiveTbl) (a : Tbl) (h : TblRel P t a) (o : Opts) :
    DBM.candidate o a t.rd.md.totalBytes = candidateMd o t.rd.md :=
  candidate_eq h o

/-! ## fidelity of the two-phase formulation of flush and compaction -/

/-- The literal loop of `flushMemstore` (`Mem.flushLoop` of C14, `includeTombstones = true`) driving the
byte-level writer call by call ends in the writer state of the collected call list, whenever that list is
accepted (by `stack_no_step_fails` it always is). -/
theorem flush_loop_literal (cfg : SstCfg) (l : List (GoBytes × GoBytes)) (w : SstW)
    (h : ∀ r ∈ (w.run cfg (l.map mkCall)).2, r = .ok) :
    Mem.flushLoop (sstWriteNext cfg) true w l = .ok (w.run cfg (l.map mkCall)).1 :=
  flushLoop_sstw cfg l w h

/-- The literal loop of `MergeCompact` (iterator `Next`, then `WriteNext` on the byte-level writer): whenever
the Merge model's loop with its abstract order-checking writer succeeds from fresh writers, the literal loop
succeeds, every `WriteNext` is accepted, and `Close` yields exactly the table the compaction step of the
model writes (`writeTable` of the abstract writer's records). -/
theorem compact_loop_literal (P : Params) (endErr : Nat → Option Err) (reduce : Merge.ReduceFn) (fuel : Nat)
    (s : Merge.MCIter) (h : (Merge.mergeCompactLoop endErr reduce fuel s {}).1 = none) :
    ∃ w', compactLoopSst P.cfg endErr reduce fuel s (SstW.open P.cfg) = (none, w') ∧
      w'.close = writeTable P.cfg (Merge.mergeCompactLoop endErr reduce fuel s {}).2.out := by
  obtain ⟨extra, h1, h2, _⟩ := compactLoop_eq P.cfg rfl endErr reduce fuel s {} (SstW.open P.cfg) ⟨rfl, rfl⟩ h
  refine ⟨_, h2, ?_⟩
  rw [h1]
  rfl

/-- non-vacuity: the laws of the external code are satisfiable (no compression, an exact bloom filter) -/
example : ParamsOk plainParams :=
  ⟨trivial, trivial, fun keys bf h k hk => by
    simp only [plainParams, Option.some.injEq] at h
    subst h
    simpa using hk⟩

/-- a session with two flushes, a delete over a flushed value, a compaction that starts at the oldest table
(tombstones dropped), close and re-open -/
def exSteps : List Stack.Step :=
  [.reopen { threshold := 0, maxSize := 1000 }, .putS [1] [2] false 2, .putB (some [3]) (some [4, 4]) false 1,
   .putB (some []) (some [1]) false 1, .rotate, .flush, .delS [1] 3, .get [1], .get [3], .rotate, .flush,
   .get [1], .compact, .get [1], .get [3], .close, .get [3], .reopen {}, .get [3]]

/-- the example session `exSteps` meets `RunOk`, and the stack's run on it gives these outputs -/
theorem exSteps_run :
    RunOk plainParams {} exSteps ∧
    Stack.run plainParams {} exSteps =
      ([(none, []), (some (.db .ok), []), (some (.db .ok), []), (some (.db .rejected), []), (none, []), (none, []),
        (some (.db .ok), []), (some (.db .notFound), []), (some (.db (.value [4, 4])), []), (none, []), (none, []),
        (some (.db .notFound), []), (none, [1, 2]), (some (.db .notFound), []), (some (.db (.value [4, 4])), []),
        (some (.db .ok), []), (some (.db .notOpen), []), (none, []), (some (.db (.value [4, 4])), [])], none) := by
  decide +kernel

example : RunOk plainParams {} exSteps := exSteps_run.1

example : Stack.run plainParams {} exSteps =
    ([(none, []), (some (.db .ok), []), (some (.db .ok), []), (some (.db .rejected), []), (none, []), (none, []),
      (some (.db .ok), []), (some (.db .notFound), []), (some (.db (.value [4, 4])), []), (none, []), (none, []),
      (some (.db .notFound), []), (none, [1, 2]), (some (.db .notFound), []), (some (.db (.value [4, 4])), []),
      (some (.db .ok), []), (some (.db .notOpen), []), (none, []), (some (.db (.value [4, 4])), [])], none) :=
  exSteps_run.2

/-- a session whose compaction EXCLUDES the oldest table (size limit 0, tombstone ratio selects tables 2 and 3):
the keep-tombstones reducer carries the tombstones over as empty values, the deleted keys stay deleted -/
def exStepsKeep : List Stack.Step :=
  [.reopen { threshold := 1, maxSize := 0 }, .putS [1] [2] false 1, .putS [5] [6] false 4, .rotate, .flush,
   .delS [1] 2, .rotate, .flush, .delS [5] 1, .rotate, .flush, .compact, .get [1], .get [5], .compact]

theorem exStepsKeep_run :
    RunOk plainParams {} exStepsKeep ∧
    Stack.run plainParams {} exStepsKeep =
      ([(none, []), (some (.db .ok), []), (some (.db .ok), []), (none, []), (none, []), (some (.db .ok), []),
        (none, []), (none, []), (some (.db .ok), []), (none, []), (none, []), (none, [2, 3]),
        (some (.db .notFound), []), (some (.db .notFound), []), (none, [])], none) := by
  decide +kernel

example : RunOk plainParams {} exStepsKeep := exStepsKeep_run.1

example : Stack.run plainParams {} exStepsKeep =
    ([(none, []), (some (.db .ok), []), (some (.db .ok), []), (none, []), (none, []), (some (.db .ok), []),
      (none, []), (none, []), (some (.db .ok), []), (none, []), (none, []), (none, [2, 3]),
      (some (.db .notFound), []), (some (.db .notFound), []), (none, [])], none) :=
  exStepsKeep_run.2

end SST.StackRefine
