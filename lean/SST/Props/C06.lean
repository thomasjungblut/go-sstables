/-
C06 — Compaction never changes what a key reads as; deleted keys stay deleted.
-/
import SST.Proofs.DB
namespace SST.C06
open SST SST.DBM

/-- `floodFill` as coded computes "everything between the first and the last selected table" -/
theorem floodFill_spec (a : List Bool) : floodFill a = fillBetween a :=
  Proofs.DB.floodFill_spec a

/-- whichever tables the size limit and tombstone ratio pick, the selected subset is a gap-free run in age order -/
theorem selection_contiguous (a : List Bool) : Contiguous (floodFill a) :=
  Proofs.DB.selection_contiguous a

/-- one compaction cycle — for any reachable state, any table sizes (hence any selectable subset, including
subsets that exclude the oldest table) and any options — changes the result of Get for no key -/
theorem compact_preserves_reads (steps : List Step) (sizes : List Nat) (k : Key) :
    let s := runState {} steps
    abs (compactStep s sizes).1 k = abs s k ∧ get (compactStep s sizes).1 k = get s k :=
  Proofs.DB.compact_preserves_reads steps sizes k

/-- … and keeps doing so after later flushes, compactions and restarts: the whole-history statement is
`C01.db_refines_map`.  Its special case "a deleted key never becomes readable again" is stated below for a
string-flavoured `Delete` on an open database followed by any rotations, flush completions and compaction cycles
(no further client calls, no restart). -/
theorem deleted_stays_deleted (pre post : List Step) (k : Key)
    (hu : (runState {} pre).isOpen = true ∧ (runState {} pre).closed = false)
    (hpost : ∀ st ∈ post, match st with
      | .rotate | .flush | .compact _ => True
      | _ => False) :
    get (runState {} (pre ++ [.delS k] ++ post)) k = .notFound :=
  Proofs.DB.deleted_stays_deleted pre post k hu hpost

/-- non-vacuity: a lineage whose oldest table is excluded by the size limit while a newer table holds a tombstone -/
example : let s := runState {} [.reopen {threshold := 0, maxSize := 100, ratioNum := 1, ratioDen := 1},
      .putS [1] [9, 9] false, .rotate, .flush, .delS [1], .rotate, .flush, .putS [2] [7] false, .rotate, .flush]
    (compactStep s [1000, 10, 10]).2 = [2, 3] ∧ get (compactStep s [1000, 10, 10]).1 [1] = .notFound := by
  decide +kernel

end SST.C06
