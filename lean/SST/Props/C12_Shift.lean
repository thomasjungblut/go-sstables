/-
C12 (header clause, full strength) — altering ANY byte of a record header is detected by both readers,
up to an explicit residual: a genuine 32-bit CRC coincidence at a moved field boundary.
`C12.header_alter_detected_partial` covers the frame-preserving alterations with no residual; this file
covers every alteration.  Property theorems only; lemmas live in SST/Proofs/RecordIOShift.lean.
-/
import SST.Proofs.RecordIOShift
namespace SST.C12.Shift
open SST Generated Proofs

/-- For EVERY record, EVERY header byte index and EVERY other byte value, whatever follows the record
(and, for the random-access reader, whatever precedes it): either both readers fail on the altered
record, or the alteration is frame shifting (it is not `FramePreserving`) and `Crc32Coincides` holds:
the original and the altered stream each begin with a header laid out exactly as the writer would
(marker, flag byte, two canonical length varints, canonical varint of the CRC-32C of exactly those
bytes), yet over DIFFERENT checksummed bytes.  Since the two streams differ in one byte only, the altered
header's checksum varint is read from a moved position and happens to equal the CRC-32C of the moved
body: a 32-bit coincidence.  No instance is exhibited here. -/
theorem header_alter_detected_or_coincides (c : Compression) (r : GoBytes) (pre rest : Bytes)
    (hf : FitsRec c r) (i : Nat) (x : UInt8) (hi : i < (headerOf c r).length)
    (hx : x ≠ (headerOf c r)[i]) :
    ((∃ e, readNextS c ((encRecord c r).set i x ++ rest) = .error e) ∧
     (∃ e, readAt c (pre ++ (encRecord c r).set i x ++ rest) pre.length = .error e)) ∨
    (¬ FramePreserving (headerOf c r) i x ∧
      Crc32Coincides (encRecord c r ++ rest) ((encRecord c r).set i x ++ rest)) :=
  Proofs.header_alter_detected_or_coincides c r pre rest hf i x hi hx

/-- In the residual case the altered byte is a varint byte (not the nil flag) whose continuation bit was
flipped. -/
theorem residual_is_frame_shifting (h : Bytes) (i : Nat) (x : UInt8) (hi : i < h.length)
    (hx : x ≠ h[i]) (hn : ¬ FramePreserving h i x) :
    i ≠ magicBytes.length ∧ ¬ (x.toNat ≥ 128 ↔ h[i].toNat ≥ 128) :=
  ⟨fun h3 => hn ⟨hi, hx, Or.inl h3⟩, fun hc => hn ⟨hi, hx, Or.inr hc⟩⟩

/-- Whenever the header parser accepts a window, the window begins with a well-formed, correctly
checksummed header for exactly the values it returns (this is what makes the residual explicit). -/
theorem accepted_header_is_well_formed (w : Win) (h : RecHeader) (hok : readHeader w = .ok h) :
    ∃ nb, WellFormedHeader w.bytes nb h.ulen h.clen ∧ h.isNil = (nb == 1) ∧
      h.hlen = (rawBody nb h.ulen h.clen).length +
        (uvarintEnc (crc32c (rawBody nb h.ulen h.clen)).toNat).length :=
  Proofs.readHeader_ok_wellFormed w h hok

/-- non-vacuity: clearing the continuation bit of a marker byte is a frame-shifting alteration -/
example : ¬ FramePreserving (headerOf none (some [1, 2, 3])) 0 0x11 := by
  unfold FramePreserving
  decide

end SST.C12.Shift
