/-
C02, whole histories — `Close` and re-`Open` INSIDE the interleaved crash model (synchronous WAL; the asynchronous
flavour is Props/C13_Sessions.lean).  `C02.Interleave.crash_safe_sync_interleaved` speaks of ONE session after `Open`;
here `Close` is a sequence of moves, every session starts with an `Open` (killed any number of times first), and a
history is any number of sessions.

Model: SST/Model/FSSessions.lean.  A session is the transition system of SST/Model/FSInterleave.lean (client ∥ flusher
∥ compactor, one file-system call per move) wrapped with the moves of `DB.Close` AS CODED NOW (simpledb/db.go:160-197):
  `cbegin`   db.rwLock.Lock(); db.closed = true                       (only when the lock is free)
  rotation   rotateWalAndFlushMemstore(): wal.Rotate() = close the file (its buffer is written out), create the next
             one, write its header; hand-off over the unbuffered channel — the SAME moves as a forced rotation.  The
             rotation is NOT skipped for an empty memstore (flush.go:92-102 does not look at it); `executeFlush` skips the
             empty store (flush.go:39-43) and then does not remove its WAL file: a header-only file stays behind.
  `cunlock`  close(storeFlushChannel); <-doneFlushChannel; Unlock()   (enabled when the flusher is idle again; the
             lock is held until here: no `reflectCompactionResult`, no client call in between)
  `kexit`    ticker.Stop(); stop signal (buffered); <-doneCompactionChannel: the compactor returns between two cycles;
             a running cycle — even one more — runs to its end first, `reflectCompactionResult` included
  `cwal` … `cfinish`   wal.Close() = Appender.Close = currentWriter.Close(): buffer written out, file closed; readers closed
Client calls after `closed = true` are rejected (ErrAlreadyClosed): no event, no effect.
A HISTORY = sessions; each starts with `Open` = `FS.recoverEvents` cut any number of times after any number of calls
(killed `Open`s, C10) before it completes, and ends where its schedule ends: `Ph.closed` (a completed `Close`:
quiescent) or a kill at that point — inside `Close` included.  `runHistory` is total and computable.

The proofs reuse the invariants `S` / `G` of the interleaved session and their per-move preservation lemmas
(`S_step`, `G_step`, `start_SG`), C10's `recover_prefix`, and add: the `Close` moves preserve `S` / `G` (the lock
acquisition leaves `idle` as the first move of a forced rotation does: `S_lock`, `G_lock`), the phase invariant `W`
(Proofs/FSSessions.lean), and the composition over sessions (Proofs/FSSessionsHistory.lean).

Ties to the source and to real runs:
* call order of `Close`: `Generated/Order.lean` lists `DB.Close`, `DB.rotateWalAndFlushMemstore`,
  `Appender.Rotate`, `Appender.Close`, `simpledb.flushMemstoreContinuously`, `simpledb.backgroundCompaction`;
  `C02.Order.close_waits_for_flusher_before_closing_wal` and `model_close_order_matches_source` tie the sequential
  `fsStep … .close`; below `close_moves_match_source` ties THIS model's `Close` moves (compactions enabled: lock …
  unlock BEFORE the compactor is stopped, `wal.Close()` after the compactor has returned) to the regenerated table;
* the per-thread call sequences: the wrapped moves are those of the interleaved session, so its ties hold as they are
  (`C02.Interleave.flusher_calls`, `compactCalls_eq`, `kstart_run`);
* real runs: the crash stream's `reopen` profile (harness crash_gen.go / crash_child.go: sessions with `Close` +
  re-`Open` in one traced process, every system-call boundary imaged and re-opened) and the `nested` flavour (C10:
  recovery killed and repeated) sample exactly these histories against the real code.
-/
import SST.Proofs.FSSessionsHistory
import SST.Spec.Order
namespace SST.C02.Sessions
open SST SST.FS SST.DBM SST.FSI SST.FSS SST.Proofs.FS SST.Proofs.FSI SST.Proofs.FSS

/-- `close_complete_all_durable` — for EVERY well-formed disk, every number of killed `Open`s, every client program,
every schedule and BOTH WAL flavours: if the session ends with a completed `Close`, then
* the session was quiescent (client, flusher, compactor idle; nothing buffered);
* the disk is well-formed; every table directory loads, there is no compaction directory, and every WAL file holds a
  header and NOTHING else — no record remains unflushed.  (What the code leaves: the file created by `Close`'s own
  rotation, plus one header-only file per rotation that found the memstore empty — `Close`'s own rotation included
  when nothing was written since the last one; see `close_leaves_header_only_wal_files`);
* every accepted call has returned, and the content served by any later `Open` is the reference after ALL accepted
  mutations of the session — asynchronous WAL included;
* the accepted mutations are those of the calls begun before `Close`; the calls after it were rejected. -/
theorem close_complete_all_durable (d : Disk) (h : DiskOk d) (s : Session)
    (hclosed : (runSession d s).2.closed = true) (o : Opts) :
    let r := runSession d s
    DiskOk r.1 ∧ CleanlyClosed r.1 ∧ walMuts r.1.wal = [] ∧
      (∃ sc, sessionEnd d s = some sc ∧ quiescent sc = true) ∧
      r.2.acked = r.2.hist.length ∧
      (∃ pre rej post, s.prog = pre ++ rej ++ post ∧ r.2.hist = pre.filterMap Op.accepted) ∧
      logical r.1 = applySpec (logical d) r.2.hist ∧
      ∃ d' st, recover r.1 o = .ok (d', st) ∧ abs st = applySpec (logical d) r.2.hist := by
  intro r
  have hph : r.2.ph = .closed := by
    have : (r.2.ph == Ph.closed) = true := hclosed
    simpa using this
  obtain ⟨hok, p, hso, hlog, hcl⟩ := session_good d h s
  obtain ⟨hcc, hq⟩ := hcl hph
  have hrej : r.2.ph.rejecting = true := by rw [hph]; rfl
  obtain ⟨hp, hacked⟩ := hso.all hrej
  have hlog' : logical r.1 = applySpec (logical d) r.2.hist := by
    have := hlog
    rw [hp, List.take_length] at this
    exact this
  obtain ⟨pre, rej, post, e1, e2, _⟩ := hso.prog
  obtain ⟨d', st, hr, ha⟩ := recover_serves r.1 hok o
  exact ⟨hok, hcc, junk_muts hcc.2.2.2, hq, hacked, ⟨pre, rej, post, e1, e2⟩, hlog', d', st, hr, ha.trans hlog'⟩

/-- MAIN THEOREM — for EVERY well-formed initial disk and EVERY history: any number of sessions, each with any
number of killed `Open`s before the one that completes, any client program, ANY schedule of client ∥ flusher ∥
compactor ∥ `Close` cut ANYWHERE (a kill) or run to a completed `Close`; finally any number of killed `Open`s:
* the final disk is well-formed and `Open` succeeds on it;
* there is one number `p` per session (`ps`) — the acknowledged mutations of that session, or those plus the one call
  in flight when it was killed; ALL of them if `Close` completed (or only got past the flusher) — such that the opened
  database is the reference obtained by applying, session by session, the first `p` mutations of each session's
  history (later sessions build on the earlier choices);
* in every session at most one call was in flight; its history lists the accepted calls begun before `Close`.
`x = (session, ghost data, p)` ranges over the sessions of the history. -/
theorem crash_safe_sync_history (d0 : Disk) (h0 : DiskOk d0) (H : History)
    (hsync : ∀ s ∈ H.sessions, s.async = false) (o : Opts) :
    let r := runHistory d0 H
    DiskOk r.1 ∧ r.2.length = H.sessions.length ∧
      ∃ ps : List Nat, ps.length = H.sessions.length ∧
        (∀ x ∈ triples H.sessions r.2 ps,
          x.2.1.opened = true ∧ x.2.1.acked ≤ x.2.1.hist.length ∧ x.2.1.hist.length ≤ x.2.1.acked + 1 ∧
          (x.2.2 = x.2.1.acked ∨ x.2.2 = x.2.1.hist.length) ∧
          (x.2.1.ph.rejecting = true → x.2.2 = x.2.1.hist.length ∧ x.2.1.acked = x.2.1.hist.length) ∧
          ∃ pre rej post, x.1.prog = pre ++ rej ++ post ∧ x.2.1.hist = pre.filterMap Op.accepted) ∧
        ∃ d' st, recover r.1 o = .ok (d', st) ∧ abs st = applySpec (logical d0) (chosenMuts (r.2.zip ps)) := by
  intro r
  obtain ⟨hok, hlen, ps, hpl, hall, d', st, hr, habs⟩ := history_good d0 h0 H o
  refine ⟨hok, hlen, ps, hpl, fun x hx => ?_, d', st, hr, by rw [habs, refAfter_eq]⟩
  have hso := hall x hx
  obtain ⟨pre, rej, post, e1, e2, _⟩ := hso.prog
  exact ⟨hso.opened, hso.a1, hso.a2, hso.sync_cases (hsync x.1 (List.of_mem_zip hx).1), hso.all, pre, rej, post, e1, e2⟩

/-- the same from the empty directory -/
theorem crash_safe_sync_history_fresh (H : History) (hsync : ∀ s ∈ H.sessions, s.async = false) (o : Opts) :
    let r := runHistory {} H
    DiskOk r.1 ∧ ∃ ps : List Nat, ps.length = H.sessions.length ∧
      (∀ x ∈ triples H.sessions r.2 ps, x.2.2 = x.2.1.acked ∨ x.2.2 = x.2.1.hist.length) ∧
      ∃ d' st, recover r.1 o = .ok (d', st) ∧ abs st = applySpec (fun _ => none) (chosenMuts (r.2.zip ps)) := by
  intro r
  have h0 : DiskOk ({} : Disk) := by decide
  obtain ⟨hok, _, ps, hpl, hall, d', st, hr, habs⟩ := crash_safe_sync_history {} h0 H hsync o
  exact ⟨hok, ps, hpl, fun x hx => (hall x hx).2.2.2.1, d', st, hr, habs⟩

/-- the final disk of a history is the result of its file-system calls, in order (`Open`s, killed or not, included) -/
theorem history_disk_is_its_calls (d0 : Disk) (H : History) : (runHistory d0 H).1 = applyEvs d0 (historyEvents d0 H) := by
  unfold runHistory historyEvents
  simp only
  rw [applyEvs_append, ← runSessions_events, ← killedOpens_events]

/-- killed `Open`s as a fold: each applies a prefix of the recovery calls of the disk it finds (`C10.interrupted_eq`
identifies `killedOpens` with C10's interrupted recoveries) -/
theorem killedOpens_is_C10 : ∀ (ms : List KilledOpen) (d : Disk),
    killedOpens d ms = ms.foldl (fun d m => applyEvs d ((recoverEvents d m.2).take m.1)) d := by
  intro ms
  induction ms with
  | nil => intro d; rfl
  | cons m ms ih => intro d; simp only [killedOpens, List.foldl_cons]; exact ih _

/-- the histories contain the runs of `C02.Interleave.crash_safe_sync_interleaved` / `C13.…`: a session without killed
`Open`s whose schedule has no `Close` move ends in exactly the configuration the interleaved model reaches -/
theorem interleaved_run_is_a_session (d : Disk) (h : DiskOk d) (o : Opts) (d1 : Disk) (s1 : State)
    (hr : recover d o = .ok (d1, s1)) (async : Bool) (prog : List Op) (sched : List Mv) :
    sessionEnd d { async := async, opts := o, prog := prog, sched := sched.map .sys } =
      some { c := FSI.run async (start d1 (openedVol s1) prog) sched } := by
  have hev : applyEvs d (recoverEvents d []) = d1 := recover_events d h o d1 s1 hr []
  unfold sessionEnd sessionStart openDisk
  simp only [killedOpens]
  rw [hr, hev]
  simp only
  rw [runS_sys async sched _ rfl rfl rfl]
  rfl

/-- `killed_close_is_a_crash` — a `Close` cut ANYWHERE is covered: cut the schedule of any session (e.g. one that
completes `Close`) after any number `n` of moves.  The cut schedule is a schedule (the full run passes through the
state it ends in), the disk is well-formed, `Open` succeeds and serves the reference after a prefix `hist.take p`
that contains every mutation up to the last completed rotation and (synchronous WAL) every acknowledged one; once
`Close` had received the flusher's completion (`Ph.unlocked` or later) the prefix is the WHOLE history: a kill in the
rest of `Close` (compactor wait, `wal.Close()`) loses nothing, whatever the WAL flavour. -/
theorem killed_close_is_a_crash (d : Disk) (h : DiskOk d) (s : Session) (n : Nat) (o : Opts) :
    let s' : Session := { s with sched := s.sched.take n }
    let r := runSession d s'
    (∀ sc, sessionEnd d s' = some sc → sessionEnd d s = some (runS s.async sc (s.sched.drop n))) ∧
    DiskOk r.1 ∧
      ∃ p, r.2.mark ≤ p ∧ p ≤ r.2.hist.length ∧ (s.async = false → r.2.acked ≤ p) ∧
        (r.2.ph.rejecting = true → p = r.2.hist.length) ∧
        ∃ d' st, recover r.1 o = .ok (d', st) ∧ abs st = applySpec (logical d) (r.2.hist.take p) := by
  intro s' r
  obtain ⟨hok, p, hso, hlog, _⟩ := session_good d h s'
  obtain ⟨d', st, hr, ha⟩ := recover_serves r.1 hok o
  refine ⟨?_, hok, p, hso.mark, hso.le, hso.sync, fun hp => (hso.all hp).1, d', st, hr, ha.trans hlog⟩
  intro sc hsc
  -- the two sessions start alike; the whole schedule is the cut one followed by the rest
  obtain ⟨sc0, h0, _⟩ := sessionStart_inv d h s
  rw [sessionEnd_some (s := s') h0] at hsc
  cases hsc
  rw [sessionEnd_some h0, ← runS_append, List.take_append_drop]

def put4 : List SMv := [.sys .begin, .sys .torn, .sys .append, .sys .done]
def rot4 : List SMv := [.sys .close, .sys .create, .sys .header, .sys .handoff]
def fl7 : List SMv := [.sys .fstep, .sys .fstep, .sys .fstep, .sys .fstep, .sys .fstep, .sys .fstep, .sys .fadd]
/-- a complete `Close`, one thread after the other -/
def closeSched : List SMv := [.cbegin] ++ rot4 ++ fl7 ++ [.cunlock, .kexit, .cwal, .sys .close, .cfinish]

/-- session 1: two puts, a completed `Close`, one more call (rejected) -/
def s1 : Session :=
  { prog := [.put [1] [1] false, .put [2] [2] false, .put [9] [9] false]
    sched := put4 ++ put4 ++ closeSched ++ [.sys .begin] }

/-- session 2: a put that rotates; a delete is acknowledged WHILE the flusher writes table 2; the next put is in
flight (a piece of its record written) when the process is killed — inside the flush -/
def s2 : Session :=
  { prog := [.put [3] [3] true, .del [1], .put [4] [4] false]
    sched := put4 ++ rot4 ++ [.sys .fstep, .sys .begin, .sys .fstep, .sys .torn, .sys .append, .sys .fstep, .sys .done,
                              .sys .begin, .sys .fstep, .sys .torn] }

/-- session 3: `Open` killed after 3 calls (it has removed the unfinished table 2 and is re-creating it for the
recovery flush: the directory loads as an empty legacy table), then completed; a put whose record has reached the file
but which has not returned when the process is killed -/
def s3 : Session :=
  { opens := [(3, [])]
    prog := [.put [5] [5] false]
    sched := [.sys .begin, .sys .torn, .sys .append] }

/-- … and a last `Open` that is killed after two calls -/
def hist3 : History := { sessions := [s1, s2, s3], lastOpens := [(2, [])] }

/-- session 1 ends closed and quiescent; it leaves table 1 and the header-only WAL file its rotation created -/
example :
    (runSession {} s1).1 = { tables := [(1, .complete [([2], some [2]), ([1], some [1])])], walDir := true, wal := [{ num := 1 }] } ∧
      (runSession {} s1).2.closed = true ∧ (runSession {} s1).2.hist = [.put [1] [1], .put [2] [2]] ∧
      (sessionEnd {} s1).map quiescent = some true ∧ (sessionEnd {} s1).map (·.c.prog.length) = some 0 := by decide +kernel

/-- the calls of session 2 (its `Open` first removes the WAL file session 1 left): the flusher's calls between and
inside the client's -/
example : sessionEvents (runSession {} s1).1 s2 =
    [.walUnlink 1, .walDirRemove, .walDirCreate, .walCreate 0, .walHeader 0,
     .walTorn 0, .walAppend 0 (.put [3] [3]), .walClose 0, .walCreate 1, .walHeader 1,
     .tblMkdir 2, .tblLoadable 2 [], .walTorn 1, .walAppend 1 (.del [1]), .tblMetaCreate 2, .tblProgress 2, .walTorn 1] := by
  decide +kernel

/-- the calls of session 3: the killed `Open` (3 calls), the completing `Open` (keeps the empty legacy table 2,
flushes both WAL files into table 3), the put -/
example : sessionEvents (runSessions {} [s1, s2]).1 s3 =
    [.tblRmdir 2, .tblMkdir 2, .tblLoadable 2 [],
     .tblMkdir 3, .tblLoadable 3 [], .tblMetaCreate 3, .tblProgress 3, .tblComplete 3 [([1], none), ([3], some [3])],
     .walUnlink 0, .walUnlink 1, .walDirRemove, .walDirCreate, .walCreate 0, .walHeader 0,
     .walTorn 0, .walAppend 0 (.put [5] [5])] := by decide +kernel

/-- the whole history: 54 calls; ghost data per session (mutations begun, acknowledged, up to the last rotation, phase
of `Close`); the final disk is well-formed and serves: key 1 deleted (session 2, acknowledged), 2 ↦ 2, 3 ↦ 3, key 4
absent (in flight at the kill of session 2: lost), 5 ↦ 5 (in flight at the kill of session 3: survived), key 9 absent
(rejected after `Close`) — the choice `ps = [2, 2, 1]` of `crash_safe_sync_history` -/
example :
    let r := runHistory {} hist3
    (historyEvents {} hist3).length = 54 ∧
      r.2.map (fun g => (g.hist.length, g.acked, g.mark, g.ph)) = [(2, 2, 2, .closed), (3, 2, 1, .running), (1, 0, 0, .running)] ∧
      DiskOk r.1 ∧ r.1.tables.map (·.1) = [1, 2, 3, 4] ∧ r.1.wal.map (fun f => (f.num, f.recs.length)) = [(0, 1)] ∧
      [[1], [2], [3], [4], [5], [9]].map (logical r.1) = [none, some [2], some [3], none, some [5], none] ∧
      (∀ k ∈ [[1], [2], [3], [4], [5], [9]], logical r.1 k = applySpec (fun _ => none) (chosenMuts (r.2.zip [2, 2, 1])) k) := by
  decide +kernel

/-- the hypotheses of `crash_safe_sync_history` hold for it -/
example : DiskOk ({} : Disk) ∧ ∀ s ∈ hist3.sessions, s.async = false := by decide

/-- what `Close` leaves in the WAL directory.  Called right after `Open` (empty memstore): the rotation happens
anyway, the flush is skipped, file 0 STAYS next to the new file 1 — both header-only.  With a non-empty memstore the
flusher removes file 0 after writing the table. -/
theorem close_leaves_header_only_wal_files :
    (runSession {} { sched := closeSched }).1 = { walDir := true, wal := [{ num := 0 }, { num := 1 }] } ∧
      (runSession {} { sched := closeSched }).2.closed = true ∧
      sessionEvents {} { sched := closeSched } =
        [.walDirCreate, .walDirRemove, .walDirCreate, .walCreate 0, .walHeader 0,
         .walClose 0, .walCreate 1, .walHeader 1, .walClose 1] ∧
      (runSession {} { prog := [.put [1] [1] false], sched := put4 ++ closeSched }).1.wal = [{ num := 1 }] := by
  decide +kernel

/-- a `Close` that has to wait: it is called while the compactor merges tables 1 and 2 and the flusher is still
writing table 3.  The hand-off waits for the flusher; after the unlock the compactor reflects its result (removes the
inputs, renames) and only then returns; `wal.Close()` comes last. -/
def s4 : Session :=
  { opts := { maxSize := 100 }
    prog := [.put [1] [1] true, .put [2] [2] true, .put [3] [3] true, .put [4] [4] false]
    sched := put4 ++ rot4 ++ fl7 ++ put4 ++ rot4 ++ fl7 ++ put4 ++ rot4 ++ [.sys .fstep, .sys .fstep] ++ put4 ++
      [.sys (.kstart [1, 1] 0 { maxSize := 100 }), .sys (.kstep none), .sys (.kstep none),
       .cbegin, .sys .kreflect, .sys .close, .sys .create, .sys .header,
       .sys .handoff,                                     -- skipped: the flusher is busy
       .sys (.kstep none), .sys (.kstep none), .sys (.kstep none),
       .sys .kreflect,                                    -- skipped: `Close` holds the db lock
       .sys .fstep, .sys .fstep, .sys .fstep, .sys .fstep, .sys .fadd,
       .cunlock,                                          -- skipped: the hand-off has not happened
       .sys .handoff] ++ fl7 ++
      [.sys .kreflect,                                    -- skipped: `Close` still holds the db lock
       .cunlock, .kexit,                                  -- `kexit` skipped: the compactor is inside a cycle
       .sys .kreflect, .cwal,                             -- `cwal` skipped: the compactor has not returned
       .sys (.kstep none), .sys (.kstep none), .sys (.kstep none), .sys (.kstep none), .sys (.kstep none),
       .sys (.kstep none), .sys (.kstep none), .kexit, .cwal, .sys .close, .cfinish] }

example :
    let r := runSession {} s4
    r.2.closed = true ∧ r.2.hist.length = 4 ∧ r.2.acked = 4 ∧
      r.1 = { tables := [(1, .complete [([1], some [1]), ([2], some [2])]), (3, .complete [([3], some [3])]),
                         (4, .complete [([4], some [4])])],
              walDir := true, wal := [{ num := 4 }] } ∧
      (sessionEvents {} s4).drop 36 =
        [.compMkdir 1, .compProgress 1, .walClose 3, .walCreate 4, .walHeader 4, .compComplete 1 [([1], some [1]), ([2], some [2])],
         .compProgress 1, .compFlag 1 { inputs := [1, 2], replacement := 1 },
         .tblMetaCreate 3, .tblProgress 3, .tblComplete 3 [([3], some [3])], .walUnlink 2,
         .tblMkdir 4, .tblLoadable 4 [], .tblMetaCreate 4, .tblProgress 4, .tblComplete 4 [([4], some [4])], .walUnlink 3,
         .tblUnlinkPart 1 true, .tblUnlinkPart 1 false, .tblRmdir 1, .tblUnlinkPart 2 true, .tblUnlinkPart 2 false, .tblRmdir 2,
         .compRename 1 1, .walClose 4] := by
  decide +kernel

/-- the same session killed at each of its 88 schedule positions (0 … 87 moves) (inside the flushes, the compaction, `Close`): the
disk is well-formed and serves the acknowledged mutations, or those plus the one in flight -/
example : (List.range 88).all (fun n =>
    let r := runSession {} { s4 with sched := s4.sched.take n }
    decide (DiskOk r.1) &&
      ([[1], [2], [3], [4]].map (logical r.1) == [[1], [2], [3], [4]].map (applySpec (fun _ => none) (r.2.hist.take r.2.acked)) ||
       [[1], [2], [3], [4]].map (logical r.1) == [[1], [2], [3], [4]].map (applySpec (fun _ => none) r.2.hist))) = true := by
  rw [List.all_eq_true]
  intro n _
  -- `session_good` for the cut session; with the synchronous WAL its prefix is the acknowledged mutations, or all
  obtain ⟨hok, p, hso, hlog, _⟩ := session_good {} (by decide) { s4 with sched := s4.sched.take n }
  have hl : logical ({} : Disk) = fun _ => none := rfl
  simp only [Bool.and_eq_true, Bool.or_eq_true, decide_eq_true_eq, beq_iff_eq]
  rw [hlog, hl]
  exact ⟨hok, (take_acked_or_all _ (hso.sync rfl) hso.le hso.a2).imp (fun e => by rw [e]) (fun e => by rw [e])⟩

open SST.OrderSpec SST.Generated.Order in
/-- `Close` of an open database with a non-empty write store, compactions ENABLED (cf. `OrderSpec.cfgClose`) -/
def cfgCloseComp : OrderSpec.Cfg :=
  { dec := [("DB.Close", "!db.open", [false]), ("DB.Close", "db.closed", [false]), ("DB.Close", "db.enableCompactions", [true]),
            -- the same two state checks in the normal form of a called body (function literal / helper method)
            ("DB.Close", "simpledb.DB.open", [true]), ("DB.Close", "!simpledb.DB.closed", [true]),
            ("simpledb.executeFlush", "walPath != \"\"", [true])] ++ commonDec
    reps := commonReps
    callee := callees }

open SST.OrderSpec SST.Generated.Order in
/-- the actions of `Close` that the model's moves stand for -/
def closeLabels : List Label :=
  [.lock, .closeCurrentWalWriter, .walWriterFactory, .openWalWriter, .chanSendFlush, .closeFlushChannel, .mkdirTable,
   .writeMeta, .removeWalFile, .addReader, .unlock, .stopTicker, .chanSendStopCompaction, .waitCompactorDone, .readerClose]

/-- the model's complete `Close` (one entry in the write store, compactor idle) on the disk right after `Open` -/
def scDirty : SCfg := { c := start { walDir := true, wal := [{ num := 0 }] } OrderSpec.vDirty [] }

open SST.OrderSpec SST.Generated.Order in
/-- the flusher goroutine on the path `Close` relies on: one store handed over, then the channel is closed, no error -/
def cfgFlusherOnce : OrderSpec.Cfg :=
  { dec := [("simpledb.flushMemstoreContinuously", "err != nil", [false]),
            ("simpledb.executeFlush", "walPath != \"\"", [true])] ++ commonDec
    reps := ("simpledb.flushMemstoreContinuously", "db.storeFlushChannel", 1) :: commonReps
    callee := callees }

open SST.OrderSpec SST.Generated.Order in
/-- The two representative paths below (`Close` with compactions enabled; the flusher goroutine handling one store) both
run through `executeFlush` and the table writer: ONE evaluation executes both, so that the kernel walks the shared part
once.  The two theorems are its projections. -/
theorem close_and_flusher_paths_match_source :
    ((trace cfgCloseComp "DB.Close").map (fun tr => (acts tr).filter (closeLabels.contains ·)) =
      some [.lock, .closeCurrentWalWriter, .walWriterFactory, .openWalWriter, .chanSendFlush, .closeFlushChannel, .mkdirTable,
            .writeMeta, .removeWalFile, .addReader, .unlock, .stopTicker, .chanSendStopCompaction, .waitCompactorDone,
            .closeCurrentWalWriter, .readerClose] ∧
    srcKinds .table cfgCloseComp "DB.Close" = some (modelKinds (traceS false scDirty closeSched)) ∧
    modelKinds (traceS false scDirty closeSched) =
      [.walClose, .walCreate, .walHeader, .tblMkdir, .tblLoadable, .tblMetaCreate, .tblComplete, .walUnlink, .walClose] ∧
    (runS false scDirty closeSched).ph = .closed) ∧
    ((trace cfgFlusherOnce "simpledb.flushMemstoreContinuously").map
        (fun tr => (acts tr).filter ([Label.mkdirTable, .writeMeta, .removeWalFile, .addReader, .signalFlusherDone, .panicLog].contains ·)) =
      some [.mkdirTable, .writeMeta, .removeWalFile, .addReader, .signalFlusherDone] ∧
    (trace cfgFlusherOnce "simpledb.flushMemstoreContinuously").map (fun tr => (acts tr).getLast?) = some (some .signalFlusherDone) ∧
    srcKinds .table cfgFlusherOnce "simpledb.flushMemstoreContinuously" =
      some [.tblMkdir, .tblLoadable, .tblMetaCreate, .tblComplete, .walUnlink]) := by
  decide +kernel

open SST.OrderSpec SST.Generated.Order in
/-- MODEL = SOURCE for `Close` as a sequence of moves.  On the path "open, not closed, compactions enabled, non-empty
store" the regenerated call table of `DB.Close` (with `rotateWalAndFlushMemstore`, `Appender.Rotate`, `executeFlush`,
`Appender.Close` inlined) performs, in this order: lock — Rotate = close file, create next, header — hand-off — close the
channel — (the flusher:) table directory … metadata, remove the WAL file, addReader — unlock — stop the ticker, send the
stop signal, wait for the compactor — close the last WAL file — close the readers.  The model's `closeSched` is
`cbegin`, `close`/`create`/`header`/`handoff`, 6 × `fstep` + `fadd`, `cunlock`, `kexit`, `cwal` + `close`, `cfinish`; the
file-system event kinds of both sides are equal. -/
theorem close_moves_match_source :
    (trace cfgCloseComp "DB.Close").map (fun tr => (acts tr).filter (closeLabels.contains ·)) =
      some [.lock, .closeCurrentWalWriter, .walWriterFactory, .openWalWriter, .chanSendFlush, .closeFlushChannel, .mkdirTable,
            .writeMeta, .removeWalFile, .addReader, .unlock, .stopTicker, .chanSendStopCompaction, .waitCompactorDone,
            .closeCurrentWalWriter, .readerClose] ∧
    srcKinds .table cfgCloseComp "DB.Close" = some (modelKinds (traceS false scDirty closeSched)) ∧
    modelKinds (traceS false scDirty closeSched) =
      [.walClose, .walCreate, .walHeader, .tblMkdir, .tblLoadable, .tblMetaCreate, .tblComplete, .walUnlink, .walClose] ∧
    (runS false scDirty closeSched).ph = .closed :=
  close_and_flusher_paths_match_source.1

open SST.OrderSpec SST.Generated.Order in
/-- why `<-db.doneFlushChannel` in `Close` may stand for the flusher's flush (the inlining `waitFlusherDone ↦ executeFlush`
used above), after 6dd9211: on its normal path the flusher goroutine executes the flush of the store handed over —
table directory … metadata, remove the WAL file, addReader — and sends the done signal as its LAST action, no panic;
the signal is a plain statement at the end of the function, not a deferred one (`C02.Order.done_signal_not_on_error_path`
has the error-path half), and the file-system event kinds of this path are the model's `fstep` events. -/
theorem flusher_signals_done_after_its_flush :
    (trace cfgFlusherOnce "simpledb.flushMemstoreContinuously").map
        (fun tr => (acts tr).filter ([Label.mkdirTable, .writeMeta, .removeWalFile, .addReader, .signalFlusherDone, .panicLog].contains ·)) =
      some [.mkdirTable, .writeMeta, .removeWalFile, .addReader, .signalFlusherDone] ∧
    (trace cfgFlusherOnce "simpledb.flushMemstoreContinuously").map (fun tr => (acts tr).getLast?) = some (some .signalFlusherDone) ∧
    srcKinds .table cfgFlusherOnce "simpledb.flushMemstoreContinuously" =
      some [.tblMkdir, .tblLoadable, .tblMetaCreate, .tblComplete, .walUnlink] :=
  close_and_flusher_paths_match_source.2

end SST.C02.Sessions
