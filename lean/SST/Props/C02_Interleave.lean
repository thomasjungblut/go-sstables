/-
C02, interleaved — acknowledged writes survive a process kill at any instant while the client thread, the flusher
and the compactor run CONCURRENTLY (synchronous WAL).  In `C02.crash_safe_sync` background steps happen only at
operation boundaries; here every thread moves one file-system call at a time.

Model: SST/Model/FSInterleave.lean — one transition system whose moves (`Mv`) are single steps of the three threads
(at most one file-system call each); a schedule is ANY list of moves, moves that are not enabled are skipped, so the
configurations `run … sched` are exactly the prefixes of all admissible interleavings.  Admissibility = per-thread
program order + db write lock (a whole Put/Delete/rotation vs. the whole of reflectCompactionResult) + hand-off
channel (a rotation completes only when the flusher is idle) + manager lock (addReader not during reflect; the
flusher's FILE calls are free) + a compaction works on the table list it selected from.  The flusher's and the
compactor's call sequences are those of `flushEvs` / `compactEvs` (`flushCalls_eq`, `compactCalls_eq`), the selected run
is `compactStep`'s (`kstart_run`); `rotateCalls_eq`, `logCalls_eq` write `rotateEvs` / `logEvs` out, and their comparison
with the calls of the `torn` / `append` moves is left to reading `FSI.move`.
-/
import SST.Proofs.FSInterleaveTies
namespace SST.C02.Interleave
open SST SST.FS SST.DBM SST.FSI SST.Proofs.FS SST.Proofs.FSI

/-- MAIN THEOREM — for EVERY well-formed disk `d0` (the empty directory, any crash image, …), after `Open`, EVERY
client program, EVERY schedule of the three threads (any admissible interleaving, cut anywhere) and every choice of
compaction parameters / unlink orders: the disk is well-formed, `Open` succeeds on it, at most one client call is in
flight, and the opened database is the reference after the mutations of all ACKNOWLEDGED calls, or after those plus
the one in flight.  `hist` = the mutations of the calls begun so far = those of a prefix `pre` of the program;
`acked` = how many of them belong to calls that have returned. -/
theorem crash_safe_sync_interleaved (d0 : Disk) (h0 : DiskOk d0) (o0 : Opts) (d1 : Disk) (s1 : State)
    (hr0 : recover d0 o0 = .ok (d1, s1)) (prog : List Op) (sched : List Mv) (o : Opts) :
    let c := FSI.run false (start d1 (openedVol s1) prog) sched
    DiskOk c.d ∧ c.acked ≤ c.hist.length ∧ c.hist.length ≤ c.acked + 1 ∧
      (∃ pre, prog = pre ++ c.prog ∧ c.hist = pre.filterMap Op.accepted) ∧
      ∃ d' s, recover c.d o = .ok (d', s) ∧
        (abs s = applySpec (logical d0) (c.hist.take c.acked) ∨ abs s = applySpec (logical d0) c.hist) := by
  intro c
  obtain ⟨h1, h2, h3, hpre, d', s, p, hr, _, hp2, hp3, hp4⟩ := interleaved_good d0 h0 o0 d1 s1 hr0 prog false sched o
  refine ⟨h1, h2, h3, hpre, d', s, hr, ?_⟩
  rw [hp4]
  exact (take_acked_or_all c.hist (hp3 rfl) hp2 h3).imp (congrArg _) (congrArg _)

/-- the same from the empty directory: the reference starts from the empty map -/
theorem crash_safe_sync_interleaved_fresh (o0 : Opts) (prog : List Op) (sched : List Mv) (o : Opts) :
    ∃ d1 s1, recover {} o0 = .ok (d1, s1) ∧
      let c := FSI.run false (start d1 (openedVol s1) prog) sched
      DiskOk c.d ∧ ∃ d' s, recover c.d o = .ok (d', s) ∧
        (abs s = applySpec (fun _ => none) (c.hist.take c.acked) ∨ abs s = applySpec (fun _ => none) c.hist) := by
  have h0 : DiskOk ({} : Disk) := by decide +kernel
  obtain ⟨d1, s1, hr0⟩ := recover_ok {} h0 o0
  refine ⟨d1, s1, hr0, ?_⟩
  obtain ⟨g1, _, _, _, d', s, hr, hor⟩ := crash_safe_sync_interleaved {} h0 o0 d1 s1 hr0 prog sched o
  exact ⟨g1, d', s, hr, hor⟩

/-- the flusher's moves make the calls of the sequential model's `flushEvs`; the compactor's tie (`compactCalls_eq`,
`kstart_run`) is in Proofs/FSInterleaveTies.lean, where `rotateCalls_eq`, `logCalls_eq` write `rotateEvs` / `logEvs` out -/
theorem flusher_calls (v : Vol) (on : Nat) (ro : List Mutation) (hp : v.s.flushPending = true) (hr : v.s.r ≠ [])
    (ho : v.walOld = some on) :
    (flushEvs v).1 = flushCalls { r := v.s.r, ro := ro, on := on, g := v.s.gen + 1, stage := 0 } :=
  flushCalls_eq v on ro hp hr ho

/-! ### non-vacuity -/

def d1 : Disk := { walDir := true, wal := [{ num := 0 }] }
def c0 (prog : List Op) : Cfg := start d1 { s := { isOpen := true } } prog
def put1 : List Mv := [.begin, .torn, .append, .done, .close, .create, .header, .handoff]
def fl7 : List Mv := [.fstep, .fstep, .fstep, .fstep, .fstep, .fstep, .fadd]

/-- a flush whose table files are written BETWEEN (and inside) two client puts, the crash in the middle: table 1 is
unfinished, its WAL file is still there, Put 2 is acknowledged, Put 3 is in flight (a piece of its record written) -/
def prog1 : List Op := [.put [1] [1] true, .put [2] [2] false, .put [3] [3] false]
def sched1 : List Mv := put1 ++ [.begin, .fstep, .torn, .fstep, .append, .fstep, .done, .begin, .fstep, .torn]

example : trace false (c0 prog1) sched1 =
    [.walTorn 0, .walAppend 0 (.put [1] [1]), .walClose 0, .walCreate 1, .walHeader 1, .tblMkdir 1, .walTorn 1,
     .tblLoadable 1 [], .walAppend 1 (.put [2] [2]), .tblMetaCreate 1, .tblProgress 1, .walTorn 1] := by decide +kernel

example :
    let c := FSI.run false (c0 prog1) sched1
    c.d.tables = [(1, .part false)] ∧ c.d.wal.map (fun f => (f.num, f.recs.length, f.torn)) = [(0, 1, false), (1, 1, true)] ∧
      c.hist.length = 3 ∧ c.acked = 2 ∧ DiskOk c.d ∧ [[1], [2], [3]].map (logical c.d) = [some [1], some [2], none] := by
  decide +kernel

/-- reflect's deletions interleaved with a flush: tables 1 and 2 are being replaced by their merge (table 1 gone,
table 2 half deleted after having been seen as a legacy table) while the flusher writes table 3 -/
def prog2 : List Op := [.put [1] [1] true, .put [2] [2] true, .del [1], .put [3] [3] true]
def sched2 : List Mv := put1 ++ fl7 ++ put1 ++ fl7 ++ [.begin, .torn, .append, .done] ++ put1 ++
  [.kstart [1, 1] 0 { maxSize := 100 }, .kstep none, .kstep none, .kstep none, .kstep none, .kstep none, .kreflect,
   .kstep none, .fstep, .kstep none, .fstep, .kstep none, .fstep, .kstep (some [([2], some [9])]), .fstep, .kstep none]

example : (trace false (c0 prog2) sched2).drop 33 =
    [.compFlag 1 { inputs := [1, 2], replacement := 1 }, .tblUnlinkPart 1 true, .tblMkdir 3, .tblUnlinkPart 1 false,
     .tblLoadable 3 [], .tblRmdir 1, .tblMetaCreate 3, .tblLoadable 2 [([2], some [9])], .tblProgress 3,
     .tblUnlinkPart 2 true] := by decide +kernel

example :
    let c := FSI.run false (c0 prog2) sched2
    c.d.tables = [(2, .part true), (3, .part false)] ∧ c.d.comps.length = 1 ∧ c.acked = 4 ∧ DiskOk c.d ∧
      [[1], [2], [3]].map (logical c.d) = [none, some [2], some [3]] := by
  decide +kernel

end SST.C02.Interleave
