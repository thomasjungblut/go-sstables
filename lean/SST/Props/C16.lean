/-
C16 — Skip-list map and merge heap behave as a sorted map and a sorted k-way merge.
-/
import SST.Proofs.SkipList
import SST.Proofs.PQ
namespace SST.C16
open SST SkipList PQ

variable {K V : Type}

/-- the reference `sortedOf` is the sorted map: strictly ascending and a permutation of the insertions -/
theorem sortedOf_spec (cmp : K → K → Ordering) (hl : LawfulCmp cmp) (ins : List (K × V))
    (hd : DistinctKeys cmp (ins.map (·.1))) :
    StrictAsc cmp (sortedOf cmp ins) ∧ (sortedOf cmp ins).Perm ins :=
  Proofs.sortedOf_spec cmp hl ins hd

/-- For any set of distinct keys inserted in any order with any node heights ≥ 1 under any consistent
comparator: size, Get, Contains and the full / starting-at / between iterators equal the sorted map's
answers; lower > upper is rejected. -/
theorem skiplist_refines (cmp : K → K → Ordering) (hl : LawfulCmp cmp) (ins : List (K × V × Nat))
    (hd : DistinctKeys cmp (ins.map (·.1))) (hh : ∀ x ∈ ins, 1 ≤ x.2.2) :
    ∃ s : SkipList K V, insertAll cmp SkipList.empty ins = some s ∧
      let m := sortedOf cmp (ins.map fun x => (x.1, x.2.1))
      s.size = ins.length ∧
      iterAll s = m ∧
      (∀ k, get cmp s k = specGet cmp m k) ∧
      (∀ k, contains cmp s k = (specGet cmp m k).isSome) ∧
      (∀ k, iterFrom cmp s k = specFrom cmp m k) ∧
      (∀ lo hi, iterBetween cmp s lo hi = specBetween cmp m lo hi) :=
  Proofs.skiplist_refines cmp hl ins hd hh

theorem insert_duplicate_rejected (cmp : K → K → Ordering) (hl : LawfulCmp cmp) (ins : List (K × V × Nat))
    (hd : DistinctKeys cmp (ins.map (·.1))) (hh : ∀ x ∈ ins, 1 ≤ x.2.2)
    (s : SkipList K V) (hs : insertAll cmp SkipList.empty ins = some s)
    (k : K) (v : V) (h : Nat) (hk : ∃ x ∈ ins, cmp k x.1 = .eq) :
    insert cmp s k v h = none :=
  Proofs.insert_duplicate_rejected cmp hl ins hd hh s hs k v h hk

/-- k-way merge of non-descending inputs: every element of every input exactly once, non-descending, with
its input's identity. -/
theorem pq_sorted_merge (cmp : K → K → Ordering) (hl : LawfulCmp cmp) (inputs : List (List (K × V)))
    (hs : ∀ l ∈ inputs, NonDesc cmp l) :
    (drain cmp inputs).Pairwise (fun a b => cmp a.1 b.1 ≠ .gt) ∧
    (drain cmp inputs).Perm (Proofs.tagged inputs) :=
  Proofs.pq_sorted_merge cmp hl inputs hs

theorem pq_per_input_order (cmp : K → K → Ordering) (hl : LawfulCmp cmp) (inputs : List (List (K × V)))
    (hs : ∀ l ∈ inputs, NonDesc cmp l) (i : Nat) (hi : i < inputs.length) :
    ((drain cmp inputs).filter (fun o => o.2.2 == i)).map (fun o => (o.1, o.2.1)) = inputs[i] :=
  Proofs.pq_per_input_order cmp hl inputs hs i hi

/-- non-vacuity: a concrete input meets `DistinctKeys` (that `compare` on Nat is a consistent comparator is the
first example of Props/C16_Ptr.lean) -/
example : DistinctKeys (compare : Nat → Nat → Ordering) [3, 1, 2] := by
  simp [DistinctKeys]

end SST.C16
