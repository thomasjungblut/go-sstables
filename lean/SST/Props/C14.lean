/-
C14 — The memstore behaves as a map with tombstones; a flush hands the table writer (`WriteNext` calls) exactly
the reference map's entries — the live ones for `Flush`, all of them (a tombstone with a nil value) for
`FlushWithTombstones` — in ascending key order.
Property theorems only; lemmas live in SST/Proofs/MemStore.lean.

Vocabulary: `prog : List (Op × Nat)` is any sequence of calls (keys and values are `GoBytes`, so nil, empty and
non-empty keys/values are all covered), each paired with the node height `randomHeight` draws if the call
inserts (`HeightsOk`: heights ≥ 1; every result is independent of them).  `run MemStore.empty prog` is the
model of memstore.go (skip list of value pointers + heap of slices + `estimatedSize` in `Int`);
`refRun [] ops` is the reference map (`Bytes → absent | tomb | val v` as a strictly ascending association
list, SST/Spec/MemStore.lean).  `finalM prog` / `finalR prog` are the two states after the program.
Nil keys: `Add`/`Upsert` reject them (KeyNil, checked before ValueNil); `Delete`, `DeleteIfExists`,
`Tombstone`, `Get`, `Contains`, `IsTombstoned` do not check and treat nil as the empty key, as coded.
-/
import SST.Proofs.MemStore
namespace SST.C14
open SST SST.Mem SST.Proofs.MemP

/-- Every result and every error of every call of every program equals the reference map's; in particular
the model never reaches a Go panic (duplicate skip-list insert, wild value pointer). -/
theorem memstore_refines (prog : List (Op × Nat)) (hh : HeightsOk prog) :
    (run MemStore.empty prog).1 = (refRun [] (prog.map (·.1))).1 ∧
    Res.panic ∉ (run MemStore.empty prog).1 := by
  have h := (final_sim prog hh).1
  exact ⟨h, h ▸ refRun_no_panic _ _⟩

/-- The reference really is a map: reading after `put` returns the new cell for that key and the old
answer for every other key (so `refStep` is "a map in which a deleted key stays present as a tombstone"). -/
theorem refmap_get_put (k k' : Bytes) (c : Cell) (r : RefMap) :
    RefMap.get k' (RefMap.put k c r) = if k' = k then some c else RefMap.get k' r :=
  ref_get_put k k' c r

/-- After any program the `SStableIterator` yields exactly the reference map's entries (keys up to
nil = empty), nil values for tombstones, in strictly ascending key order. -/
theorem iter_sorted_with_tombstones (prog : List (Op × Nat)) (hh : HeightsOk prog) :
    ∃ l, iter (finalM prog) = some l ∧
      l.map (fun e => (e.1.getD [], e.2)) = (finalR prog).entries ∧
      StrictAsc goCmp l := by
  obtain ⟨_, hw, hv⟩ := final_sim prog hh
  rw [← hv]
  exact iter_spec hw

/-- `Size()` counts live and tombstoned keys. -/
theorem size_counts_tombstones (prog : List (Op × Nat)) (hh : HeightsOk prog) :
    (finalM prog).sl.size = (finalR prog).liveCount + (finalR prog).tombCount := by
  obtain ⟨_, _, hv⟩ := final_sim prog hh
  rw [← length_eq_live_add_tomb, ← hv, view_length]

/-- The running size estimate, computed in `Int` with the Go expressions, equals Σ (|key| + |value|) over
the reference map's entries (a tombstone has 0 value bytes) after every program — hence after every
call — and so is never negative: the Go `uint64` never wraps below zero.
(`EstimatedSizeInBytes` = `uint64(1.15*float32(·))` of this number is float arithmetic outside the model;
the harness checks it against the Go value computed from the reference sum.) -/
theorem size_estimate_exact (prog : List (Op × Nat)) (hh : HeightsOk prog) :
    (finalM prog).est = (((finalR prog).bytes : Nat) : Int) ∧ 0 ≤ (finalM prog).est := by
  obtain ⟨_, hw, hv⟩ := final_sim prog hh
  have := hw.est
  rw [hv] at this
  exact ⟨this, by rw [this]; exact Int.natCast_nonneg _⟩

/-- `Flush`: the `WriteNext(k, v)` calls are the reference map's live entries (tombstoned keys left out),
strictly ascending, and the writer's key-order check accepts every one of them. -/
theorem flush_eq_map (prog : List (Op × Nat)) (hh : HeightsOk prog) :
    ∃ calls, flushCalls (finalM prog) false = some calls ∧
      flush (finalM prog) false = some (.ok calls) ∧
      calls.map (fun e => (e.1.getD [], e.2)) = (finalR prog).liveEntries ∧
      StrictAsc goCmp calls :=
  final_flush_spec prog hh false

/-- `FlushWithTombstones`: the calls are all entries of the reference map, nil value for a tombstone. -/
theorem flushWithTombstones_eq_map (prog : List (Op × Nat)) (hh : HeightsOk prog) :
    ∃ calls, flushCalls (finalM prog) true = some calls ∧
      flush (finalM prog) true = some (.ok calls) ∧
      calls.map (fun e => (e.1.getD [], e.2)) = (finalR prog).entries ∧
      StrictAsc goCmp calls := by
  obtain ⟨calls, h1, h2, h3, h4⟩ := final_flush_spec prog hh true
  exact ⟨calls, h1, h2, h3.trans (List.filter_eq_self.2 fun _ _ => rfl), h4⟩

/-- The comparator the memstore hands to the skip list and to the table writer is consistent. -/
theorem goCmp_lawful : LawfulCmp goCmp := Proofs.MemP.goCmp_lawful

/-! Quirks of the code as it is, as concrete facts about the model (each also exercised on the Go code by
the `mem` stream). -/

/-- `Tombstone(nil)` is accepted and tombstones the EMPTY key; the stored key is nil (the iterator hands
out a nil key), `Get([]byte{})` then answers KeyTombstoned, and the estimate stays 0. -/
theorem tombstone_nil_key_is_empty_key :
    (run MemStore.empty [(.tombstone none, 1), (.get (some []), 1), (.size, 1)]).1
        = [.err none, .got none (some .keyTombstoned), .size 1] ∧
    iter (finalM [(.tombstone none, 1)]) = some [(none, none)] ∧
    (finalM [(.tombstone none, 1)]).est = 0 := by
  decide +kernel

/-- `DeleteIfExists` of an absent key leaves no tombstone, `Delete` of it fails, `Delete` of a tombstoned
key succeeds again, `Add` over a tombstone succeeds, a stored empty value is a live value. -/
theorem delete_quirks :
    (run MemStore.empty
      [(.deleteIfExists (some [1]), 1), (.size, 1), (.delete (some [1]), 1),
       (.tombstone (some [1]), 2), (.delete (some [1]), 1), (.add (some [1]) (some []), 1),
       (.get (some [1]), 1), (.add (some [1]) (some [7]), 1), (.add none none, 1), (.add (some []) none, 1)]).1
      = [.err none, .size 0, .err (some .keyNotFound),
         .err none, .err none, .err none,
         .got (some []) none, .err (some .keyAlreadyExists), .err (some .keyNil), .err (some .valueNil)] := by
  decide +kernel

/-! Non-vacuity: a concrete program meets `HeightsOk`, and the theorems' conclusions evaluate on it. -/

example : HeightsOk [(.add (some [2]) (some [9, 9]), 3), (.tombstone (some [1]), 1),
    (.upsert (some [2]) (some []), 12), (.delete (some [2]), 1), (.add (some [2]) (some [5]), 2)] := by
  unfold HeightsOk; decide

example : flush (finalM [(.add (some [2]) (some [9, 9]), 3), (.tombstone (some [1]), 1),
    (.upsert (some [3]) (some []), 12)]) true
    = some (.ok [(some [1], none), (some [2], some [9, 9]), (some [3], some [])]) := by
  rfl

example : flush (finalM [(.add (some [2]) (some [9, 9]), 3), (.tombstone (some [1]), 1),
    (.upsert (some [3]) (some []), 12)]) false
    = some (.ok [(some [2], some [9, 9]), (some [3], some [])]) := by
  rfl

end SST.C14
