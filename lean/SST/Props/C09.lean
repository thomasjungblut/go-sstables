/-
C09 — A damaged SSTable data file is detected, never served as different data.
Property theorems only; lemmas live in SST/Proofs/SSTableDamage.lean (and the CRC-64 single-byte law in
SST/Proofs/Crc.lean).  The checksum stored in the index for a value is `valueSum v` = CRC-64/ISO of its
bytes; nil and empty values have checksum 0, which is also the reader's "legacy" bypass value.
-/
import SST.Proofs.SSTableDamage
namespace SST.C09
open SST Generated

/-- The decision logic of a verified read, as coded (swallowed bare `io.EOF` and zero-checksum bypass
included), for ANY data file bytes and ANY index entry: a `Get` / scan step that returns a value without
error returns one whose CRC-64 equals the stored checksum, unless the stored checksum is 0.
Three forms: `getValueAtOffset` (Get, ScanStartingAt, ScanRange, validation on load), the index scan loop,
and the full scan paired with the sequential reader. -/
theorem verified_read_sound (dc : Compression) (data : Bytes) :
    (∀ iv v', getValueAtOffset dc data iv false = .ok v' → valueSum v' = iv.sum ∨ iv.sum = 0) ∧
    (∀ es fin, ∀ p ∈ (scanWith dc data false es fin).1,
      ∃ e ∈ es, p.1 = e.1 ∧ (valueSum p.2 = e.2.sum ∨ e.2.sum = 0)) ∧
    (∀ es fin s, ∀ p ∈ (fullScanS dc false es fin s).1,
      ∃ e ∈ es, p.1 = e.1 ∧ (valueSum p.2 = e.2.sum ∨ e.2.sum = 0)) :=
  ⟨fun iv v' h => Proofs.Sst.verified_get_sound dc data iv v' h,
   fun es fin => Proofs.Sst.scanWith_sound dc data es fin,
   fun es fin s => Proofs.Sst.fullScanS_sound dc es fin s⟩

/-- Verification on load (the default; whatever the read option): whatever the three files contain, if
`openTable` succeeds then every indexed entry is served with a value whose CRC-64 is the stored one
(or the stored one is 0).  `openTable` is `NewSSTableReader` for the current format: it fails on metadata of
version 0, where the Go reader opens the table and verifies nothing (Props/C03_V0.lean). -/
theorem load_verified_sound (comps : Nat → Compression) (k : LoaderKind) (o : ReadOpts) (t : Table)
    (bloom : Option (Bytes → Bool)) (r : Reader) (idx : Index) (hv : o.skipHashOnLoad = false)
    (h : openTable comps k o t bloom = .ok (r, idx)) :
    ∀ e ∈ idx.all.1, ∃ v, r.getWith (.ok e.2) = .ok v ∧ (valueSum v = e.2.sum ∨ e.2.sum = 0) :=
  Proofs.Sst.load_verified_sound comps k o t bloom r idx hv h

/-- Compression none, a value `v` whose checksum is not 0, its record anywhere in the data file
(`pre ++ record ++ rest`): ANY single-byte change inside the payload makes the verified read at its offset
fail with a checksum error. -/
theorem payload_alteration_detected (pre rest v : Bytes) (j : Nat) (hj : j < v.length) (x : UInt8)
    (hx : x ≠ v[j]) (hfit : v.length < 2 ^ 64) (hz : valueSum (some v) ≠ 0) :
    getValueAtOffset none
      ((pre ++ encRecord none (some v) ++ rest).set (pre.length + (encHeader false v.length 0).length + j) x)
      ⟨pre.length, valueSum (some v)⟩ false = .error .checksum :=
  Proofs.Sst.payload_alteration_detected pre rest v j hj x hx hfit hz

/-- ANY shortening of `data.rio` of the table of `kvs` (cut at any length `n`, any lawful compressor):
the verified read of key `i` returns the original value or an error, provided its stored checksum is not 0.
(With checksum 0 a cut exactly at the start of the record returns nil without error: the swallowed EOF.) -/
theorem truncation_detected (cfg : SstCfg) (kvs : List KV) (hl : LawfulC cfg.dc)
    (hf : ∀ p ∈ kvs, FitsRec cfg.dc p.2) (i : Nat) (hi : i < kvs.length) (hz : valueSum kvs[i].2 ≠ 0) (n : Nat) :
    let iv : IndexVal := ⟨offsetOf cfg.dc (kvs.map (·.2)) i, valueSum kvs[i].2⟩
    getValueAtOffset cfg.dc ((dataFileOf cfg kvs).take n) iv false = .ok kvs[i].2 ∨
    ∃ e, getValueAtOffset cfg.dc ((dataFileOf cfg kvs).take n) iv false = .error e :=
  Proofs.Sst.truncation_detected cfg kvs hl hf i hi hz n

/-- the index entry used above is the one the table holds for key `i` -/
theorem entry_of_key (dc : Compression) (kvs : List KV) (i : Nat) (hi : i < kvs.length) :
    ((entriesOf dc kvs)[i]'(by unfold entriesOf; rw [Proofs.Sst.entriesFrom_length]; exact hi)).2 =
      ⟨offsetOf dc (kvs.map (·.2)) i, valueSum kvs[i].2⟩ := by
  have := Proofs.Sst.entriesFrom_getElem dc kvs fileHeaderSize i hi
  simpa [entriesOf, offsetOf, List.map_take] using this

/-- a different value with the same CRC-64: the residual no checksum can exclude -/
def Crc64Coincides (v' v : GoBytes) : Prop := v' ≠ v ∧ valueSum v' = valueSum v

/-- General damage (ANY replacement `data'` of the data file, any compression): a verified read of a key
whose stored checksum is not 0 yields an error, the original value, or a value whose CRC-64 coincides with
the original's.  The last disjunct is the honest residual of a 64-bit checksum; header damage and damage
inside compressed payloads fall under it. -/
theorem damage_sound (dc : Compression) (data' : Bytes) (v : GoBytes) (off : Nat) (hz : valueSum v ≠ 0) :
    (∃ e, getValueAtOffset dc data' ⟨off, valueSum v⟩ false = .error e) ∨
    getValueAtOffset dc data' ⟨off, valueSum v⟩ false = .ok v ∨
    ∃ v', getValueAtOffset dc data' ⟨off, valueSum v⟩ false = .ok v' ∧ Crc64Coincides v' v := by
  cases h : getValueAtOffset dc data' ⟨off, valueSum v⟩ false with
  | error e => exact Or.inl ⟨e, rfl⟩
  | ok v' =>
    rcases Proofs.Sst.damage_sound dc data' v off v' hz h with h1 | h1
    · exact Or.inr (Or.inl (by rw [h1]))
    · exact Or.inr (Or.inr ⟨v', rfl, h1⟩)

/-- FINDING (the "legacy" bypass reaches non-empty values): a value whose CRC-64 is 0 is not protected at
all — ANY bytes of the same length found in its payload are returned by the verified read without error. -/
theorem zero_checksum_unprotected (pre rest v v' : Bytes) (hlen : v'.length = v.length) (hfit : v.length < 2 ^ 64)
    (hz : valueSum (some v) = 0) :
    getValueAtOffset none (pre ++ encRecord none (some v') ++ rest) ⟨pre.length, valueSum (some v)⟩ false = .ok (some v') :=
  Proofs.Sst.zero_checksum_unprotected pre rest v v' hlen hfit hz

/-- such values exist: these eight bytes are non-empty and their CRC-64/ISO is 0 -/
theorem zero_checksum_value : valueSum (some [0xf4, 0x42, 0x2f, 0xf4, 0x42, 0x2f, 0xf4, 0x12]) = 0 := by
  decide +kernel

/-- non-vacuity of the `valueSum ≠ 0` hypotheses: an ordinary value -/
example : valueSum (some [1, 2, 3]) ≠ 0 := by decide +kernel

end SST.C09
