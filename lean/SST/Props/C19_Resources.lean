/-
C19 (resource-flow tie) — the STATIC half of "released by Close".  `Props/C19.lean` proves the bookkeeping of the
hand-written handle model and the `handles` stream counts /proc/self/fd, /proc/self/maps and goroutines on sampled runs;
both are silent about the ERROR paths of the library ("a failing Open/Close … outside the layer model").  Here the
quantifier is the SOURCE: `SST.Generated.ResFlow.acquisitions` / `releases` are regenerated from /repo by tools/resfacts
(go/types) before every proof build:
  * one row per call that hands out something that has to be given back (a result type with `Close()`, a `time.Ticker`, a
    `go` statement, a call that leaves resources behind in the receiver / a parameter) in EVERY function of 28 files, with
    what becomes of the value on every path of the enclosing function (worst over the paths);
  * for every `Close` method (and `reflectCompactionResult`, `Appender.Rotate`) one row per OWNED field of the receiver.
The theorems below are decided over those finite tables, so each is a statement about the code as it is today (up to the
tool's classification; vocabulary in the header of tools/resfacts/main.go), not a sample.  Line numbers are carried in the
table for the reader and never used here.

Every text the theorems quote is a go/types IDENTITY (tools/resfacts/canon.go), not source text: a callee is `pkg.Func` or
`<type of the root variable>.<field path>.Method` with packages by module-relative / import path (`recordio/proto.NewReader`
whatever the import is called, `sstables.SSTableStreamWriter.Open` for `writer.Open()` whatever the local is called); a
place is the field path under the TYPE of its root (`sstables.SSTableStreamWriter.indexWriter`), a local that merely receives
a value is named by its type, or by the field of the local object it is put into (`sstables.SSTableReader.index`);
conditions are in a normal form (`errNonNil`, `nonNil(x)` / `isNil(x)`, comparisons by == and <, a local with one
definition replaced by what defines it, an else branch as the negated condition); the failing step of an error return is the
CALL WHOSE ERROR THE RETURN REPORTS (followed through `fmt.Errorf("…%w", err)` and the error variable's reaching
definition), however the `if` around the `return` is spelled, listed in the order in which the calls stand in the source.
Renaming a local / receiver / parameter / import alias / private function, inverting an if / else, re-wording a message,
adding a log line or wrapping an error with %w does not change a row; renaming a FIELD or an exported function that a theorem
names does.

Ten FINDINGs — genuine leaks on error paths, each reproduced on the real code by the tests in tools/resfacts/findings/ —
have been repaired in /repo (F1 ef70dba, F2 5d579b7, F3 3b4867f, F4 a9ebc7d + a7ed007, F5 8cb5d77, F6 2af272a, F7 edfc7e7,
F8 b2bab73, F9 bfb8835, F10 9faa0b1; 6dd9211 moved the goroutines' done signal out of their `defer`): NO row of the exception
lists below is a known leak.  What is left in them is (a) rows the tool keeps because its walk is INTRAPROCEDURAL (it does not know that a callee which failed has already given
back what it had opened, or that the caller gives back what this function stored) and (b) returns guarded by internal
invariants — each with its reason.  The repaired rows are stated with their NEW dispositions in
`failed_constructors_give_back_what_they_opened`, `scanners_registered_with_their_reader`, `compaction_closes_what_it_opened`,
`db_close_joins_goroutines_then_closes_wal_and_readers`, so that reversing a repair makes a named theorem fail.
tools/resfacts/validate.sh replays the seeded changes of this kind (C19-m1…m6, C11-m4, C02-m2), three hand-written
regressions and the reversed repairs on scratch overlays and shows which theorem stops building.
-/
import SST.Generated.ResFlow
namespace SST.C19.Resources
open SST.Generated.ResFlow

def acqOf (f : String) : List Acq := acquisitions.filter (fun r => r.fn == f)
def relOf (f : String) : List Rel := releases.filter (fun r => r.fn == f)

/-- the same rows, in any order (rows that stand in the two arms of one conditional have no order worth stating: inverting
an `if … else` swaps them) -/
def sameRows {α : Type} [DecidableEq α] (a b : List α) : Bool :=
  a.length == b.length && a.all (b.contains ·) && b.all (a.contains ·)

def isUnknown : Disp → Bool
  | .unknown _ => true
  | _ => false

def isStored : Disp → Bool
  | .storedIn _ => true
  | _ => false

/-- ownership leaves the function in an orderly way -/
def handedOver : Disp → Bool
  | .returned => true
  | .handedTo _ => true
  | .storedIn _ => true
  | .joinedVia _ => true
  | _ => false

def isNotClosed : RDisp → Bool
  | .notClosed _ => true
  | _ => false

/-- The functions the statements below speak about exist, every examined file exists, nothing listed was lost: a renamed or
removed function would otherwise silently take its rows — and the obligations about them — out of the tables. -/
theorem listed_functions_found :
    files.all (·.2) = true ∧ files.length = 28 ∧
    functions.all (·.found) = true ∧
    ["recordio.NewFileReader", "recordio.NewFileWriter", "recordio.NewMemoryMappedReaderWithPath",
     "BufferedIOFactory.CreateNewReader", "BufferedIOFactory.CreateNewWriter", "DirectIOFactory.CreateNewReader",
     "DirectIOFactory.CreateNewWriter", "FileReader.Close", "MMapReader.Close", "FileWriter.Close",
     "rproto.NewReader", "rproto.NewWriter", "rproto.NewMMapProtoReaderWithPath", "rproto.Writer.Close",
     "sstables.NewSSTableReader", "SSTableReader.Scan", "SSTableReader.Close", "sstables.readMetaDataIfExists",
     "SSTableStreamWriter.Open", "SSTableStreamWriter.Close", "SSTableSimpleWriter.WriteSkipListMap", "SuperSSTableReader.Close",
     "DiskIndexLoader.Load", "DiskKeyIndex.Close", "SliceKeyIndexLoader.Load", "MapKeyIndexLoader.Load", "SkipListIndexLoader.Load",
     "memstore.flushMemstore", "wal.NewAppender", "wal.setupNextWriter", "Appender.Rotate", "Appender.Close",
     "Replayer.replayFile", "wal.NewWriteAheadLog", "DB.Open", "DB.Close", "simpledb.executeFlush",
     "simpledb.executeCompaction", "simpledb.saveCompactionMetadata", "SSTableManager.reflectCompactionResult",
     "SSTableManager.addReader", "DB.repairCompactions", "DB.reconstructSSTables", "DB.replayAndSetupWriteAheadLog",
     "simpledb.flushMemstoreContinuously", "simpledb.backgroundCompaction"].all
        (fun n => functions.any (fun f => f.name == n && f.found)) = true ∧
    functions.all (fun f => (acqOf f.name).length == f.nAcq && (relOf f.name).length == f.nRel) = true := by decide +kernel

/-- The tool could classify every acquisition, and NO acquisition is lost on a path that reports success: no result of an
acquiring call is dropped or assigned to `_`, no variable holding an open resource is overwritten or goes out of scope, no
plain `return` leaves one behind, none is handed to a goroutine, stored in something the walk cannot follow, or sits behind
a `goto`.  Excludes C19-m6 (the deferred `reader.Close()` of WAL replay moved behind the `Open` error handling: the
tolerated short last file then returns nil with the descriptor open — `neverClosed`) and R3 (compaction inputs never
closed). -/
theorem every_acquisition_accounted_for :
    acquisitions.all (fun r => !isUnknown r.disp && r.disp != Disp.neverClosed) = true := by decide +kernel

/-- The explicit exceptions of `no_leak_on_error_paths`: (function, acquiring call, the failing steps whose error return
leaves the resource open). -/
def allowedErrorPathLeaks : List (String × String × List String) :=
  [ -- NOT a leak since 3b4867f, kept by the tool because its walk is intraprocedural: `NewSSTableStreamWriter` opens nothing
    -- (the tool lists it because the result type has `Close()`), and a `writer.Open()` that fails has closed whatever it had
    -- opened before it returns (`failed_constructors_give_back_what_they_opened`: every resource `Open` stores is released by
    -- its deferred clean-up under `err != nil`, no failing step is left after a store).  The callers still return without
    -- `writer.Close()` on that path — there is nothing left to close (reproductions F3 / F3b pass on the current tree).
    ("memstore.flushMemstore", "sstables.NewSSTableStreamWriter", ["sstables.SSTableStreamWriter.Open"]),
    ("simpledb.executeCompaction", "sstables.NewSSTableStreamWriter", ["sstables.SSTableStreamWriter.Open"]),
    -- internal invariant (the replacement path is one of the inputs — `i < 0` for the index of the replacement path among
    -- the current readers): not reachable
    ("SSTableManager.reflectCompactionResult", "sstables.NewSSTableReader",
      ["simpledb.indexOfReader(simpledb.SSTableManager.allSSTableReaders, simpledb/proto.CompactionMetadata.ReplacementPath) < 0"]) ]

/-- EXACTLY these acquisitions are reported as left open by an error return, at exactly these failing steps — none of them a
real leak (reasons at the list; the genuine leaks were repaired in /repo by ef70dba, 8cb5d77, 5d579b7, 3b4867f, a9ebc7d, a7ed007,
bfb8835, 9faa0b1); every other acquisition of the 28 files is closed, handed over or stored on every error
path between its creation and its release / hand-over.
Excludes: any of the repaired shapes coming back (a `defer x.Close()` registered after the fallible `x.Open()`; a deferred
close of the compaction inputs registered after the loop that opens them; a constructor that opens a second resource and
fails without closing the first), an `if err != nil { return … }` added between a constructor and its `defer x.Close()`, a `defer` moved below a
fallible step (C19-m6 on its error branch), a new fallible step in a constructor after a file was opened, a `Close` dropped
from an error branch (the two error branches of `FileWriter.Close` since 855b3b1 are in `close_methods_release_every_owned_field`). -/
theorem no_leak_on_error_paths :
    (acquisitions.filter (fun r => r.disp == Disp.leakedOnErrorPath)).map (fun r => (r.fn, r.callee, r.leakOn)) =
      allowedErrorPathLeaks := by decide +kernel

/-- Owners that can be left half-built: a resource was stored in the receiver (or in state reached through a parameter) and
a LATER step of the same function returns an error.  Exactly these, none of them a leak (`SSTableStreamWriter.Open` /
`DB.Open` are not among them since 3b4867f / edfc7e7, whose deferred clean-ups the tool sees):
* `SSTableReader.Scan`: the scanner is registered first, `reader.Close()` releases it whatever `index.Iterator()` says;
* `WriteSkipListMap`: the failing step is `streamWriter.Open()` ITSELF, which since 3b4867f closes what it opened before it
  returns (`failed_constructors_give_back_what_they_opened`) — the tool is intraprocedural and only knows that `Open` stores;
* the WAL appender rows: a failed rotation leaves the CLOSED previous writer in place (and since a9ebc7d no half-opened next
  one: `setupNextWriter` below), the caller gets the error;
* flusher / compactor: the goroutine stops with `log.Panicf`, which since 6dd9211 really stops the process (the done signal
  is no longer a deferred send in the way of the panic: `db_open_starts_what_close_joins`, `C02.Order.done_signal_not_on_error_path`);
* `reflectCompactionResult` (`readerIndex < 0`: the index of a compacted input — an element of the metadata's path list —
  among the current readers): internal invariant;
* `DB.reconstructSSTables` / `DB.replayAndSetupWriteAheadLog`: tables loaded (or flushed from the replayed WAL) before a later
  step fails stay in the manager WHEN THESE FUNCTIONS RETURN — their only caller `DB.Open` closes and forgets them in its
  deferred clean-up under `err != nil` (edfc7e7; the `DB.Open` rows in `failed_constructors_give_back_what_they_opened`);
  the rows remain because the walk is intraprocedural (reproduction F7 passes on the current tree). -/
theorem half_built_owners :
    (acquisitions.filter (fun r => !r.errAfterStore.isEmpty)).map (fun r => (r.fn, r.callee, r.errAfterStore)) =
      [("SSTableReader.Scan", "recordio/proto.NewReader", ["sstables.SSTableReader.index.Iterator"]),
       ("SSTableReader.Scan", "recordio.NewFileReader", ["sstables.SSTableReader.index.Iterator"]),
       ("SSTableSimpleWriter.WriteSkipListMap", "sstables.SSTableSimpleWriter.streamWriter.Open",
         ["sstables.SSTableSimpleWriter.streamWriter.Open"]),
       ("Appender.Append", "wal.checkSizeAndRotate", ["wal.checkSizeAndRotate", "wal.Appender.currentWriter.Write"]),
       ("Appender.AppendSync", "wal.checkSizeAndRotate", ["wal.checkSizeAndRotate", "wal.Appender.currentWriter.WriteSync"]),
       ("Appender.Rotate", "wal.setupNextWriter", ["wal.setupNextWriter"]),
       ("wal.checkSizeAndRotate", "wal.Appender.Rotate", ["wal.Appender.Rotate"]),
       ("simpledb.flushMemstoreContinuously", "simpledb.executeFlush", ["simpledb.executeFlush"]),
       ("simpledb.backgroundCompaction", "simpledb.DB.sstableManager.reflectCompactionResult",
         ["simpledb.executeCompaction", "simpledb.DB.sstableManager.reflectCompactionResult"]),
       ("SSTableManager.reflectCompactionResult", "sstables.NewSSTableReader",
         ["simpledb.indexOfReader(simpledb.SSTableManager.allSSTableReaders, elem(simpledb/proto.CompactionMetadata.SstablePaths)) < 0"]),
       ("DB.reconstructSSTables", "sstables.NewSSTableReader",
         ["strconv.ParseUint", "simpledb.removeUnfinishedTable", "sstables.NewSSTableReader"]),
       ("DB.replayAndSetupWriteAheadLog", "simpledb.executeFlush",
         ["simpledb.executeFlush", "os.ReadDir", "os.RemoveAll", "os.MkdirAll", "wal.NewWriteAheadLog"])] := by decide +kernel

/-- The repaired error paths, each stated as the rows it changed — a constructor / `Open` / loader that fails half-way gives
back what it had opened:
* ef70dba: the three in-memory index loaders close their index.rio reader on ALL paths (the `defer` now precedes `reader.Open()`);
* 5d579b7: `NewSSTableReader` — the index, and whichever data reader exists, belong to the reader object from the moment they
  exist (`bound`: the field of the reader object each is put into); a deferred `reader.Close()` under `err != nil` releases
  them when any later step fails; on success they are returned;
* 3b4867f: `SSTableStreamWriter.Open` — index writer, data writer and metadata file are stored in the writer and released by
  the deferred clean-up under `err != nil` (site `deferGuarded(errNonNil)` whether it is spelled `if err != nil { … }` or
  `if err == nil { return }; …` — and only a guard on the function's own NAMED error result counts as "runs when the function
  fails", decided on the variable's identity, not on the text; the nil checks around the three closes test the field being
  closed); NO failing step is left after a store (`errAfterStore` empty);
* a9ebc7d: `setupNextWriter` closes the WAL file writer whose `Open()` failed in the return expression, else stores it;
* 9faa0b1: `NewWriteAheadLog` acquires only the appender, nothing can fail after it (the replayer is created first);
* edfc7e7: `DB.Open` — what `reconstructSSTables` / `replayAndSetupWriteAheadLog` left in the manager is given back by the
  deferred clean-up under `err != nil`; NO failing step is left after a store.
Excludes each of these repairs being reversed, the `err != nil` guard of a clean-up being dropped or changed (the site would
read `defer` / another condition: a clean-up that also runs on success closes the files of a healthy writer / database), and
a new fallible step after a store that the clean-up does not cover. -/
theorem failed_constructors_give_back_what_they_opened :
    (["MapKeyIndexLoader.Load", "SliceKeyIndexLoader.Load", "SkipListIndexLoader.Load"].map
        (fun f => (acqOf f).map (fun r => (r.callee, r.disp, r.sites)))) =
      [[("recordio/proto.NewReader", Disp.closedOnAllPaths, ["defer"])], [("recordio/proto.NewReader", Disp.closedOnAllPaths, ["defer"])],
       [("recordio/proto.NewReader", Disp.closedOnAllPaths, ["defer"])]] ∧
    -- (the index first; then the data reader of the table's version — two arms of one conditional, in either order)
    ((acqOf "sstables.NewSSTableReader").map (fun r => (r.callee, r.bound, r.disp, r.sites))).head? =
      some ("sstables.SSTableReaderOptions.indexLoader.Load", "sstables.SSTableReader.index", Disp.returned, ["deferGuarded(errNonNil)"]) ∧
    sameRows ((acqOf "sstables.NewSSTableReader").map (fun r => (r.callee, r.bound, r.disp, r.sites, r.cond)))
      [("sstables.SSTableReaderOptions.indexLoader.Load", "sstables.SSTableReader.index", Disp.returned, ["deferGuarded(errNonNil)"], ""),
       ("recordio/proto.NewMMapProtoReaderWithPath", "sstables.SSTableReader.v0DataReader", Disp.returned, ["deferGuarded(errNonNil)"],
        "sstables/proto.MetaData.Version == 0"),
       ("recordio.NewMemoryMappedReaderWithPath", "sstables.SSTableReader.dataReader", Disp.returned, ["deferGuarded(errNonNil)"],
        "sstables/proto.MetaData.Version != 0")] = true ∧
    (acqOf "SSTableStreamWriter.Open").map (fun r => (r.callee, r.disp, r.sites)) =
      [("recordio/proto.NewWriter", Disp.storedIn "sstables.SSTableStreamWriter.indexWriter", ["deferGuarded(errNonNil)"]),
       ("recordio.NewFileWriter", Disp.storedIn "sstables.SSTableStreamWriter.dataWriter", ["deferGuarded(errNonNil)"]),
       ("os.OpenFile", Disp.storedIn "sstables.SSTableStreamWriter.metaDataFile", ["deferGuarded(errNonNil)"])] ∧
    (acqOf "wal.setupNextWriter").map (fun r => (r.callee, r.disp, r.sites)) =
      [("wal.Appender.walOptions.writerFactory", Disp.storedIn "wal.Appender.currentWriter", ["return"])] ∧
    (acqOf "wal.NewWriteAheadLog").map (fun r => (r.callee, r.disp)) = [("wal.NewAppender", Disp.returned)] ∧
    ((acqOf "DB.Open").filter (fun r => r.kind == "state")).map (fun r => (r.callee, r.disp, r.sites)) =
      [("simpledb.DB.reconstructSSTables", Disp.storedIn "via DB.reconstructSSTables", ["deferGuarded(errNonNil)"]),
       ("simpledb.DB.replayAndSetupWriteAheadLog", Disp.storedIn "via DB.replayAndSetupWriteAheadLog", ["deferGuarded(errNonNil)"])] ∧
    -- no error return leaves any of them open, and no failing step follows a store
    (["MapKeyIndexLoader.Load", "SliceKeyIndexLoader.Load", "SkipListIndexLoader.Load", "sstables.NewSSTableReader",
      "SSTableStreamWriter.Open", "wal.setupNextWriter", "wal.NewWriteAheadLog", "DB.Open"].all
        (fun f => (acqOf f).all (fun r => r.leakOn.isEmpty && r.errAfterStore.isEmpty))) = true := by
  decide +kernel

/-- Every operating-system handle acquired DIRECTLY (os.Open / OpenFile / CreateTemp, directio.OpenFile, mmap.Open) — and this
is the complete list of such calls in the 28 files — is returned to the caller, taken over by the buffered writer built
around it, stored in the table writer, or closed on all paths.  Excludes a new `os.Open` whose handle is only closed on the
success path, and any of these becoming conditional. -/
theorem raw_handles_handed_over_or_closed :
    (acquisitions.filter (fun r => r.kind == "file" || r.kind == "mmap")).map (fun r => (r.fn, r.callee, r.disp)) =
      [("recordio.NewMemoryMappedReaderWithPath", "golang.org/x/exp/mmap.Open", Disp.returned),
       ("BufferedIOFactory.CreateNewReader", "os.OpenFile", Disp.returned),
       ("BufferedIOFactory.CreateNewWriter", "os.OpenFile", Disp.handedTo "recordio.NewWriterBuf"),
       ("DirectIOFactory.CreateNewReader", "github.com/ncw/directio.OpenFile", Disp.returned),
       ("DirectIOFactory.CreateNewWriter", "github.com/ncw/directio.OpenFile", Disp.handedTo "recordio.NewAlignedWriterBuf"),
       ("recordio.IsDirectIOAvailable", "os.CreateTemp", Disp.closedOnAllPaths),
       ("recordio.IsDirectIOAvailable", "github.com/ncw/directio.OpenFile", Disp.closedOnAllPaths),
       ("rproto.NewWriter", "github.com/ncw/directio.OpenFile", Disp.handedTo "recordio.NewFileWriter"),
       ("rproto.NewWriter", "os.OpenFile", Disp.handedTo "recordio.NewFileWriter"),
       ("sstables.readMetaDataIfExists", "os.Open", Disp.closedOnAllPaths),
       ("SSTableStreamWriter.Open", "os.OpenFile", Disp.storedIn "sstables.SSTableStreamWriter.metaDataFile")] := by decide +kernel

/-- What every `Close` method does with every field its receiver owns — the complete list.  A field is released where the
statement stands (`via` without "defer"), unconditionally, except:
* `SSTableStreamWriter.metaDataFile`: closed by a `defer` inside the "metadata present" branch (after the metadata write);
* `DB.Close`: ticker / stop channel / compactor join under `db.enableCompactions`, mirroring `DB.Open`
  (`db_open_starts_what_close_joins`);
* `FileWriter.bufWriter` is never closed itself: it wraps `w.file`, which is closed on all three paths (two error branches
  since 855b3b1 and the regular end) after the explicit `Flush`.
`SSTableStreamWriter.indexWriter` / `dataWriter` stay `closedUnconditionally` after 3b4867f: the only condition around each
close is the nil check of that very field (the tool leaves a condition out that only tests the released field against nil).
The promoted rows are types that are closable only through an embedded field.  Excludes C19-m4 / R1 (file closed only in the
`else` of the truncation: `closedInBranch`), C19-m2 (an early `return` for not-yet-opened readers before `r.file.Close()`:
`skippable`), C02-m2 (index / data writer closed by a `defer`, i.e. AFTER bloom filter and metadata were written), a `Close`
that forgets a newly added field (a new row `notClosed`), closing scanners only when some flag is set. -/
theorem close_methods_release_every_owned_field :
    (releases.filter (fun r => r.fn.endsWith ".Close")).map (fun r => (r.fn, r.field, r.disp, r.via)) =
      [("FileReader.Close", "file", RDisp.closedUnconditionally, ["Close"]),
       ("FileWriter.Close", "file", RDisp.closedUnconditionally, ["Close", "Close", "Close"]),
       ("FileWriter.Close", "bufWriter", RDisp.notClosed "", []),
       ("MMapReader.Close", "mmapReader", RDisp.closedUnconditionally, ["Close"]),
       ("rproto.Writer.Close", "writer", RDisp.closedUnconditionally, ["Close"]),
       ("SSTableReader.Close", "index", RDisp.closedUnconditionally, ["Close"]),
       ("SSTableReader.Close", "v0DataReader", RDisp.closedUnconditionally, ["Close"]),
       ("SSTableReader.Close", "dataReader", RDisp.closedUnconditionally, ["Close"]),
       ("SSTableReader.Close", "miscClosers", RDisp.closedUnconditionally, ["Close"]),
       ("SSTableStreamWriter.Close", "indexWriter", RDisp.closedUnconditionally, ["Close"]),
       ("SSTableStreamWriter.Close", "dataWriter", RDisp.closedUnconditionally, ["Close"]),
       ("SSTableStreamWriter.Close", "metaDataFile", RDisp.closedInBranch "nonNil(sstables.SSTableStreamWriter.metaData)", ["defer Close"]),
       ("SuperSSTableReader.Close", "readers", RDisp.closedUnconditionally, ["Close"]),
       ("DiskKeyIndex.Close", "reader", RDisp.closedUnconditionally, ["Close"]),
       ("Appender.Close", "currentWriter", RDisp.closedUnconditionally, ["Close"]),
       ("DB.Close", "wal", RDisp.closedUnconditionally, ["Close"]),
       ("DB.Close", "sstableManager", RDisp.closedUnconditionally, ["Close"]),
       ("DB.Close", "storeFlushChannel", RDisp.closedUnconditionally, ["close"]),
       ("DB.Close", "doneFlushChannel", RDisp.closedUnconditionally, ["recv"]),
       ("DB.Close", "compactionTicker", RDisp.closedInBranch "simpledb.DB.enableCompactions", ["Stop"]),
       ("DB.Close", "compactionTickerStopChannel", RDisp.closedInBranch "simpledb.DB.enableCompactions", ["send"]),
       ("DB.Close", "doneCompactionChannel", RDisp.closedInBranch "simpledb.DB.enableCompactions", ["recv"]),
       ("rproto.MMapProtoReader.Close", "ReadAtI", RDisp.promoted, ["Close"]),
       ("rproto.Reader.Close", "ReaderI", RDisp.promoted, ["Close"]),
       ("MapKeyIndex.Close", "SliceKeyIndex", RDisp.promoted, ["Close"]),
       ("SliceKeyIndex.Close", "NoOpOpenClose", RDisp.promoted, ["Close"]),
       ("SkipListIndex.Close", "NoOpOpenClose", RDisp.promoted, ["Close"]),
       ("WriteAheadLog.Close", "WriteAheadLogAppendI", RDisp.promoted, ["Close"])] ∧
    -- no early return can leave a Close method before a field is released — except DB.Close (next theorem)
    (releases.filter (fun r => r.fn.endsWith ".Close" && r.fn != "DB.Close")).all (fun r => !r.skippable) = true ∧
    -- the only fields no release operation exists for
    (releases.filter (fun r => isNotClosed r.disp)).map (fun r => (r.fn, r.field)) =
      [("FileWriter.Close", "bufWriter"),
       -- `reflectCompactionResult` REPLACES the stacked reader; its parts are closed one by one
       ("SSTableManager.reflectCompactionResult", "currentReader")] := by decide +kernel

/-- `DB.Close` in source order — which is execution order: the statements stand at the top level of the method or of a
function literal that is called where it stands —: closes the flush channel, waits for the flusher, stops the ticker, tells
the compactor to stop and waits for it, and only THEN closes the WAL and the table readers.  Excludes C19-m1 (WAL and tables
closed before the compactor is joined: a compaction still running inside `Close` re-opens a reader that nobody closes).
The `skippedBy` column: the ONLY early returns that leave `Close` before something is released are the two state checks of the
inner function literal — `!db.open` (nothing was started: `ErrNotOpenedYet`) and `db.closed` (everything was released by
the first `Close`: `ErrAlreadyClosed`).  Since b2bab73 a failed WAL rotation is no longer among them (it used to be the third
exit of the literal — FINDING F8: `closed = true` and NOTHING released); its error is carried to the final `errors.Join`. -/
theorem db_close_joins_goroutines_then_closes_wal_and_readers :
    [1, 2, 3, 4, 5, 6, 7, 8].map (fun k => ((relOf "DB.Close").filter (fun r => r.order == k)).map (·.field)) =
      [["storeFlushChannel"], ["doneFlushChannel"], ["compactionTicker"], ["compactionTickerStopChannel"],
       ["doneCompactionChannel"], ["wal"], ["sstableManager"], []] ∧
    (relOf "DB.Close").all (fun r => !r.inDefer && !r.inLoop) = true ∧
    (relOf "DB.Close").all (fun r => r.skippable && r.skippedBy == ["func literal: !simpledb.DB.open, simpledb.DB.closed"]) = true := by decide +kernel

/-- `DB.Open` starts exactly two goroutines and one ticker; each goroutine announces its end on a channel that `DB.Close`
receives from, and what `Open` starts under `db.enableCompactions` is exactly what `Close` stops / joins under
`db.enableCompactions` — the flusher unconditionally on both sides.  Since 6dd9211 the announcement is NOT a deferred send
(`sites` would read `defer`) but a plain send that is the last statement before EVERY normal exit of the goroutine's function
— one exit in the flusher, two in the compactor (the early return of a database without compactions, and the end) —, and a
path that ends in `log.Panicf` has none: a failed flush / compaction stops the process instead of hanging in a send on the
unbuffered channel that `Close` may never receive from.  Excludes C19-m3 (the compactor started unconditionally while `Close`
joins it only when compactions are enabled: with compactions disabled the goroutine blocks for ever in its send), a ticker
created outside the flag, a goroutine without a completion signal on some normal exit (the row becomes `unknown`), the done
signal moved back into a `defer`. -/
theorem db_open_starts_what_close_joins :
    ((acqOf "DB.Open").filter (fun r => r.kind == "goroutine" || r.kind == "ticker")).map (fun r => (r.callee, r.disp, r.sites, r.cond)) =
      [("simpledb.flushMemstoreContinuously", Disp.joinedVia "simpledb.DB.doneFlushChannel", ["direct"], ""),
       ("time.NewTicker", Disp.storedIn "simpledb.DB.compactionTicker", [], "simpledb.DB.enableCompactions"),
       ("simpledb.backgroundCompaction", Disp.joinedVia "simpledb.DB.doneCompactionChannel", ["direct", "direct"],
         "simpledb.DB.enableCompactions")] ∧
    (acquisitions.filter (fun r => r.kind == "goroutine")).all (fun r => r.fn == "DB.Open") = true ∧
    ((relOf "DB.Close").filter (fun r => r.via == ["recv"])).map (fun r => (r.field, r.disp)) =
      [("doneFlushChannel", RDisp.closedUnconditionally), ("doneCompactionChannel", RDisp.closedInBranch "simpledb.DB.enableCompactions")] ∧
    ((relOf "DB.Close").filter (fun r => r.field == "compactionTicker")).map (·.disp) = [RDisp.closedInBranch "simpledb.DB.enableCompactions"] := by
  decide +kernel

/-- One compaction cycle: the output writer has a guarded deferred close for the error paths AND the direct close before the
success flag is written; the inputs are closed by a deferred loop over the slice they were collected in — since bfb8835
registered BEFORE the loop that opens them and with every reader appended right after it was opened, so that an input that
fails to load or to scan no longer leaves the earlier ones (and itself) open: `closedOnAllPaths` (was FINDING F9); the
flag-file writer by a `defer` that since a7ed007 precedes its `Open`: `closedOnAllPaths`, too.  (`bound`: the writer is held
by a local of type `*SSTableStreamWriter`; every input reader sits in a slot of a local slice of readers — the one the
deferred loop runs over; the guard of the writer's deferred close is a negated boolean local, `!writerClosed` in the source.)
The only row of the cycle
that is not closed on all paths is the intraprocedural `writer.Open` row explained at `allowedErrorPathLeaks`.  Excludes
C11-m4 (the direct close removed: sites become `["defer"]`, the flag is written before the buffers are flushed), R3 (inputs
not closed), bfb8835 / a7ed007 reversed. -/
theorem compaction_closes_what_it_opened :
    (acqOf "simpledb.executeCompaction").map (fun r => (r.callee, r.bound, r.disp, r.sites, r.inLoop)) =
      [("sstables.NewSSTableStreamWriter", "sstables.SSTableStreamWriter", Disp.leakedOnErrorPath, ["deferGuarded(!‹bool›)", "direct"], false),
       ("sstables.NewSSTableReader", "‹[]sstables.SSTableReaderI›[]", Disp.closedOnAllPaths, ["defer"], true)] ∧
    (acqOf "simpledb.executeCompaction").map (·.leakOn) = [["sstables.SSTableStreamWriter.Open"], []] ∧
    (acqOf "simpledb.saveCompactionMetadata").map (fun r => (r.callee, r.disp, r.sites)) =
      [("recordio/proto.NewWriter", Disp.closedOnAllPaths, ["defer"])] ∧
    (acqOf "simpledb.executeFlush").map (fun r => (r.callee, r.disp, r.errAfterStore)) =
      [("sstables.NewSSTableReader", Disp.storedIn "simpledb.DB.sstableManager.addReader", [])] := by decide +kernel

/-- Installing a compaction result: every input that has a reader is closed (`i >= 0`, with `i` the index of the input path —
an element of the metadata's path list — among the current readers, only guards the lookup) inside the loop
that also removes its directory, before the rename; the new reader takes the slot of the replacement path, and the stacked
reader is rebuilt.  Excludes C19-m5 (the close moved under `p != m.ReplacementPath`: the old reader of the oldest input is
never closed although its directory is removed and replaced). -/
theorem reflect_closes_inputs_before_removing_them :
    (relOf "SSTableManager.reflectCompactionResult").map (fun r => (r.field, r.disp, r.via, r.inLoop, r.inDefer)) =
      [("allSSTableReaders", RDisp.closedInBranch
          "simpledb.indexOfReader(simpledb.SSTableManager.allSSTableReaders, elem(simpledb/proto.CompactionMetadata.SstablePaths)) >= 0",
          ["Close"], true, false),
       ("currentReader", RDisp.notClosed "", [], false, false)] ∧
    (acqOf "SSTableManager.reflectCompactionResult").map (fun r => (r.callee, r.bound, r.disp)) =
      [("sstables.NewSSTableReader", "sstables.SSTableReaderI -> simpledb.SSTableManager.allSSTableReaders[]", Disp.leakedOnErrorPath),
       ("sstables.NewSuperSSTableReader", "simpledb.SSTableManager.currentReader", Disp.storedIn "simpledb.SSTableManager.currentReader")] ∧
    (relOf "Appender.Rotate").map (fun r => (r.field, r.disp, r.order)) = [("currentWriter", RDisp.closedUnconditionally, 1)] := by
  decide +kernel

/-- WAL replay opens one reader per file and closes it by a `defer` registered BEFORE `Open()`, so that every exit — also the
tolerated short last file, which returns nil from inside the `Open` error branch — closes it; recovery's flag-file reader
likewise.  Excludes C19-m6. -/
theorem replay_closes_each_file :
    (acqOf "Replayer.replayFile").map (fun r => (r.callee, r.disp, r.sites, r.inLoop)) =
      [("wal.Replayer.walOptions.readerFactory", Disp.closedOnAllPaths, ["defer"], false)] ∧
    (acqOf "DB.repairCompactions").map (fun r => (r.callee, r.disp, r.sites)) =
      [("recordio/proto.NewReader", Disp.closedOnAllPaths, ["defer"])] ∧
    (acqOf "sstables.readMetaDataIfExists").map (fun r => (r.callee, r.disp, r.sites)) = [("os.Open", Disp.closedOnAllPaths, ["defer"])] := by
  decide +kernel

/-- Both flavours of `Scan()` open a sequential reader of the data file and, on the success path, REGISTER it in
`reader.miscClosers` before they hand it to the iterator; `SSTableReader.Close` closes every registered scanner first, in a
loop over that slice, unconditionally.  (An abandoned scan therefore costs one descriptor until the reader is closed — the
bound C19 states per live table.)  Since 8cb5d77 a scanner whose `Open()` fails is closed in the return expression of that
very error return (site `return`; it used to be left open AND unregistered — FINDING F5), so every path either closes the
scanner or registers it: the rows are `storedIn reader.miscClosers` with no leaking step.  Excludes R2 (scanner handed to the
iterator without registration), closing scanners behind a flag, 8cb5d77 reversed. -/
theorem scanners_registered_with_their_reader :
    (acqOf "SSTableReader.Scan").map (fun r => (r.callee, r.bound, r.disp, r.sites, r.cond)) =
      [("recordio/proto.NewReader", "recordio/proto.ReaderI", Disp.storedIn "sstables.SSTableReader.miscClosers", ["return"],
         "nonNil(sstables.SSTableReader.v0DataReader)"),
       ("recordio.NewFileReader", "recordio.ReaderI", Disp.storedIn "sstables.SSTableReader.miscClosers", ["return"],
         "isNil(sstables.SSTableReader.v0DataReader)")] ∧
    (acqOf "SSTableReader.Scan").all (fun r => r.leakOn.isEmpty) = true ∧
    ((relOf "SSTableReader.Close").filter (fun r => r.field == "miscClosers")).map (fun r => (r.disp, r.inLoop, r.order, r.skippable)) =
      [(RDisp.closedUnconditionally, true, 1, false)] := by decide +kernel

/-- Summary: every acquisition of the 28 files is closed on all paths, or handed over (returned / taken over by a wrapper /
stored in its owner / joined through a channel), or is one of the three listed rows (two intraprocedural artefacts, one
internal invariant) — no known leak is left among them. -/
theorem resources_never_lost :
    acquisitions.all (fun r => r.disp == Disp.closedOnAllPaths || handedOver r.disp ||
      (r.disp == Disp.leakedOnErrorPath && allowedErrorPathLeaks.contains (r.fn, r.callee, r.leakOn))) = true := by decide +kernel

end SST.C19.Resources
