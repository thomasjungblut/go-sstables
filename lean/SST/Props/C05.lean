/-
C05 — Concurrent Get/Put/Delete are linearizable while flushes and compactions run.

FULL PROPERTY (about the real goroutines): for every interleaving the Go scheduler can produce of client
goroutines calling Get/Put/Delete with memstore rotation, background flushing, table installation and
compaction result reflection, every recorded history of invocation/response pairs is linearizable with
respect to a single-copy map.

WHAT IS PROVED HERE (`partial`, by nature): the same statement for the interleaving semantics of
SST/Model/Conc.lean, whose micro-steps are the LOCK-PROTECTED SECTIONS of simpledb (see the table at the
top of that file).  The proof carries the lock-granularity bookkeeping — which sections can overlap which,
where each call takes effect, why a read whose two halves are separated by a table installation still
returns the atomic answer, why a stale compaction selection is harmless.  `Open` and `Close` are not events of a
schedule (they occur only in the L6 program that leads to the initial state): a `Close` concurrent with client calls is
outside the theorem.

MODELLED, NOT VERIFIED (assumed, named in tools/props.py as trusted base):
  * `sync.RWMutex` gives mutual exclusion (one writer, or any number of readers) and the unbuffered
    `storeFlushChannel` hands a store over only when the flusher is ready to receive it;
  * the Go scheduler and memory model: what a critical section wrote is what the next lock holder reads;
  * every client method takes `db.rwLock` exactly as the model says (Get: read mode around both halves;
    Put/Delete: write mode around WAL append + memstore update + rotation; `reflectCompactionResult`: db
    write lock, then manager lock; `addReader`/`currentSSTable`: manager lock only).  Of this last item the locks
    HELD at each access are not taken on faith: they are re-extracted from the source on every run (tools/lockfacts →
    SST/Generated/Access.lean) and checked by `C18.race_free` and `C05.lock_facts_as_modelled`; the order in which two
    locks are taken, and that a method does not release and retake a lock in between, are not in the extracted table.
The model cannot exhibit a violation that needs finer-than-lock granularity; the recorded-history stream
`conc` (porcupine on the real DB under forced rotations/compactions) and the race-detector stream `race`
are the validation of the model against the code, not part of the theorem.
-/
import SST.Proofs.Conc
import SST.Spec.Access
namespace SST.C05
open SST SST.DBM SST.Conc

/-- the micro-steps of the flusher (`addReader`), the compactor (`reflect` of a selection made on any prefix
of the live list, with any sizes) and the rotation hook never change what any key reads as, in any
reachable state — neither the abstraction map nor the answer of an (atomic) `GetBytes` -/
theorem bg_steps_preserve_abs (steps : List Step) (s' : State)
    (hb : Proofs.Conc.BgStep (runState {} steps) s') (k : Key) :
    abs s' k = abs (runState {} steps) k ∧ DBM.get s' k = DBM.get (runState {} steps) k :=
  Proofs.Conc.bg_steps_preserve_abs steps s' hb k

/-- `GetBytes` is not atomic: it snapshots the stacked tables in a reachable state `s`, and reads the
memstore pair in any state `s'` reachable from `s` by flusher `addReader` steps (the only state-changing
steps the db READ lock admits; other readers' steps change nothing).  It returns what an atomic read at the
first half would have returned — which is also what an atomic read at the second half would have returned,
and is `abs s k`. -/
theorem get_two_phase_ok (steps : List Step) (s' : State) (k : Key)
    (hm : Proofs.Conc.ReaderMay (runState {} steps) s') :
    let s := runState {} steps
    readMemRes s s' k = DBM.get s k ∧
    readMemRes s s' k = DBM.get s' k ∧
    readMemRes s s' k = (if (!s.isOpen || s.closed) = true then .notOpen else
      match abs s k with | some v => .value v | none => .notFound) :=
  Proofs.Conc.get_two_phase_ok steps s' k hm

/-- the compactor's reflection of a FRESH selection is the L6 compaction cycle (`DBM.compactStep`); the model
admits stale selections too (tables appended by the flusher in between) -/
theorem reflect_fresh_is_compactStep (s : State) (sizes : List Nat) :
    reflectOn s s.tables.length sizes = (compactStep s sizes).1 :=
  Proofs.Conc.reflectOn_fresh s sizes

/-- MAIN THEOREM (partial, see the header): start from ANY reachable database state (any L6 program: earlier
sessions, flushes, compactions, restarts), take ANY schedule of micro-steps that the locks admit — any number
of client threads, each issuing any sequence of Get/Put/Delete calls with any arguments (valid or rejected),
any placement of size-triggered rotations inside puts, of `addReader`, `select`, `reflect` and forced
rotations, invocation and response events anywhere outside the locked sections.  Then the history it
produces (invocations `calls`, completed calls `hist` with their invocation/response indices and results)
has a sequential witness: a duplicate-free list of calls that were really made, containing every completed
call with the result it returned, respecting real time (response-before-invocation order), in which each
call returns what the reference map (`specPut/specDel/specGet`, the same functions `DBM.specStep` uses),
started at the map the initial state stands for, returns.  (The witness the proof gives is the log of the executed
critical sections: a put/delete takes effect at its critical section, a get at its `readTables` half.) -/
theorem linearizable_partial (steps : List Step) (sched : Sched) (calls : List Call) (hist : List HEntry)
    (h : exec (runState {} steps) sched = some (calls, hist)) :
    ∃ w, IsWitness (specOf (runState {} steps)) calls hist w :=
  Proofs.Conc.linearizable steps sched calls hist h

/-- the reference semantics of the witness is the one of C01 (`DBM.specStep`) -/
theorem specOp_is_specStep (sp : Spec) (k v : GoBytes) (key : Key) (rot : Bool) :
    specStep sp (.putB k v rot) = ((specOp sp (.put k v)).1, some (specOp sp (.put k v)).2) ∧
    specStep sp (.delB k) = ((specOp sp (.del k)).1, some (specOp sp (.del k)).2) ∧
    specStep sp (.get key) = ((specOp sp (.get key)).1, some (specOp sp (.get key)).2) :=
  ⟨rfl, rfl, rfl⟩

open SST.Generated SST.AccessSpec in
/-- the lock structure SST/Model/Conc.lean assumes is the one extracted from /repo/simpledb (SST/Generated/Access.lean):
* every access a CLIENT thread makes — other than reading the lock field itself — happens under `db.rwLock`
  (read or write mode), and every client WRITE (WAL append, memstore update, memstore swap) under the write lock —
  what `write t` as one critical section and `readTables t ; readMem t` inside one read-locked section rest on
  (the table holds the locks held at each access; that a method does not release and retake the lock in between
  is not in it);
* `swapMemstore` runs only with the db write lock held, whoever calls it (caller-held locks, fixed point);
* the flusher's `addReader` holds the manager write lock and NOT the db lock, so it can run between the two
  halves of a get; the client's `currentSSTable` snapshot holds the manager read lock;
* `reflectCompactionResult` writes only under db write lock + manager write lock; the selection
  (`candidateTablesForCompaction`) and the merge (`executeCompaction`) hold no db lock;
* the rotation hands the flusher `swapMemstore(r)` (the extractor writes the receiver `r` and the locals `v0` …, whatever
  they are called; `&v0` is the fresh empty store of the verif hook): swap first (operand evaluation), then the send, on an
  UNBUFFERED channel (`make(chan memStoreFlushAction)`): the send completes only when the flusher is back at its
  receive, i.e. has installed the previous table — which is why `DBM.rotate` starts with `flushStep`. -/
theorem lock_facts_as_modelled :
    (accesses.all fun a => !(a.thread == .client) || a.obj == objRwLock || hasL a .dbR || hasL a .dbW) = true ∧
    (accesses.all fun a => !(a.thread == .client) || a.kind == .read || hasL a .dbW) = true ∧
    (accesses.all fun a => !(a.fn == "swapMemstore") || hasL a .dbW) = true ∧
    (accesses.all fun a => !(a.fn == "SSTableManager.addReader" && a.thread == .flusher) ||
        a.obj == objManagerLock || (hasL a .mgrW && !hasL a .dbW && !hasL a .dbR)) = true ∧
    (accesses.all fun a => !(a.fn == "SSTableManager.currentSSTable") || a.obj == objManagerLock || hasL a .mgrR) = true ∧
    (accesses.all fun a => !(a.fn == "SSTableManager.reflectCompactionResult") || a.kind == .read ||
        (hasL a .dbW && hasL a .mgrW)) = true ∧
    (accesses.all fun a => !(a.fn == "SSTableManager.candidateTablesForCompaction" || a.fn == "executeCompaction") ||
        (!hasL a .dbW && !hasL a .dbR)) = true ∧
    ((accesses.filter fun a => a.fn == "SSTableManager.reflectCompactionResult" && a.kind == .write).length > 0) ∧
    ((accesses.filter fun a => a.thread == .client && a.kind == .write).length > 0) ∧
    flushSends = [("DB.VerifWaitFlushIdle", "&v0"), ("DB.rotateWalAndFlushMemstore", "swapMemstore(r)")] ∧
    dbChannels.lookup "storeFlushChannel" = some "make(chan memStoreFlushAction)" := by
  decide +kernel

/-! ## non-vacuity -/

/-- an opened database with one table, a pending flush and a non-empty write store -/
def demoSteps : List Step :=
  [.reopen { threshold := 0, maxSize := 100, ratioNum := 1, ratioDen := 1 },
   .putS [1] [9] false, .rotate, .flush, .putS [2] [8] false, .delS [1], .rotate, .putS [3] [7] false]

/-- two clients and the background threads: client 1's get is split around the flusher's `addReader` and
overlaps client 0's get; a compaction is selected, a table is appended, then the stale selection is reflected;
a put rotates inside its critical section -/
def demoSched : Sched :=
  [.inv 1 (.get [2]), .inv 0 (.get [1]), .readTables 1, .addReader, .readTables 0, .select [10, 10],
   .readMem 1, .resp 1, .readMem 0, .inv 1 (.put (some [1]) (some [5])), .resp 0,
   .write 1 true, .addReader, .reflect, .resp 1, .inv 0 (.get [1]), .inv 2 (.del (some [2])),
   .readTables 0, .readMem 0, .write 2 false, .hookRotate, .resp 2, .resp 0,
   .inv 2 (.get [2]), .readTables 2, .readMem 2, .resp 2]

example : Valid (runState {} demoSteps) demoSched := by decide +kernel

example : (exec (runState {} demoSteps) demoSched).map (fun h => h.2.map (fun e => (e.thread, e.inv, e.resp, e.res)))
    = some [(1, 0, 7, .value [8]), (0, 1, 10, .notFound), (1, 9, 14, .ok), (2, 16, 21, .ok),
            (0, 15, 22, .value [5]), (2, 23, 26, .notFound)] := by decide +kernel

/-- the locks reject a writer between the two halves of a get, and a reflection while a reader is inside -/
example : ¬ Valid (runState {} demoSteps)
    [.inv 0 (.get [1]), .inv 1 (.del (some [1])), .readTables 0, .write 1 false] := by decide +kernel
example : ¬ Valid (runState {} demoSteps) [.select [1], .inv 0 (.get [1]), .readTables 0, .reflect] := by decide +kernel

/-- the hypotheses of `bg_steps_preserve_abs` / `get_two_phase_ok` are met by a state with a pending flush -/
example : Proofs.Conc.ReaderMay (runState {} demoSteps) (flushStep (runState {} demoSteps)) :=
  .addReader _ _ (.refl _)
example : (flushStep (runState {} demoSteps)).tables.length = (runState {} demoSteps).tables.length + 1 := by
  decide +kernel

end SST.C05
