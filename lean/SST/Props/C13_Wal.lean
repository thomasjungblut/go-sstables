/-
C13 (asynchronous WAL) — the bytes behind the abstract model's volatile queue.

C13's abstract model (SST/Model/FS.lean, `logEvs true`, `drainEvs`) says: an asynchronous Put/Delete is acknowledged
when its record sits in the appender's buffer (`Vol.queue`); a buffer flush writes a prefix of the queue record by
record, possibly cutting one (`walTorn`); closing the file writes everything.  Here the same is derived from the
byte-level appender (SST/Model/Wal.lean: the vendored buffered writer `BufW` with its fill-and-flush / bypass
rules, one `write` event per chunk): at EVERY kill point the file content, seen through the abstraction `absWal`
(SST/Spec/WalAbs.lean), is a prefix of the issued mutations plus at most one torn piece, and every byte-level
event is the abstract event(s) the model uses.  Proofs: SST/Proofs/WalAbs.lean, on top of the appender's simulation
of the directory (SST/Proofs/Wal.lean; of the buffered writer it uses the per-call facts `Proofs.write_transp` and
`Proofs.flush_out`, of which `C07.bufw_transparent` is the whole-run form) and of the normal form of a cut record
file (`Proofs.file_cut`, `Proofs.file_reads`: the cut lemma `Proofs.take_ranOut` that also carries
`C12.truncate_prefix`).
-/
import SST.Proofs.WalAbs
namespace SST.C13.WalBytes
open SST SST.FS SST.WalMut SST.WalAbs Generated
open SST.Proofs.WalMut (MutFits Loggable)
open SST.Proofs.WalAbs (DecodesMut LogOk)

/-- `async_log_prefix`: for every list of mutations the database can log (`LogOk`: sizes fit the header fields,
non-empty key and value in upserts, fewer than 999 999 of them so that the file-number guard of the appender is not
reached), EVERY buffer size / maximum file size / lawful compressor the reader agrees on, synchronous or not, and
EVERY number `n` of completed file-system calls (the final `Close` included):
the abstraction of the directory exists, is a readable abstract WAL (`walReadable`: complete files, then one file that
may lack its header or be torn), and its mutations are a PREFIX `ms.take p` of the issued ones — no holes, no
reordering, nothing that was not issued; after `Close` it holds all of them. -/
theorem async_log_prefix (o : WalOpts) (c : Compression) (cOf : Nat → Compression) (utf8 : Bytes → Bool)
    (hra : ReaderAgrees cOf o c) (hl : LawfulC c) (sync : Bool) (ms : List Mutation) (h : LogOk c ms) (n : Nat) :
    (∃ W p, absWal cOf utf8 (dirAfterN ((walEventsClosed o c (logProg sync ms)).take n)) = some W ∧
      walReadable W = true ∧ walMuts W = ms.take p ∧ p ≤ ms.length) ∧
    (∃ W, absWal cOf utf8 (dirAfterN (walEventsClosed o c (logProg sync ms))) = some W ∧
      walReadable W = true ∧ walMuts W = ms) :=
  Proofs.WalAbs.async_log_prefix o c cOf utf8 hra hl sync ms h n

/-- the byte-level events of an asynchronous log ARE abstract WAL events: the abstraction commutes with every
prefix of the run (`walAppend` exactly when a record becomes complete in the file, `walTorn` exactly when a piece
of a further record is in the file afterwards) -/
theorem async_events_refine (o : WalOpts) (c : Compression) (cOf : Nat → Compression) (utf8 : Bytes → Bool)
    (hra : ReaderAgrees cOf o c) (hl : LawfulC c) (ms : List Mutation) (h : LogOk c ms) (n : Nat) :
    absWal cOf utf8 (dirAfterN ((walEventsClosed o c (logProg false ms)).take n)) =
      some (applyEvs disk0 (mapEvs cOf utf8 [] ((walEventsClosed o c (logProg false ms)).take n))).wal := by
  obtain ⟨f1, _, f3, _, _⟩ := Proofs.WalAbs.logProg_facts o c utf8 false ms h
  exact Proofs.WalAbs.appender_events_refine o c cOf utf8 hra hl _ f1 f3 n

/-- the volatile queue, in bytes: after any program (appender still open) the directory holds the rotated files
completely, and the current file's bytes followed by the bytes in the write buffer are exactly its logical
content — the buffer is the not-yet-written SUFFIX (records, the first possibly in part) -/
theorem disk_plus_buffer (o : WalOpts) (c : Compression) (cOf : Nat → Compression)
    (hra : ReaderAgrees cOf o c) (hl : LawfulC c) (prog : List WalOp) (hpf : ProgFits c prog) :
    ∃ (full : List (List GoBytes)) (cur : List GoBytes) (D : Bytes),
      (full ++ [cur]).flatten = walRecords o c prog ∧
      dirAfterN (walEvents o c prog) =
        completeDir (fileOf c o.ct (full ++ [cur])) full.length ++ [(full.length, D)] ∧
      D ++ (Wal.run o c prog).1.fw.w.buf = fileBytes c o.ct cur :=
  Proofs.WalAbs.disk_plus_buffer o c cOf hra hl prog hpf

/-- three asynchronous writes through a 24-byte buffer; the file size limit is the one SimpleDB configures the log
with (`MaximumWalFileSizeBytes(math.MaxUint64)`) -/
def opts : WalOpts := { maxSize := 18446744073709551615, bufSize := 24, ct := 0 }
def muts : List Mutation := [.put [1] [2], .del [], .put [3] [4]]

/-- six byte-level events (create, header, three buffer flushes cutting records, close) … -/
example : (walEventsClosed opts none (logProg false muts)).length = 6 := by decide +kernel

/-- … are these abstract events: every record is preceded by its torn piece, as in `FS.drainEvs` -/
example : mapEvs (fun _ => none) (fun _ => true) [] (walEventsClosed opts none (logProg false muts)) =
    [.walCreate 0, .walHeader 0, .walAppend 0 (.put [1] [2]), .walTorn 0, .walAppend 0 (.del []), .walTorn 0,
     .walAppend 0 (.put [3] [4]), .walClose 0] := by decide +kernel

/-- the crash image after four events: two records and a torn piece; after all events: everything -/
example : absWal (fun _ => none) (fun _ => true)
      (dirAfterN ((walEventsClosed opts none (logProg false muts)).take 4)) =
    some [{ num := 0, recs := [.put [1] [2], .del []], torn := true }] := by decide +kernel
example : absWal (fun _ => none) (fun _ => true) (dirAfterN (walEventsClosed opts none (logProg false muts))) =
    some [{ num := 0, recs := muts }] := by decide +kernel

/-- when the three asynchronous calls have returned, two records and a piece of the third have left the buffer:
acknowledged ≠ logged, a kill now loses the last write (a suffix), nothing else -/
example : absWal (fun _ => none) (fun _ => true) (dirAfterN (walEvents opts none (logProg false muts))) =
    some [{ num := 0, recs := [.put [1] [2], .del []], torn := true }] := by decide +kernel

end SST.C13.WalBytes
