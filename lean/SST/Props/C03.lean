/-
C03 — An SSTable returns exactly what was written, for every index type and option.
Property theorems only; lemmas live in SST/Proofs/SSTable{Writer,Index,Serve,Reader,Disk,DiskLookup,DiskSpec}.lean.
Quantification: ALL strictly ascending key lists with ALL values (nil, empty, marker bytes, …), any lawful
compressor pair and compression codes, any bloom filter without false negatives, all reader options
(verify on load / on read), all probe keys and range bounds.  Not quantified: the writer's key comparator, which
every theorem about a written table (`cfg`, `kvs`) takes to be `bytes.Compare` (`hcmp : cfg.cmp = bytesCmp`).
-/
import SST.Proofs.SSTableDiskLookup
namespace SST.C03
open SST Generated

/-- Slice loader (the default): the table written from `kvs` opens, and Contains / Get / Scan /
ScanStartingAt / ScanRange answer exactly like the sorted map of `kvs` (`ReadsAsMap`: Get returns the
value with nil ≠ empty or `NotFound`; scans are ascending, bounds inclusive, lower > upper rejected;
scanned keys are as protobuf returns them, i.e. the empty key comes back as nil). -/
theorem table_reads_as_map_slice (comps : Nat → Compression) (cfg : SstCfg) (kvs : List KV)
    (hcmp : cfg.cmp = bytesCmp) (hc : CompsOk comps cfg) (hf : FitsKV cfg kvs) (hs : StrictAsc bytesCmp kvs)
    (o : ReadOpts) (bloom : Option (Bytes → Bool)) (hb : BloomOk bloom kvs) :
    ∃ r idx, openTable comps .slice o (writeTable cfg kvs) bloom = .ok (r, idx) ∧
      ReadsAsMap comps (fun _ => True) r idx kvs :=
  Proofs.Sst.table_reads comps cfg kvs hcmp hc hf hs .slice trivial o bloom hb

/-- Skip-list loader, for all node heights the random generator may produce. -/
theorem table_reads_as_map_skip (comps : Nat → Compression) (cfg : SstCfg) (kvs : List KV)
    (hcmp : cfg.cmp = bytesCmp) (hc : CompsOk comps cfg) (hf : FitsKV cfg kvs) (hs : StrictAsc bytesCmp kvs)
    (o : ReadOpts) (bloom : Option (Bytes → Bool)) (hb : BloomOk bloom kvs)
    (heights : List Nat) (hh : ∀ h ∈ heights, 1 ≤ h) :
    ∃ r idx, openTable comps (.skip heights) o (writeTable cfg kvs) bloom = .ok (r, idx) ∧
      ReadsAsMap comps (fun _ => True) r idx kvs :=
  Proofs.Sst.table_reads comps cfg kvs hcmp hc hf hs (.skip heights) hh o bloom hb

/-- No bloom-filter false negative: whatever the filter answers for other keys, every written key is
reported present (stated for any reader that reads as the map, hence for the slice and skip loaders). -/
theorem contains_no_false_negative (comps : Nat → Compression) (r : Reader) (idx : Index) (kvs : List KV)
    (h : ReadsAsMap comps (fun _ => True) r idx kvs) :
    ∀ p ∈ kvs, r.contains idx p.1 = (idx, some (.ok true)) :=
  Proofs.Sst.contains_no_false_negative comps r idx kvs h

/-- PARTIAL (map loader, `Byte4KeyMapper` / `Byte20KeyMapper` = `n` 4 / 20).  Full statement: as for the
slice loader.  Proved: the scans always; Contains / Get for every probe `k` such that
`PadInjective n keys k` — all keys and the probe fit `n` bytes and zero padding identifies no two of them.
What is missing is false of the code: see `map_index_pad_collision`. -/
theorem table_reads_as_map_map_partial (comps : Nat → Compression) (cfg : SstCfg) (kvs : List KV)
    (hcmp : cfg.cmp = bytesCmp) (hc : CompsOk comps cfg) (hf : FitsKV cfg kvs) (hs : StrictAsc bytesCmp kvs)
    (o : ReadOpts) (bloom : Option (Bytes → Bool)) (hb : BloomOk bloom kvs)
    (n : Nat) (hn : ∀ p ∈ kvs, p.1.length ≤ n) :
    ∃ r idx, openTable comps (.map n) o (writeTable cfg kvs) bloom = .ok (r, idx) ∧
      ReadsAsMap comps (fun k => PadInjective n (kvs.map (·.1)) k) r idx kvs :=
  Proofs.Sst.table_reads comps cfg kvs hcmp hc hf hs (.map n) (List.forall_mem_map.2 hn) o bloom hb

/-- COUNTEREXAMPLE to the full statement for the map loader (known limitation D21, finding
`map-index:zero-pad-collision`): with the keys "a" and "a\0" written (any values, any compression, any
options), `Get("a")` returns the value of "a\0" where the sorted map says the value of "a", and the
never-written key "a\0\0" is found. -/
theorem map_index_pad_collision (comps : Nat → Compression) (cfg : SstCfg) (hcmp : cfg.cmp = bytesCmp)
    (hc : CompsOk comps cfg) (v1 v2 : GoBytes) (hf : FitsKV cfg [([97], v1), ([97, 0], v2)])
    (o : ReadOpts) (bloom : Option (Bytes → Bool)) :
    ∃ r idx, openTable comps (.map 4) o (writeTable cfg [([97], v1), ([97, 0], v2)]) bloom = .ok (r, idx) ∧
      (r.get idx [97]).2 = some (.ok v2) ∧ specGetRes [([97], v1), ([97, 0], v2)] [97] = .ok v1 ∧
      (r.get idx [97, 0, 0]).2 = some (.ok v2) ∧
      specGetRes [([97], v1), ([97, 0], v2)] [97, 0, 0] = .error .notFound :=
  Proofs.Sst.map_index_pad_collision comps cfg hcmp hc v1 v2 hf o bloom

/-- the collision input violates the hypothesis of the partial theorem, as it must -/
example : ¬ PadInjective 4 [[97], [97, 0]] [97] := by decide

/-! ## disk loader (documented EXPERIMENTAL in sstables/README.md) -/

/-- Disk loader, after the repairs 37d0b89, 93d8a40, 90fd3ef: the FULL read-like-a-map statement, provided
no index record embeds the bytes of a complete valid record (`NoPhantom`, decidable on the index file;
without it see `disk_index_phantom_in_index_payload`).  The table written from `kvs` opens (verification on
load included) and Contains / Get / Scan / ScanStartingAt / ScanRange answer exactly like the sorted map of
`kvs` — the same five conjuncts as `table_reads_as_map_slice` (lower > upper rejected; bounds absent, present,
below and above all keys; nil ≠ empty values; bloom filter without false negatives).

The disk index has STATE, the offset cache (at most 1024 offsets, only successful reads are remembered), so
the conjuncts are stated for EVERY index state calls may leave behind (`ReadsAsMapFrom`, `IndexState`: the
same file and compressor, a cache holding only what a fresh read of that offset returns) and every call is
shown to leave such a state: no answer depends on the lookups made before.  `table_reads_as_map_disk_calls`
tells the same over call sequences. -/
theorem table_reads_as_map_disk (comps : Nat → Compression) (cfg : SstCfg) (kvs : List KV)
    (hcmp : cfg.cmp = bytesCmp) (hc : CompsOk comps cfg) (hf : FitsKV cfg kvs) (hs : StrictAsc bytesCmp kvs)
    (hnp : Proofs.NoPhantom cfg.ic cfg.ict ((entriesOf cfg.dc kvs).map indexRecOf))
    (o : ReadOpts) (bloom : Option (Bytes → Bool)) (hb : BloomOk bloom kvs) :
    ∃ r idx, openTable comps .disk o (writeTable cfg kvs) bloom = .ok (r, idx) ∧
      ReadsAsMapFrom comps r idx kvs := by
  obtain ⟨idx, hopen, href⟩ := Proofs.Sst.disk_table_opens comps cfg kvs hcmp hc hf hs hnp o bloom
  exact ⟨_, idx, hopen, Proofs.Sst.reads_as_map_from comps cfg kvs hc hf o bloom hb idx href⟩

/-- The same over call sequences: ANY sequence of Get / Contains / Scan / ScanStartingAt / ScanRange calls on
the opened reader (the offset cache threaded from call to call) gets, call by call, the answers of the
sorted map of `kvs`. -/
theorem table_reads_as_map_disk_calls (comps : Nat → Compression) (cfg : SstCfg) (kvs : List KV)
    (hcmp : cfg.cmp = bytesCmp) (hc : CompsOk comps cfg) (hf : FitsKV cfg kvs) (hs : StrictAsc bytesCmp kvs)
    (hnp : Proofs.NoPhantom cfg.ic cfg.ict ((entriesOf cfg.dc kvs).map indexRecOf))
    (o : ReadOpts) (bloom : Option (Bytes → Bool)) (hb : BloomOk bloom kvs) :
    ∃ r idx, openTable comps .disk o (writeTable cfg kvs) bloom = .ok (r, idx) ∧
      ∀ calls : List ReadCall, r.calls comps idx calls = calls.map (specAns kvs) := by
  obtain ⟨r, idx, h1, h2⟩ := table_reads_as_map_disk comps cfg kvs hcmp hc hf hs hnp o bloom hb
  exact ⟨r, idx, h1, h2.calls⟩

/-- `ReadsAsMapFrom` is `ReadsAsMap` with the index state threaded: for the loaders without state (their
only reachable state is the loaded index) the slice theorem has exactly this form too. -/
theorem table_reads_as_map_slice_from (comps : Nat → Compression) (cfg : SstCfg) (kvs : List KV)
    (hcmp : cfg.cmp = bytesCmp) (hc : CompsOk comps cfg) (hf : FitsKV cfg kvs) (hs : StrictAsc bytesCmp kvs)
    (o : ReadOpts) (bloom : Option (Bytes → Bool)) (hb : BloomOk bloom kvs) :
    ∃ r idx, openTable comps .slice o (writeTable cfg kvs) bloom = .ok (r, idx) ∧
      ReadsAsMapFrom comps r idx kvs := by
  have href : Proofs.Sst.IdxRefines (fun _ => True) (.slice (Proofs.Sst.loadedEntries cfg kvs)) _ :=
    .slice (Proofs.Sst.loadedEntries_strictAsc cfg kvs hs)
  refine ⟨_, _, ?_, (Proofs.Sst.reads_as_map comps cfg kvs hc hf o bloom hb _ _ href).toFrom fun _ => Iff.rfl⟩
  rw [Proofs.Sst.writeTable_eq cfg kvs (by rw [hcmp]; exact hs)]
  exact Proofs.Sst.openTable_ok comps cfg kvs hc hf .slice o bloom _
    (Proofs.Sst.loadIndex_of_build (Proofs.Sst.loadEntries_table comps cfg kvs hc hf) rfl) href.all

/-- non-vacuity of the `NoPhantom` hypothesis: the index file of the three-key table of the regression
theorem below holds no phantom record (the check runs over every position of the file) -/
example : Proofs.NoPhantom plainCfg.ic plainCfg.ict
    ((entriesOf plainCfg.dc [([5], some [1]), ([6], some [2]), ([7], some [3])]).map indexRecOf) :=
  Proofs.Sst.noPhantom_of_check _ _ _ (by decide +kernel)

/-- the disk index never changes the FILE it answers from: a reachable state differs from the opened index
in its offset cache only, and that cache holds only fresh reads -/
example (d0 : DiskIdx) (idx : Index) (h : IndexState (.disk d0) idx) :
    ∃ d, idx = .disk d ∧ d.file = d0.file ∧ d.c = d0.c ∧ DiskCacheFresh d := h

/-- REGRESSION (D4, finding `disk-index:eof-in-binary-search`; repaired by 93d8a40): two keys, the second
longer than the first, so that the binary search over byte offsets probes an offset behind the start of the
last index record.  End-of-file there now means "look below": both written keys are found, an unwritten key
in between is not. -/
theorem disk_index_eof_in_binary_search_fixed :
    probeGet .disk [([1], some [7]), ([2, 2, 2, 2, 2, 2, 2, 2, 2, 2, 2, 2], some [8])]
      [2, 2, 2, 2, 2, 2, 2, 2, 2, 2, 2, 2] = some (.ok (some [8])) ∧
    probeGet .disk [([1], some [7]), ([2, 2, 2, 2, 2, 2, 2, 2, 2, 2, 2, 2], some [8])] [1] = some (.ok (some [7])) ∧
    probeGet .disk [([1], some [7]), ([2, 2, 2, 2, 2, 2, 2, 2, 2, 2, 2, 2], some [8])] [2] = some (.error .notFound) ∧
    probeGet .slice [([1], some [7]), ([2, 2, 2, 2, 2, 2, 2, 2, 2, 2, 2, 2], some [8])] [1] = some (.ok (some [7])) := by
  decide +kernel

/-- REGRESSION (D5, finding `disk-index:range-upper-below-min`; repaired by 90fd3ef): a range whose upper
bound lies below the smallest key is empty (it used to be the WHOLE table: `endOffset - 1` wrapped around at
offset 0); a range that ends on the smallest key still delivers it. -/
theorem disk_index_range_upper_below_min_fixed :
    probeRange .disk [([5], some [1]), ([6], some [2]), ([7], some [3])] [1] [2] = .ok ([], .done) ∧
    probeRange .disk [([5], some [1]), ([6], some [2]), ([7], some [3])] [1] [5] =
      .ok ([(some [5], some [1])], .done) ∧
    probeRange .slice [([5], some [1]), ([6], some [2]), ([7], some [3])] [1] [2] = .ok ([], .done) := by
  decide +kernel

/-- a key that embeds the bytes of a complete valid record whose payload parses as an index entry for "zz" -/
def phantomKey : Bytes := [9] ++ encRecord none (some (encIndexEntry [122, 122] 8 0))

/-- COUNTEREXAMPLE (finding `disk-index:phantom-in-index-payload`): `SeekNext` stops at the record embedded
in a key; the disk iterator then yields an index entry nobody wrote: `Scan` delivers the unwritten key "zz"
(and then runs out of data records), `Get("zz")` finds it with the first value of the table. -/
theorem disk_index_phantom_in_index_payload :
    probeScan .disk [([1], some [1]), (phantomKey, some [2]), ([200], some [3])] =
      .ok ([(some [1], some [1]), (some phantomKey, some [2]), (some [122, 122], some [3])], .err .eof) ∧
    probeGet .disk [([1], some [1]), (phantomKey, some [2]), ([200], some [3])] [122, 122] = some (.ok (some [1])) ∧
    probeScan .slice [([1], some [1]), (phantomKey, some [2]), ([200], some [3])] =
      .ok ([(some [1], some [1]), (some phantomKey, some [2]), (some [200], some [3])], .done) := by
  decide +kernel

/-- REGRESSION (finding `disk-index:cached-failed-read-matches-empty-key`; repaired by 37d0b89): `findAt` no
longer remembers the empty record a FAILED `SeekNext` leaves behind.  On an empty table the same call
`Get("")` is "not found" every time (the fifth call used to "find" the cached empty record and fail with a
magic-number error). -/
theorem disk_index_cached_failed_read_fixed :
    probeGets .disk [] [[], [], [], [], [], []] =
      [some (.error .notFound), some (.error .notFound), some (.error .notFound), some (.error .notFound),
       some (.error .notFound), some (.error .notFound)] := by
  decide +kernel

/-- non-vacuity: a concrete ascending list with a nil value, an empty value, marker bytes and the empty key;
a probe that zero padding keeps apart from the keys -/
example : StrictAsc bytesCmp [(([] : Bytes), (none : GoBytes)), ([0x91], some []), ([0x91, 0x8d], some [0x91, 0x8d, 0x4c])] := by
  unfold StrictAsc; decide

example : PadInjective 4 [[97], [98, 0, 1]] [97, 1] := by decide

/-- the configuration hypotheses are satisfiable: no compression, and the sizes of that list fit -/
example : CompsOk plainComps plainCfg := ⟨rfl, rfl, trivial, trivial, by decide, by decide⟩

example : FitsKV plainCfg [([], none), ([0x91], some []), ([0x91, 0x8d], some [0x91, 0x8d, 0x4c])] := by
  unfold FitsKV
  exact ⟨by decide +kernel, by decide +kernel, by decide +kernel⟩

example : BloomOk (some fun _ => true) [(([1] : Bytes), (none : GoBytes))] := by
  intro bf h p _; cases h; rfl

end SST.C03
