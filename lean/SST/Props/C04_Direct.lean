/-
C04, direct-I/O factory — the writer path through `DirectIOFactory` (block-aligned buffer, aligned
flushes) produces the same records, followed by zero padding that every reader treats as end of file.
Model: SST/Model/RecordIODirect.lean (the buffered writer is the `BufW` of SST/Model/Wal.lean in aligned
mode; see also `C07.bufw_aligned`).  Property theorems only; lemmas live in
SST/Proofs/RecordIODirect.lean.

Size precondition (explicit in every theorem): the buffer holds the 8-byte file header
(`fileHeaderSize ≤ n`) and every single `bufWriter.Write` of a record — its header, and its stored
payload — is at most the buffer size `n` (`RecFitsBuf c n r`).  A longer single write arriving at an
empty buffer bypasses the buffer and is handed to the file unaligned (`C07.bufw_aligned_bypass`), which
O_DIRECT rejects; such programs are outside these theorems.
-/
import SST.Proofs.RecordIODirect
namespace SST.C04.Direct
open SST Generated Proofs.Direct

/-- Writer, no seeks: the closed direct-I/O file is the file header and the records followed by zeros up
to the next multiple of the buffer size — and NO padding block when the logical length already is a
multiple (the full buffer is flushed as it is).  `Size()` is the logical length, every `Write` returned
the offset of its record, and every write system call was one whole block at a block-aligned offset. -/
theorem direct_close_exact (c : Compression) (ct n : Nat) (rs : List GoBytes)
    (hn : fileHeaderSize ≤ n) (hfit : ∀ r ∈ rs, RecFitsBuf c n r) :
    let run := runDirect c (DWState.open n ct) (rs.map WOp.write)
    let len := fileHeaderSize + (encAll c rs).length
    run.1.close = fileHeader currentVersion ct ++ encAll c rs ++ List.replicate ((n - len % n) % n) 0 ∧
    run.1.cur = len ∧
    run.2 = (List.range rs.length).map (offsetOf c rs) ∧
    EventsAligned n run.1.closeEvents :=
  Proofs.Direct.direct_close_exact c ct n rs hn hfit

/-- Sequential reader on the closed direct-I/O file: exactly the records, then end-of-file (the zero
padding reads as EOF, `C04.zero_tail_is_eof`). -/
theorem direct_seq_roundtrip (c : Compression) (ct n : Nat) (rs : List GoBytes)
    (hn : fileHeaderSize ≤ n) (hfit : ∀ r ∈ rs, RecFitsBuf c n r)
    (hl : LawfulC c) (hf : ∀ r ∈ rs, FitsRec c r) :
    readAll c (runDirect c (DWState.open n ct) (rs.map WOp.write)).1.close = (rs, .eof) := by
  rw [(Proofs.Direct.direct_close_exact c ct n rs hn hfit).1]
  exact Proofs.readAll_zero_tail c ct rs _ hl hf

/-- Random access on the closed direct-I/O file: record `k` is returned at the offset `Write` returned
for it. -/
theorem direct_readAt_offset (c : Compression) (ct n : Nat) (rs : List GoBytes)
    (hn : fileHeaderSize ≤ n) (hfit : ∀ r ∈ rs, RecFitsBuf c n r)
    (hl : LawfulC c) (hf : ∀ r ∈ rs, FitsRec c r) (k : Nat) (hk : k < rs.length) :
    readAt c (runDirect c (DWState.open n ct) (rs.map WOp.write)).1.close (offsetOf c rs k) = .ok rs[k] := by
  rw [(Proofs.Direct.direct_close_exact c ct n rs hn hfit).1]
  exact Proofs.readAt_zero_tail c ct rs _ k hk hl hf

/-- `WriteSync` on a direct-I/O writer fails (`DirectIOSyncWriteErr`) before anything is written. -/
theorem direct_writesync_rejected (c : Compression) (d : DWState) (r : GoBytes) :
    d.writeSync c r = .error .rejected := rfl

/-- Seeks in aligned mode, bytes: `Seek` flushes a zero-padded block and then positions the file at the
LOGICAL offset, so the padding lies behind everything that is kept and is overwritten by what follows.
After any program of writes and cuts back to record boundaries the closed file is still the header and
the surviving records followed by zeros only (none if `Close` truncated), `Size()` is the logical
length, and the sequential reader returns exactly the survivors (`direct_seq_roundtrip_seeks`; random access
after seeks is not stated).  The model's file accepts every write; O_DIRECT rejects those that follow a seek to an
offset that is not block aligned (`direct_seek_breaks_alignment`). -/
theorem direct_close_exact_seeks (c : Compression) (ct n : Nat) (ops : List AOp)
    (hn : fileHeaderSize ≤ n) (hc : CutsOk [] ops) (hfit : ∀ op ∈ ops, AOpFitsBuf c n op) :
    let d := (runDirect c (DWState.open n ct) (concretize c [] ops)).1
    (∃ k, d.close = fileHeader currentVersion ct ++ encAll c (survivors [] ops) ++ List.replicate k 0) ∧
    d.cur = fileHeaderSize + (encAll c (survivors [] ops)).length :=
  Proofs.Direct.direct_close_exact_seeks c ct n ops hn hc hfit

theorem direct_seq_roundtrip_seeks (c : Compression) (ct n : Nat) (ops : List AOp)
    (hn : fileHeaderSize ≤ n) (hc : CutsOk [] ops) (hfit : ∀ op ∈ ops, AOpFitsBuf c n op)
    (hl : LawfulC c) (hf : ∀ r ∈ survivors [] ops, FitsRec c r) :
    readAll c (runDirect c (DWState.open n ct) (concretize c [] ops)).1.close = (survivors [] ops, .eof) := by
  have _ := hc  -- not used: a cut may name any index (`close_exact_any`)
  exact Proofs.Direct.direct_seq_roundtrip_seeks_any c ct n ops hn hfit hl hf

/-- FINDING (experimental DirectIO option; recorded, not fixed): the offsets do NOT break — but after a
`Seek` to a record boundary that is not a multiple of the block size, every later write system call is
issued at an UNALIGNED file offset (here 21, with 16-byte blocks), which O_DIRECT file systems reject
with EINVAL; and the closed file is no longer a whole number of blocks.  Seek and direct I/O only work
together when the record boundary happens to be block aligned. -/
theorem direct_seek_breaks_alignment :
    let d := (runDirect none (DWState.open 16 0)
      [.write (some [1, 2, 3]), .seek 21, .write (some [4, 5])]).1
    d.closeEvents = [(0, 16), (16, 16), (21, 16)] ∧ ¬ EventsAligned 16 d.closeEvents ∧
    d.close.length = 37 := by
  refine ⟨by decide +kernel, ?_, by decide +kernel⟩
  intro h
  have := (h (21, 16) (by decide +kernel)).1
  exact absurd this (by decide)

/-- the same program at the byte level: nothing is lost, the offsets returned stay valid -/
example :
    let run := runDirect none (DWState.open 16 0) [.write (some [1, 2, 3]), .seek 21, .write (some [4, 5])]
    run.2 = [8, 0, 21] ∧
    run.1.close = fileHeader currentVersion 0 ++ encAll none [some [1, 2, 3], some [4, 5]] ++
      List.replicate 3 0 := by
  decide +kernel

/-- The size precondition follows from a bound on the stored payloads alone once the buffer holds a
whole record header (36 bytes): e.g. every real configuration (the default buffer is 4 MiB) with payloads
up to the buffer size. -/
theorem size_precondition_of_payloads (c : Compression) (n : Nat) (rs : List GoBytes)
    (hn : recordHeaderMax ≤ n) (hf : ∀ r ∈ rs, FitsRec c r)
    (hp : ∀ p, some p ∈ rs → (stored c p).length ≤ n) :
    fileHeaderSize ≤ n ∧ ∀ r ∈ rs, RecFitsBuf c n r :=
  ⟨Nat.le_trans (by decide) hn,
   fun r hr => recFitsBuf_of_fits c n r (hf r hr) hn (fun p hp' => hp p (hp' ▸ hr))⟩

/-- non-vacuity of the size precondition -/
example : fileHeaderSize ≤ 64 ∧ ∀ r ∈ [some [1, 2, 3], none, some []], RecFitsBuf none 64 r := by
  apply size_precondition_of_payloads none 64 _ (by decide)
  · intro r hr
    simp only [List.mem_cons, List.not_mem_nil, or_false] at hr
    rcases hr with rfl | rfl | rfl <;> simp [FitsRec, clenOf]
  · intro p hp
    simp only [List.mem_cons, List.not_mem_nil, or_false, Option.some.injEq] at hp
    rcases hp with rfl | h | rfl
    · simp [stored]
    · cases h
    · simp [stored]

/-- the padding rule at work: 8 + 13 + 11 = 32 bytes are two whole 16-byte blocks, no padding block -/
example :
    (runDirect none (DWState.open 16 0) [.write (some [1, 2, 3]), .write none]).1.close =
      fileHeader currentVersion 0 ++ encAll none [some [1, 2, 3], none] := by
  decide +kernel

end SST.C04.Direct
