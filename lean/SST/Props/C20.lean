/-
C20 — The published Kaitai schema decodes every written file to the same records.
Property theorems only; the schema `Generated.schema` is regenerated from kaitai/recordio_v4.ksy by
tools/ksy2lean.py on every check run, the interpreter `Kaitai.kaitaiParse` is SST/Model/Kaitai.lean, the
lemmas are in SST/Proofs/Kaitai.lean.
-/
import SST.Proofs.Kaitai
namespace SST.C20
open SST Generated SST.Kaitai

/-- For EVERY compressor (lawful or not: only the stored bytes matter), every record list (nil and empty
records included) and every header compression code `ct` (below 2^32: the header field has four bytes) that
is 0 exactly when the file is uncompressed:
interpreting the published schema over the file the writer produces (C04.close_exact: file header ++
records) succeeds and yields version 4, the compression code, and per record the nil flag, the header
numbers and the STORED payload bytes (`stored c r`; nothing for a nil record although its header carries
a compressed length).
Size hypothesis: `KFitsRec` = lengths below 2^56, because the published `vlq_base128_le` adds up 8 groups
only (`vlq_limit_is_sharp` below shows the bound cannot be relaxed to `FitsRec`'s 2^64).  Like `FitsRec` it
holds for every slice a Go program can have (heap addresses have 48 bits). -/
theorem kaitai_decodes_writer_output (c : Compression) (ct : Nat) (rs : List GoBytes)
    (hct : ct < 2 ^ 32) (hm : ct = 0 ↔ c = none) (hf : ∀ r ∈ rs, KFitsRec c r) :
    kaitaiParse schema (fileHeader currentVersion ct ++ encAll c rs)
      = .ok ({ version := currentVersion, compression := ct }, rs.map (expectedRec c)) :=
  kaitai_decodes c currentVersion ct rs (by decide) hct hm hf

/-- Against the native reader, for a LAWFUL compressor (the native reader has to decompress; the toy compressor
below makes it stop at the first record): the Kaitai reader and the native sequential reader see the same number of
records, the same nil flags, and the Kaitai payloads are the stored bytes of the records the native
reader returns (equal `map`s, hence equal lengths). -/
theorem kaitai_agrees_with_native_reader (c : Compression) (ct : Nat) (rs : List GoBytes)
    (hct : ct < 2 ^ 32) (hm : ct = 0 ↔ c = none) (hl : LawfulC c) (hf : ∀ r ∈ rs, KFitsRec c r) :
    ∃ hdr krs, kaitaiParse schema (fileHeader currentVersion ct ++ encAll c rs) = .ok (hdr, krs) ∧
      hdr.version = currentVersion ∧ hdr.compression = ct ∧
      krs.map KRecord.isNil = (readAll c (fileHeader currentVersion ct ++ encAll c rs)).1.map Option.isNone ∧
      krs.map KRecord.payload = (readAll c (fileHeader currentVersion ct ++ encAll c rs)).1.map
        (fun r => match r with | none => [] | some x => stored c x) := by
  rw [Proofs.seq_roundtrip c ct rs hl fun r hr => (hf r hr).fits]
  exact ⟨_, _, kaitai_decodes c currentVersion ct rs (by decide) hct hm hf, rfl, rfl,
    List.map_map.trans (List.map_congr_left fun r _ => expectedRec_isNil c r),
    List.map_map.trans (List.map_congr_left fun r _ => expectedRec_payload c r)⟩

/-- Every compression code the writer can emit (0 … `maxCompression`, the Go constant
`recordio.CompressionTypeLzw` via gofacts) is named by the schema's `compression` enum.  Decided over the
regenerated table: the quantifier is the finite table. -/
theorem compression_codes_known_to_schema :
    ∀ code, code < maxCompression + 1 → ((schema.enums.lookup "compression").getD []).lookup code ≠ none := by
  decide +kernel

/-- The checked-in output of kaitai-struct-compiler (kaitai/gokaitai/recordio_v4.go, vlq_base128_le.go), as
far as the translator reads it back (enum constants, field order, magic literal, the if/else tree of
`LenPayload()`, number of vlq groups), is the schema the theorems above are about. -/
theorem go_reader_matches_schema :
    schema.enums.lookup "compression" = some goReaderEnum ∧
    recTy.seq.map (·.id) = goReaderRecordFields ∧
    hdrTy.seq.map (·.id) = goReaderHeaderFields ∧
    recTy.seq.head? = some { id := "magic", kind := .contents goReaderMagic } ∧
    recTy.instances.lookup "len_payload" = some goReaderLenPayload ∧
    schema.vlqMaxGroups = goReaderVlqMaxGroups := by
  decide +kernel

/-- FINDING (outside the property's quantifier "record lists x compression types", inside its wording "every
file written by the current writer"): a writer opened with `recordio.DirectIO()` pads the file with zero
bytes up to the block size.  The native reader reads a zero tail as end-of-file (`C04.zero_tail_is_eof`);
the schema has no such rule, so the Kaitai reader fails on EVERY padded file: `magic` (contents mismatch)
for 3 or more padding bytes, `unexpected EOF` for 1 or 2. -/
theorem kaitai_rejects_zero_padding (c : Compression) (ct : Nat) (rs : List GoBytes) (k : Nat)
    (hct : ct < 2 ^ 32) (hm : ct = 0 ↔ c = none) (hf : ∀ r ∈ rs, KFitsRec c r) :
    kaitaiParse schema (fileHeader currentVersion ct ++ encAll c rs ++ List.replicate (k + 1) 0)
      = .error (if k + 1 < 3 then .unexpectedEof else .magic) :=
  kaitai_rejects_padding c currentVersion ct rs k (by decide) hct hm hf

/-- Sharpness of the size hypothesis: the length 2^56 is written by the writer as 9 varint bytes; the
Kaitai vlq reader consumes all 9 but its `value` is 0 (a record of ≥ 64 PiB cannot exist, so this is a
remark about the schema, not a reachable defect). -/
theorem vlq_limit_is_sharp : readVlq schema.vlqMaxGroups (uvarintEnc (2 ^ 56)) = .ok (0, []) := by
  rw [uvarintEnc_two_pow_56]; rfl

/-! Non-vacuity: a (deliberately unlawful) compressor, a list with a nil, an empty and a data record. -/

/-- a toy "compressor" that prefixes a byte (so stored ≠ raw, and a nil record still gets `clen` = 1) -/
def toyComp : Comp := { enc := fun x => 0xAA :: x, dec := fun _ => none }

example : ∀ r ∈ [some [1, 2], none, some []], KFitsRec (some toyComp) r := by
  intro r hr
  simp only [List.mem_cons, List.not_mem_nil, or_false] at hr
  rcases hr with rfl | rfl | rfl <;> simp [KFitsRec, clenOf, toyComp, vlqLimit]

example : (1 = 0 ↔ some toyComp = none) := by simp

example : (kaitaiParse schema (fileHeader currentVersion 1 ++ encAll (some toyComp) [some [1, 2], none, some []])).toOption.map
    (fun p => (p.1.compression, p.2.map (fun k => (k.isNil, k.payload))))
    = some (1, [(false, [0xAA, 1, 2]), (true, []), (false, [0xAA])]) := by
  rw [kaitai_decodes_writer_output (some toyComp) 1 _ (by decide) (by simp)
    (by intro r hr
        simp only [List.mem_cons, List.not_mem_nil, or_false] at hr
        rcases hr with rfl | rfl | rfl <;> simp [KFitsRec, clenOf, toyComp, vlqLimit])]
  rfl

end SST.C20
