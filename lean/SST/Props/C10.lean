/-
C10 — Recovery may be killed at any instant and repeated without changing the outcome.
Abstract-disk model L6-fs; `recoverEvents d` is the sequence of file-system calls `Open` makes on the disk `d`
(finishing / discarding compactions, removing unfinished tables, flushing the replayed WAL into a new table,
removing the WAL files oldest first, re-creating the WAL directory).
-/
import SST.Proofs.FSRecover
namespace SST.C10
open SST SST.FS SST.DBM SST.Proofs.FS

/-- the calls of `Open`, run to the end, leave exactly the disk the function `recover` computes -/
theorem recover_events_sound (d : Disk) (h : DiskOk d) (o : Opts) (d' : Disk) (s : State)
    (hr : recover d o = .ok (d', s)) (junks : List (Nat × Layer)) : applyEvs d (recoverEvents d junks) = d' :=
  recover_events d h o d' s hr junks

/-- MAIN THEOREM — for EVERY well-formed disk (every crash image of C02 is one) and EVERY number `m` of calls
after which the recovery is killed: the disk left behind is again well-formed, a later `Open` succeeds on it and
serves exactly the content the uninterrupted recovery serves.  The unlink order inside a `RemoveAll` of a table
directory does not matter: the abstract states complete → part true → part false → gone that `recoverEvents`
visits, plus — for a COMPLETE table — the state "metadata file unlinked first, index.rio / data.rio still load: a
legacy table showing `junks g`" inserted by `detour`, cover every order (an argument about the abstraction
`TableDir`; the statement itself quantifies over the one chain `recoverEvents` fixes); in each of them the table is still
listed by the flagged compaction (deleted again).  An unfinished table is removed index.rio first: every state on the way
fails to load and is discarded again.  "Same outcome" is the same CONTENT; the table layout may differ (a second
recovery may flush the remaining WAL files into one more table). -/
theorem recover_idempotent_under_crash (d : Disk) (h : DiskOk d) (o o' : Opts) (m : Nat) (junks : List (Nat × Layer)) :
    let dm := applyEvs d ((recoverEvents d junks).take m)
    DiskOk dm ∧ ∃ d1 s1 d2 s2, recover d o = .ok (d1, s1) ∧ recover dm o' = .ok (d2, s2) ∧ abs s2 = abs s1 := by
  intro dm
  obtain ⟨h1, h2⟩ := recover_prefix d h m junks
  exact ⟨h1, recover_same h h1 h2 o o'⟩

/-- the disk after a sequence of interrupted recovery attempts (attempt i killed after `ms[i].1` calls; `ms[i].2` =
its `junk` assignment) -/
def interrupted : Disk → List (Nat × List (Nat × Layer)) → Disk
  | d, [] => d
  | d, m :: ms => interrupted (applyEvs d ((recoverEvents d m.2).take m.1)) ms

/-- … which is the disk after as many killed `Open`s in the model of whole histories (SST/Model/FSSessions.lean) -/
theorem interrupted_eq : ∀ (ms : List (Nat × List (Nat × Layer))) (d : Disk), interrupted d ms = FSS.killedOpens d ms := by
  intro ms
  induction ms with
  | nil => intro d; rfl
  | cons m ms ih => intro d; exact ih _

/-- any number of interrupted attempts is equivalent to none -/
theorem recover_after_interruptions (d : Disk) (h : DiskOk d) (ms : List (Nat × List (Nat × Layer))) (o o' : Opts) :
    DiskOk (interrupted d ms) ∧
    ∃ d1 s1 d2 s2, recover d o = .ok (d1, s1) ∧ recover (interrupted d ms) o' = .ok (d2, s2) ∧ abs s2 = abs s1 := by
  rw [interrupted_eq]
  obtain ⟨h1, h2⟩ := killedOpens_ok ms d h
  exact ⟨h1, recover_same h h1 h2 o o'⟩

/-- a flagged compaction of tables 1,2 (of 1,2,3) with table 1 half deleted (metadata still there), table 2
already without metadata, an unflagged leftover compaction directory, an unfinished newest table and two WAL files
of which the last has a cut record -/
def dCompCrash : Disk :=
  { tables := [(1, .part true), (2, .part false), (3, .complete [([3], some [7])]), (4, .part false)], walDir := true,
    wal := [{ num := 0, recs := [.put [1] [5]] }, { num := 1, recs := [.del [3]], torn := true }],
    comps := [{ id := 4, out := .complete [([9], some [9])] },
              { id := 7, out := .complete [([1], some [1]), ([2], some [2])], flag := some { inputs := [1, 2], replacement := 1 } }] }

example : DiskOk dCompCrash := by decide +kernel
example : (recoverEvents dCompCrash).length = 18 := by decide +kernel
example : (List.range 19).all (fun m =>
    let dm := applyEvs dCompCrash ((recoverEvents dCompCrash).take m)
    decide (DiskOk dm) && ([[1], [2], [3], [9]].map (logical dm) == [some [5], some [2], none, none])) = true := by decide +kernel

/-- before commit d2bdde6 recovery removed an unfinished table (empty metadata file, complete index / data) with a
plain `RemoveAll`: an order that unlinks meta.pb.bin first, killed right then, leaves a directory WITHOUT metadata
file that loads — the next recovery keeps it as a legacy table (here showing `[1] ↦ 0x0707`).  Now index.rio goes
first (`removeUnfinishedTable`) and every intermediate state is discarded again. -/
def dUnfinished : Disk :=
  { tables := [(1, .part false)], walDir := true, wal := [{ num := 0, recs := [.put [1] [9]] }] }

theorem prefix_metadata_first_removal_kept_legacy_table :
    let dOld := applyEv dUnfinished (.tblLoadable 1 [([1], some [7, 7])])     -- pre-fix: metadata unlinked first
    let dNew := applyEv dUnfinished (.tblUnlinkPart 1 false)                   -- now: index.rio unlinked first
    dOld.tables = [(1, .complete [([1], some [7, 7])])] ∧ dNew.tables = [(1, .part false)] ∧
      (recover dOld).toOption.map (fun r => r.2.tables.map (·.gen)) = some [1, 2] ∧
      (recover dNew).toOption.map (fun r => r.2.tables.map (·.gen)) = some [1] ∧
      recoverEvents dUnfinished [(1, [([1], some [7, 7])])] = recoverEvents dUnfinished [] := by
  decide +kernel

/-- pre-fix D15 (rename BEFORE the other inputs are deleted): the rename takes the flag away, an interruption
inside the following RemoveAll leaves a half-deleted table nobody cleans up — not well-formed, `Open` fails -/
def dRenameFirst : Disk :=
  { tables := [(1, .complete [([1], some [1]), ([2], some [2])]), (2, .part true)], walDir := true, wal := [{ num := 0 }] }

theorem rename_before_delete_breaks_recovery : ¬ DiskOk dRenameFirst ∧ errOf (recover dRenameFirst) = some .tableLoad := by
  decide +kernel

/-- pre-fix D16 (WAL files removed in directory order): after the recovery flush, removing the NEWER file first
changes what the next recovery serves; removing the older one first does not -/
def dWalTwo : Disk :=
  { tables := [(1, .complete [([1], some [2])])], walDir := true,
    wal := [{ num := 0, recs := [.put [1] [1]] }, { num := 1, recs := [.put [1] [2]] }] }

theorem newest_wal_first_changes_outcome :
    logical dWalTwo [1] = some [2] ∧ logical (applyEv dWalTwo (.walUnlink 0)) [1] = some [2] ∧
      logical (applyEv dWalTwo (.walUnlink 1)) [1] = some [1] := by
  decide +kernel

end SST.C10
