/-
C13, interleaved — asynchronous WAL with the client thread, the flusher and the compactor running concurrently.
Same transition system as C02_Interleave (SST/Model/FSInterleave.lean) with `async = true`: an append returns as
soon as the record is in the appender's buffer (`Mv.done` is enabled with a non-empty `queue`); buffer flushes
(`Mv.torn` / `Mv.append`) happen inside later appends and when a rotation closes the file.
-/
import SST.Proofs.FSInterleaveTies
namespace SST.C13.Interleave
open SST SST.FS SST.DBM SST.FSI SST.Proofs.FS SST.Proofs.FSI

/-- MAIN THEOREM — for every well-formed disk `d0`, after `Open`, EVERY client program, EVERY schedule of the three
threads (any admissible interleaving, any buffer-flush points, cut anywhere): the disk is well-formed, `Open`
succeeds, and the opened database is the reference after a PREFIX `hist.take p` of the mutations of the calls begun
so far (all acknowledged except possibly the last) — no holes, no reordering —, and the prefix contains every
mutation issued up to the last completed rotation (`mark`). -/
theorem async_crash_prefix_interleaved (d0 : Disk) (h0 : DiskOk d0) (o0 : Opts) (d1 : Disk) (s1 : State)
    (hr0 : recover d0 o0 = .ok (d1, s1)) (prog : List Op) (sched : List Mv) (o : Opts) :
    let c := FSI.run true (start d1 (openedVol s1) prog) sched
    DiskOk c.d ∧ c.acked ≤ c.hist.length ∧ c.hist.length ≤ c.acked + 1 ∧
      (∃ pre, prog = pre ++ c.prog ∧ c.hist = pre.filterMap Op.accepted) ∧
      ∃ d' s p, recover c.d o = .ok (d', s) ∧ c.mark ≤ p ∧ p ≤ c.hist.length ∧
        abs s = applySpec (logical d0) (c.hist.take p) := by
  intro c
  obtain ⟨h1, h2, h3, hpre, d', s, p, hr, hp1, hp2, _, hp4⟩ := interleaved_good d0 h0 o0 d1 s1 hr0 prog true sched o
  exact ⟨h1, h2, h3, hpre, d', s, p, hr, hp1, hp2, hp4⟩

def d1 : Disk := { walDir := true, wal := [{ num := 0 }] }
def c0 (prog : List Op) : Cfg := start d1 { s := { isOpen := true } } prog

/-- three acknowledged writes of which one has reached the file and the next is cut; then a rotation starts
writing out the buffer while nothing else is durable yet -/
def prog1 : List Op := [.put [1] [1] false, .put [2] [2] false, .put [1] [3] false, .rotate]
def sched1 : List Mv := [.begin, .done, .begin, .done, .begin, .append, .torn, .done, .begin, .append]

example :
    let c := FSI.run true (c0 prog1) sched1
    c.acked = 3 ∧ c.hist.length = 3 ∧ c.queue.length = 1 ∧ c.mark = 0 ∧ DiskOk c.d ∧
      [[1], [2]].map (logical c.d) = [some [1], some [2]] := by
  decide +kernel

end SST.C13.Interleave
