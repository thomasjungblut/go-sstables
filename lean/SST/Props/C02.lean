/-
C02 — Acknowledged writes survive a process kill at any instant (synchronous WAL).
Proved for the abstract-disk model L6-fs (SST/Model/FS.lean): table directories, WAL files and compaction
directories as abstract objects, one event per completed file-system call at the granularity that matters,
kill-9 assumption (a completed call is retained, each call is atomic, no power loss).  Background steps
(flusher, compactor) are placed at operation boundaries HERE; the finer interleavings with client calls are
constrained by the locks / the hand-off channel: they are the subject of Props/C02_Interleave.lean and are
sampled by the real crash images (stream `crash`), which also tie the abstract objects to real directory images
(`fs.recover`).
-/
import SST.Proofs.FSSync
namespace SST.C02
open SST SST.FS SST.DBM SST.Proofs.FS

/-- MAIN THEOREM — crash points × programs × configurations: for EVERY list of steps (client calls of both API
flavours, valid and rejected; forced and size-triggered rotations; flush completions; compaction cycles with any
table sizes; close; re-open with any options; each step with ANY assignment `junk` of what a table directory shows
while a `RemoveAll` has unlinked its metadata file first — `drain`/`torn` are ignored by the synchronous WAL), and
EVERY number `n` of completed file-system calls: the directory image after the first `n` calls is a well-formed
disk, `Open` succeeds on it, and the opened database holds exactly the reference map after all acknowledged steps
(those whose calls are all among the first `n`), or after those plus the single step in flight.
(`n` beyond the end of the session = the image after the session.) -/
theorem crash_safe_sync (steps : List AStep) (n : Nat) (o : Opts) :
    let evs := sessionFrom false {} {} steps
    let d := applyEvs {} (evs.flatten.take n)
    let a := ackedCount evs n
    DiskOk d ∧ ∃ d' s, recover d o = .ok (d', s) ∧
      (abs s = (specFold {} ((steps.take a).map (·.st))).m ∨ abs s = (specFold {} ((steps.take (a + 1)).map (·.st))).m) := by
  intro evs d a
  obtain ⟨h1, h2⟩ := sync_run steps {} {} {} QS_init Proofs.DB.rel_init n
  obtain ⟨d', s, hr, ha⟩ := recover_serves d h1 o
  exact ⟨h1, d', s, hr, ha ▸ h2⟩

/-- … and the same from ANY well-formed disk (in particular any crash image, of this or of an earlier session, or
an image left by an interrupted recovery): after `Open` the session may continue with any steps and be killed
again anywhere.  The reference starts from the content `logical d0` the first `Open` recovered. -/
theorem crash_safe_sync_after_recovery (d0 : Disk) (h0 : DiskOk d0) (o0 : Opts) (d1 : Disk) (s1 : State)
    (hr0 : recover d0 o0 = .ok (d1, s1)) (steps : List AStep) (n : Nat) (o : Opts) :
    let evs := sessionFrom false d1 (openedVol s1) steps
    let d := applyEvs d1 (evs.flatten.take n)
    let a := ackedCount evs n
    let sp0 : Spec := { m := logical d0, isOpen := true, closed := false }
    DiskOk d ∧ ∃ d' s, recover d o = .ok (d', s) ∧
      (abs s = (specFold sp0 ((steps.take a).map (·.st))).m ∨
        abs s = (specFold sp0 ((steps.take (a + 1)).map (·.st))).m) := by
  intro evs d a sp0
  have hq := recover_QW d0 h0 o0 d1 s1 hr0
  have hflags := recover_opened d0 o0 d1 s1 hr0
  have hrel : Proofs.DB.Rel (openedVol s1).s sp0 :=
    { inv := hq.inv, o := hflags.1, c := hflags.2.1, m := fun k => by
        show abs s1 k = logical d0 k
        rw [recover_abs d0 o0 d1 s1 hr0] }
  obtain ⟨h1, h2⟩ := sync_run steps d1 (openedVol s1) sp0 ⟨⟨[], [], [], false, hq⟩, rfl⟩ hrel n
  obtain ⟨d', s, hr, ha⟩ := recover_serves d h1 o
  exact ⟨h1, d', s, hr, ha ▸ h2⟩

/-- `Open` never fails on a well-formed disk and serves exactly its `logical` content -/
theorem recover_total (d : Disk) (h : DiskOk d) (o : Opts) :
    ∃ d' s, recover d o = .ok (d', s) ∧ abs s = logical d ∧ DiskOk d' := by
  obtain ⟨d', s, hr, ha⟩ := recover_serves d h o
  exact ⟨d', s, hr, ha, (recover_diskOk d h o d' s hr).1⟩

/-- crash part of C17: a call that returns an error makes no file-system call and leaves the process state alone,
so no crash image taken after it differs from one taken before it -/
theorem rejected_call_no_disk_effect (async : Bool) (d : Disk) (v : Vol) (a : AStep) (r : Res)
    (hr : (step v.s a.st).2.1 = some r) (hbad : r = .rejected ∨ r = .notOpen) : fsStep async d v a = ([], v) :=
  rejected_no_events async d v a r hr hbad

/-! ### non-vacuity and sanity -/

/-- a session with rotations, flushes, a delete, a compaction (whose first input is seen as a legacy table while it
is being removed) and a close: event counts per step -/
example : (sessionFrom false {} {} [{ st := .reopen {threshold := 0, maxSize := 100} }, { st := .putS [1] [9] false },
      { st := .putS [2] [8] true }, { st := .flush }, { st := .delS [1] }, { st := .rotate }, { st := .flush },
      { st := .compact [10, 10], junk := [(1, [([1], some [7, 7])])] }, { st := .putS [3] [3] false },
      { st := .close }]).map (·.length) = [5, 2, 5, 6, 2, 3, 6, 13, 2, 10] := by decide +kernel

/-- crash images inside a flush: (a) index.rio and data.rio have their headers, the metadata file does not exist yet —
the directory loads as an EMPTY legacy table and recovery keeps it; (b) the metadata file exists and is empty, the
other files may be complete — recovery discards the directory.  Both well-formed, both serve the logged values. -/
def dLoadable : Disk :=
  { tables := [(1, .complete [])], walDir := true,
    wal := [{ num := 0, recs := [.put [1] [9], .put [2] [8]] }, { num := 1 }] }

def dEmptyMeta : Disk := { dLoadable with tables := [(1, .part false)] }

example : DiskOk dLoadable ∧ logical dLoadable [1] = some [9] ∧ logical dLoadable [2] = some [8] := by decide +kernel
example : DiskOk dEmptyMeta ∧ logical dEmptyMeta [1] = some [9] ∧
    (recover dLoadable).toOption.map (fun r => r.2.tables.map (·.gen)) = some [1, 2] ∧
    (recover dEmptyMeta).toOption.map (fun r => r.2.tables.map (·.gen)) = some [1] := by decide +kernel

/-- before commit 2cc0c75 a directory with an EMPTY metadata file and complete index / data files was loaded (as a
legacy table with mis-parsed values, here `junk`) and kept for good; now it is discarded -/
def dKeptJunk : Disk := { dLoadable with tables := [(1, .complete [([1], some [7, 7])])] }

theorem prefix_unfinished_table_was_kept :
    (recover dKeptJunk).toOption.map (fun r => (r.2.tables.map (·.gen), r.2.tables.head?.bind (fun t => t.cells.get [1]))) =
      some ([1, 2], some (some [7, 7])) ∧
    (recover dEmptyMeta).toOption.map (fun r => (r.2.tables.map (·.gen), r.2.tables.head?.bind (fun t => t.cells.get [1]))) =
      some ([1], some (some [9])) := by decide +kernel

/-- a disk with an unfinished newest table and the WAL file that still holds its records (crash inside a flush),
a header-less newest WAL file (crash inside the rotation) — well-formed, recovers, and serves the logged value -/
def dFlushCrash : Disk :=
  { tables := [(1, .complete [([2], some [8])]), (2, .part false)], walDir := true,
    wal := [{ num := 0, recs := [.put [1] [9], .del [2]] }, { num := 1, header := false }] }

example : DiskOk dFlushCrash := by decide +kernel
example : (recover dFlushCrash).toOption.map (fun r => (r.1.tables.map (·.1), abs r.2 [1], abs r.2 [2])) =
    some ([1, 2], some [9], none) := by decide +kernel

/-- pre-fix D11: had recovery not discarded the unfinished directory (i.e. had it been treated like a finished
table that does not load), `Open` would fail -/
theorem unfinished_table_with_meta_fails :
    errOf (recover { dFlushCrash with tables := [(1, .complete [([2], some [8])]), (2, .part true)] }) = some .tableLoad := by
  decide +kernel

/-- pre-fix D14 (flag written before the merged table is complete): such a disk is not well-formed, recovery
"succeeds" and every key of the inputs is lost -/
def dFlagEarly : Disk :=
  { tables := [(1, .complete [([1], some [9])]), (2, .complete [([2], some [8])])], walDir := true, wal := [{ num := 0 }],
    comps := [{ id := 1, out := .part false, flag := some { inputs := [1, 2], replacement := 1 } }] }

theorem flag_before_complete_loses_data :
    ¬ DiskOk dFlagEarly ∧ (recover dFlagEarly).toOption.map (fun r => (abs r.2 [1], abs r.2 [2])) = some (none, none) := by
  decide +kernel

end SST.C02
