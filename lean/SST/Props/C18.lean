/-
C18 — Documented concurrent use is data-race free and gives single-threaded answers.

FULL PROPERTY (about the real goroutines, under the Go memory model): concurrent calls on one SimpleDB handle,
concurrent Get/Contains/range scans on one table reader (default index loader) and concurrent
ReadNextAt/SeekNext on one memory-mapped RecordIO reader never constitute a data race, never panic, and each
call returns what it would return if executed alone.

WHAT IS PROVED HERE (`partial`, by nature — Lean carries the lock and ownership bookkeeping, not the runtime):
 (a) `race_free`: in the access table REGENERATED from /repo/simpledb on every run (tools/lockfacts →
     SST/Generated/Access.lean: every access of every function to a field of DB / SSTableManager / RWMemstore
     or to the content of a memstore / WAL / table reader, with the locks held there — own acquisitions plus
     the locks all callers hold, as a fixed point over the package call graph — and the thread kind executing
     it), any two conflicting accesses that can overlap in time hold a common lock in a compatible mode or are
     ordered by one of the two stated hand-off edges.  The quantifier IS the table, so `decide` is a proof of
     the statement about the table; that the table is what the source says is the extractor's job (syntactic,
     stdlib go/parser; trusted), that locks/channels/`go` statements order memory accesses is the Go memory
     model (modelled, not verified).
 (b) `documented_reads_write_nothing` over the regenerated purity facts (SST/Generated/Purity.lean), and
     `reads_are_pure` for the Lean models: the documented read operations return the handle unchanged, so in
     any sequence of them each returns what it returns alone.
 (c) "same result as alone" for the database with writers is linearizability = C05; for concurrent readers it is
     `concurrent_gets_return_the_sequential_answer` below.
MODELLED, NOT VERIFIED: the Go memory model, `sync.RWMutex`, channels, the buffer pool behind
`MMapReader.bufferPool` (capnp `bufferpool.Pool`, internally synchronised; the reader copies out of pooled
buffers before returning them), `x/exp/mmap.ReaderAt` (read-only mapping), the bloom filter's `Contains`, slice
aliasing below field granularity (`append` in `addReader` writes beyond the length of every published slice),
and the race detector's own coverage.  The `race` stream (a `-race` build hammering the three handles and
comparing every answer with the single-threaded one) validates the extracted table and these assumptions
against the code on every run; it is not part of the theorems.
-/
import SST.Proofs.AccessBuckets
import SST.Generated.Purity
import SST.Proofs.Conc
import SST.Model.SSTable
namespace SST.C18
open SST SST.Generated SST.AccessSpec

/-- the indices the hand-written rules use denote the objects they are meant to denote -/
theorem names_consistent :
    objNames[objMemStore]? = some "MemStoreI→" ∧ objNames[objRwLock]? = some "DB.rwLock" ∧
    objNames[objDatabaseLock]? = some "SSTableManager.databaseLock" ∧
    objNames[objManagerLock]? = some "SSTableManager.managerLock" ∧
    viaNames[viaHanded]? = some "handed" ∧ viaNames[viaWriteStore]? = some "writeStore" := by decide +kernel

/-- the order facts the `ordered` table and the hand-off edges rest on are what the source says today
(a mismatch means Open/Close/the flush hand-off were restructured: re-examine the rules).
Since edfc7e7 `Open` registers, right after its `open` check, a deferred clean-up — `defer:` events: close the stacked
reader, forget the readers — that gives the loaded tables back when `Open` FAILS.  It runs at frame exit, still under the
db write lock (the unlock was deferred earlier), and — re-examined for the rules: — the extractor keeps its accesses in
thread kind `opener 0` only because the literal is `if err != nil { … }` on the named result and `Open` returns an error
only before its first `go` statement (tools/lockfacts `errorOnlyDefer`; an unguarded clean-up is classified `opener 2`,
concurrent with both goroutines, and `table_ok` fails): the clean-up never runs in a process that has a flusher or a
compactor.  The conjunct after `openOrder` says so on the table: `clearReaders` — called from the clean-up only — is executed
by `opener 0` alone, and everything it writes is written under the db write lock. -/
theorem order_facts_as_expected :
    spawns = [("DB.Open", "flushMemstoreContinuously"), ("DB.Open", "backgroundCompaction")] ∧
    openOrder = ["lock:dbW", "check:open",
      "defer:call:SSTableManager.currentSSTable", "defer:content:currentReader.Close", "defer:call:SSTableManager.clearReaders",
      "call:DB.repairCompactions", "call:DB.reconstructSSTables",
      "call:DB.replayAndSetupWriteAheadLog", "go:flushMemstoreContinuously", "write:DB.compactionTicker",
      "go:backgroundCompaction", "write:DB.open"] ∧
    (accesses.filter (fun a => a.fn == "SSTableManager.clearReaders")).all
      (fun a => a.thread == .opener 0 && (a.locks.contains .dbW || a.kind == .read)) = true ∧
    closeOrder = ["lock:dbW", "check:open", "check:closed", "write:DB.closed", "call:DB.rotateWalAndFlushMemstore",
      "close:storeFlushChannel", "recv:doneFlushChannel", "unlock:db", "send:compactionTickerStopChannel",
      "recv:doneCompactionChannel", "content:wal.Close", "call:SSTableManager.currentSSTable",
      "content:currentReader.Close"] ∧
    flushSends = [("DB.VerifWaitFlushIdle", "&v0"), ("DB.rotateWalAndFlushMemstore", "swapMemstore(r)")] ∧
    swapMemstoreBody = "{ v0 := p0.memStore.writeStore p0.memStore = &RWMemstore{ readStore: v0, writeStore: memstore.NewMemStore(), } return &v0 }" ∧
    dbLockShared = true ∧
    dbChannels = [("compactionTickerStopChannel", "make(chan interface{}, 1)"), ("doneCompactionChannel", "make(chan bool)"),
      ("doneFlushChannel", "make(chan bool)"), ("storeFlushChannel", "make(chan memStoreFlushAction)")] ∧
    clientPrologues = [
      ("DB.Close", ["DB.rwLock", "DB.rwLock", "DB.open", "DB.closed"], [.dbW]),
      ("DB.Delete", [], []),
      ("DB.DeleteBytes", ["DB.rwLock", "DB.rwLock", "DB.open", "DB.closed"], [.dbW]),
      ("DB.Get", [], []),
      ("DB.GetBytes", ["DB.rwLock", "DB.rwLock", "DB.open", "DB.closed"], [.dbR]),
      ("DB.Put", [], []),
      ("DB.PutBytes", ["DB.rwLock", "DB.rwLock", "DB.open", "DB.closed"], [.dbW])] := by decide +kernel

/-- a memstore is written only while it is the write store: nothing is ever written through `readStore` or
through the flusher's hand-over (H2's last step) -/
theorem readstore_never_written (a : Access) (ha : a ∈ accesses) (ho : a.obj = objMemStore)
    (hk : a.kind ≠ .read) : a.via = viaWriteStore := by
  have h : (accesses.all fun a => !(a.obj == objMemStore) || a.kind == .read || a.via == viaWriteStore) = true := by
    decide +kernel
  have := List.all_eq_true.mp h a ha
  simp only [ho, beq_self_eq_true, Bool.not_true, Bool.false_or, Bool.or_eq_true, beq_iff_eq] at this
  exact this.resolve_left hk

theorem table_ok : tableOk accesses = true :=
  tableOk_of_bucketsOk (n := objNames.length) (by decide +kernel)

/-- RACE FREEDOM of the documented concurrent use of a SimpleDB handle, over the regenerated table: any two
accesses to the same object, not both reads (and not both atomic), from thread kinds that can run at the same
time, hold a common lock in a compatible mode, or are ordered by hand-off edge H2 (memstore ownership) or H3
(closed flag) of SST/Spec/Access.lean. -/
theorem race_free (a b : Access) (ha : a ∈ accesses) (hb : b ∈ accesses)
    (hc : conflicting a b = true) (ho : concurrent a.thread b.thread = true) :
    commonLock a b = true ∨ handoff a b = true := by
  have h : pairOk a b = true := List.all_eq_true.mp (List.all_eq_true.mp table_ok a ha) b hb
  simpa only [pairOk, hc, ho, Bool.and_self, Bool.not_true, Bool.false_or, Bool.or_eq_true] using h

/-- non-vacuity: the table has conflicting pairs that can overlap, and some of them rely on a hand-off edge -/
example : (contested accesses).length > 100 ∧
    ((contested accesses).filter fun p => !commonLock p.1 p.2).length > 0 := by
  have h : accesses.all (·.obj < objNames.length) = true := by decide +kernel
  rw [contested_length h, contested_filter_length h]
  decide +kernel

/-- the check can fail: `GetBytes` reading `DB.memStore` without the read lock would race with `swapMemstore` -/
example : pairOk ⟨"DB.GetBytes", .client, 19, 0, .read, [], "mutant"⟩
    ⟨"swapMemstore", .client, 19, 0, .write, [.dbW, .guard], "flush.go:103"⟩ = false := by decide +kernel
/-- … and so would a reflection that took only the manager lock against a reader's table lookup -/
example : pairOk ⟨"SSTableManager.reflectCompactionResult", .compactor, 18, 6, .write, [.mgrW], "mutant"⟩
    ⟨"DB.GetBytes", .client, 18, 2, .read, [.dbR, .guard], "db.go:214"⟩ = false := by decide +kernel

/-- regenerated purity facts: on the paths of `ReadNextAt`, `SeekNext`, `(*SSTableReader).Get / Contains /
ScanStartingAt / ScanRange / getValueAtOffset`, the `(*SliceKeyIndex)` methods and `(SuperSSTableReader).Get /
Contains / ScanStartingAt / ScanRange` there is no assignment to a receiver field or a package-level variable,
and every entry point exists -/
theorem documented_reads_write_nothing :
    ∀ p ∈ documentedReads, p.found = true ∧ p.writes = [] := by decide +kernel

/-- callees on the documented read paths that are NOT followed (methods of objects held in receiver fields): each is
a read of an immutable object or an internally synchronised one — a runtime fact, modelled, not verified:
`bufferPool.Get/Put` (capnp `bufferpool.Pool`: `sync.Pool`-backed, safe for concurrent use; the readers copy out of the
pooled buffer before `Put`), `mmapReader.ReadAt` (read-only mapping), `header.Decompress*` (the compressor objects are
stateless), `bloomFilter.Contains` (reads the bit set loaded at open), `v0DataReader.ReadNextAt` (legacy v0 tables: the
proto mmap reader, same contract). -/
def allowedCallees : List String :=
  ["MMapReader.bufferPool.Get", "MMapReader.bufferPool.Put", "MMapReader.header.Decompress",
   "MMapReader.header.DecompressWithBuf", "MMapReader.mmapReader.ReadAt", "SSTableReader.bloomFilter.Contains",
   "SSTableReader.v0DataReader.ReadNextAt"]

/-- … and nothing else is called on an object reachable from the shared handle: a new stateful helper on a read
path (a cached hasher, a scratch buffer, a statistics counter behind a method) shows up here -/
theorem documented_reads_call_only_known_readers :
    ∀ p ∈ documentedReads, ∀ c ∈ p.notFollowed, c ∈ allowedCallees := by decide +kernel

/-- the extraction does see writes where there are some: `Scan` appends to `miscClosers` (it is outside the
documented set), `Close` flips the flags -/
theorem scan_is_outside_the_documented_set :
    (undocumented.map fun p => (p.root, p.writes)) =
      [("SSTableReader.Scan", ["SSTableReader.Scan: SSTableReader.miscClosers"]),
       ("SuperSSTableReader.Scan", ["SSTableReader.Scan: SSTableReader.miscClosers"]),
       ("MMapReader.Close", ["MMapReader.Close: MMapReader.closed", "MMapReader.Close: MMapReader.open"]),
       ("SSTableReader.Close", ["MMapReader.Close: MMapReader.closed", "MMapReader.Close: MMapReader.open"])] := by
  decide +kernel

/-- an operation on a shared handle: new handle state and a result -/
abbrev HOp (σ ρ : Type) := σ → σ × ρ

def runOps {σ ρ : Type} : σ → List (HOp σ ρ) → σ × List ρ
  | s, [] => (s, [])
  | s, op :: ops => let (s', r) := op s; let (s'', rs) := runOps s' ops; (s'', r :: rs)

def IsRead {σ ρ : Type} (op : HOp σ ρ) : Prop := ∀ s, (op s).1 = s

/-- in ANY sequence of reads on one handle (any interleaving of any number of callers at call granularity) the
handle never changes and each call returns what it returns when executed alone on the handle -/
theorem reads_alone {σ ρ : Type} (s : σ) (ops : List (HOp σ ρ)) (h : ∀ op ∈ ops, IsRead op) :
    (runOps s ops).1 = s ∧ (runOps s ops).2 = ops.map fun op => (op s).2 := by
  induction ops generalizing s with
  | nil => exact ⟨rfl, rfl⟩
  | cons op ops ih =>
    have h1 : (op s).1 = s := h op (List.mem_cons_self) s
    obtain ⟨i1, i2⟩ := ih s (fun o ho => h o (List.mem_cons_of_mem _ ho))
    simp only [runOps, List.map_cons]
    rw [h1]
    exact ⟨i1, by rw [i2]⟩

/-- the mmap reader's handle is the mapped file; `ReadNextAt` / `SeekNext` as handle operations.  The model's `readAt` /
`seekNext` are functions of the file bytes and carry no handle state, so that these two are reads is the modelling
decision (first two conjuncts of `reads_are_pure`, by `rfl`); its tie to the code is `documented_reads_write_nothing`. -/
def mmapReadAt (c : Compression) (off : Nat) : HOp Bytes (Except Err GoBytes) := fun f => (f, readAt c f off)
def mmapSeekNext (c : Compression) (off : Nat) : HOp Bytes (Except Err (Nat × GoBytes)) :=
  fun f => (f, seekNext c f off)

/-- `reads_are_pure`: the documented read operations of the three handles are reads in the models —
`ReadNextAt`/`SeekNext` of the mmap reader; `Get`/`Contains`/`ScanStartingAt`/`ScanRange` of a table reader
with the DEFAULT (slice) index loader, whose model threads the index as state precisely because the disk
loader's cache is NOT a read; the database's `GetBytes` (`DBM.step` on a `get`). -/
theorem reads_are_pure :
    (∀ c off, IsRead (mmapReadAt c off)) ∧ (∀ c off, IsRead (mmapSeekNext c off)) ∧
    (∀ (r : Reader) es k, (r.get (.slice es) k).1 = .slice es) ∧
    (∀ (r : Reader) es k, (r.contains (.slice es) k).1 = .slice es) ∧
    (∀ (r : Reader) es k, (r.scanFrom (.slice es) k).1 = .slice es) ∧
    (∀ (r : Reader) es lo hi, (r.scanRange (.slice es) lo hi).1 = .slice es) ∧
    (∀ (s : DBM.State) k, (DBM.step s (.get k)).1 = s) := by
  refine ⟨fun _ _ _ => rfl, fun _ _ _ => rfl, fun _ _ _ => rfl, ?_, fun _ _ _ => rfl, fun _ _ _ _ => rfl,
    fun _ _ => rfl⟩
  intro r es k
  unfold Reader.contains
  cases r.bloom with
  | none => rfl
  | some bf => by_cases h : bf k = true <;> simp [h, Index.contains]

open SST.Conc SST.DBM in
/-- any number of client threads issuing ONLY Get calls against a reachable database state, interleaved in any
way the locks admit with the flusher's `addReader`, compaction `select`/`reflect` and forced rotations: every
completed call returns exactly what a single `GetBytes` on the initial state returns -/
theorem concurrent_gets_return_the_sequential_answer (steps : List Step) (sched : Sched)
    (calls : List Conc.Call) (hist : List Conc.HEntry)
    (h : exec (runState {} steps) sched = some (calls, hist))
    (hg : ∀ c ∈ calls, ∃ k, c.op = Conc.Op.get k) :
    ∀ e ∈ hist, ∃ k, e.op = Conc.Op.get k ∧ e.res = DBM.get (runState {} steps) k :=
  Proofs.Conc.gets_only steps sched calls hist h hg

end SST.C18
