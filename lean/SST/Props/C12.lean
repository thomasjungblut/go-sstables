/-
C12 — A cut or header-damaged RecordIO file yields only genuine records, in order.
The cut theorems speak of the whole file; the header-damage theorem (`header_alter_detected_partial`,
frame-preserving alterations; the others: Props/C12_Shift.lean) of one record, on which both readers fail: what
`openReadAll` returns for a file with an altered header byte is not stated.
-/
import SST.Proofs.RecordIODamage
import SST.Proofs.RecordIOShift
namespace SST.C12
open SST Generated

/-- A file cut off at ANY length n reads as exactly the records completely contained in the first n bytes,
in order, followed by end-of-file or an error (never a record that was not written or a shortened payload). -/
theorem truncate_prefix (c : Compression) (ct : Nat) (rs : List GoBytes)
    (hl : LawfulC c) (hf : ∀ r ∈ rs, FitsRec c r) (hct : ct ≤ maxCompression) (n : Nat) :
    ∃ e, openReadAll c ((fileHeader currentVersion ct ++ encAll c rs).take n)
      = (rs.take (wholeIn c rs n), e) :=
  Proofs.truncate_prefix c ct rs hl hf hct n

/-- The random-access reader on a cut file: record k is returned iff it is completely contained. -/
theorem truncate_readAt (c : Compression) (ct : Nat) (rs : List GoBytes) (k : Nat) (hk : k < rs.length)
    (hl : LawfulC c) (hf : ∀ r ∈ rs, FitsRec c r) (n : Nat) :
    (offsetOf c rs (k + 1) ≤ n →
      readAt c ((fileHeader currentVersion ct ++ encAll c rs).take n) (offsetOf c rs k) = .ok rs[k]) ∧
    (n < offsetOf c rs (k + 1) →
      ∃ e, readAt c ((fileHeader currentVersion ct ++ encAll c rs).take n) (offsetOf c rs k) = .error e) :=
  Proofs.truncate_readAt c ct rs k hk hl hf n

/-- CRC-32C changes whenever exactly one byte changes (the engine of header-damage detection). -/
theorem crc32c_single_byte (a : Bytes) (i : Nat) (hi : i < a.length) (x : UInt8) (hx : x ≠ a[i]) :
    crc32c (a.set i x) ≠ crc32c a :=
  Proofs.crc32c_single_byte a i hi x hx

/-- PARTIAL (frame-preserving alterations only; the full statement "any alteration of any header byte"
additionally covers continuation-bit flips, for which detection is a 32-bit CRC compared at a moved
position — see DESIGN.md C12): altering a header byte makes both readers fail on that record. -/
theorem header_alter_detected_partial (c : Compression) (r : GoBytes) (pre rest : Bytes)
    (hf : FitsRec c r) (i : Nat) (x : UInt8) (hfp : FramePreserving (headerOf c r) i x) :
    (∃ e, readNextS c ((encRecord c r).set i x ++ rest) = .error e) ∧
    (∃ e, readAt c (pre ++ (encRecord c r).set i x ++ rest) pre.length = .error e) :=
  Proofs.header_alter_detected_partial c r pre rest hf i x hfp

/-- A file header with an unsupported version or compression code is rejected on open. -/
theorem file_header_rejected (v ct : Nat) (rest : Bytes) (hv : v < 2 ^ 32) (hc : ct < 2 ^ 32)
    (hbad : v > currentVersion ∨ v < minVersion ∨ ct > maxCompression) :
    parseFileHeader (le32 v ++ le32 ct ++ rest) = .error .rejected :=
  Proofs.file_header_rejected v ct rest hv hc hbad

theorem file_header_accepted (v ct : Nat) (rest : Bytes)
    (hv : minVersion ≤ v ∧ v ≤ currentVersion) (hc : ct ≤ maxCompression) :
    parseFileHeader (le32 v ++ le32 ct ++ rest) = .ok (v, ct) :=
  Proofs.file_header_accepted v ct rest hv hc

/-- non-vacuity: changing the nil flag, or a length byte without touching its continuation bit, is frame preserving -/
example : FramePreserving (headerOf none (some [1, 2, 3])) 3 1 := by
  refine ⟨by decide, by decide, Or.inl rfl⟩

end SST.C12
