/-
C01 — SimpleDB reads like a map, whatever flushes, compactions and restarts (a clean `Close`, then `Open`) happen.
Proved at the layer abstraction (L6).  The byte-level tables, the merge iterator and the memstore on the skip list
are composed with this model in Props/C01_Stack.lean (theorems of C03/C15/C08/C14 as black boxes; C16 enters through
C14's proofs); the WAL (C07) is not part of this model — it only matters to crashes (C02, C13).
-/
import SST.Proofs.DB
namespace SST.C01
open SST SST.DBM

/-- a read of an open database returns exactly what the abstraction map holds -/
theorem get_refines (s : State) (k : Key) (ho : s.isOpen = true) (hc : s.closed = false)
    (hne : ∀ k v, memGet s k = some (some v) → v ≠ []) :
    get s k = (match abs s k with | some v => .value v | none => .notFound) :=
  Proofs.DB.get_refines s k ho hc hne

/-- MAIN THEOREM — programs × schedules × configurations at once: for EVERY list of steps, i.e. every client
program of Put/Delete/Get/Close/re-Open (both API flavours, valid and rejected calls) interleaved with ANY
placement of rotations, flush completions and compaction cycles, with ANY table sizes reported to the
compaction selection and ANY options (threshold, max size, ratio) per session, every client call returns
exactly what the reference map returns. -/
theorem db_refines_map (steps : List Step) :
    (run {} steps).map (·.1) = specRun {} steps :=
  Proofs.DB.db_refines_map steps

/-- table numbers stay strictly increasing along the live list, so re-loading the directories in the order of their
numbers after a restart stacks them in the same order (name order is number order as long as the numbers fit the 15
digits of `sstable_%015d`; that bound is not part of the statement) -/
theorem gens_ok (steps : List Step) : GensOk (runState {} steps) :=
  Proofs.DB.gens_ok steps

/-- rotation, flush completion and compaction never change what any key reads as -/
theorem reads_stable (steps : List Step) (st : Step) (k : Key)
    (hint : match st with | .rotate | .flush | .compact _ => True | _ => False) :
    abs (step (runState {} steps) st).1 k = abs (runState {} steps) k :=
  Proofs.DB.reads_stable steps st k hint

/-- a clean close followed by a re-open with any options changes no key's value -/
theorem reads_stable_close_reopen (steps : List Step) (o : Opts) (k : Key)
    (hu : (runState {} steps).isOpen = true ∧ (runState {} steps).closed = false) :
    abs (runState {} (steps ++ [.close, .reopen o])) k = abs (runState {} steps) k :=
  Proofs.DB.reads_stable_close_reopen steps o k hu

/-- non-vacuity: a concrete session (put, rotate, flush, delete, compaction excluding nothing, reopen) -/
example : (run {} [.reopen {threshold := 0, maxSize := 10}, .putS [1] [2] false, .rotate, .flush, .delS [1],
    .rotate, .flush, .compact [5, 5], .get [1], .close, .reopen {}, .get [1]]).map (·.1)
    = [none, some .ok, none, none, some .ok, none, none, none, some .notFound, some .ok, none, some .notFound] := by
  decide +kernel

end SST.C01
