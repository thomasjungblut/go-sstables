/-
C12 for the LEGACY recordio file versions 1, 2 and 3 — a cut file yields only genuine records, in order;
and what does NOT hold there: the old record headers carry no checksum, so a damaged length field is not
detected (concrete counterexamples, with the version 4 contrast).
-/
import SST.Proofs.RecordIOLegacyDamage
namespace SST.C12.Legacy
open SST Generated SST.Legacy SST.Buf

/-- A proper prefix of ONE written record never reads as a record, in any legacy version.
Go: `FileReader.ReadNext` on a file of version 1, 2 or 3 whose last record is incomplete (cut anywhere: inside
the marker, at a field boundary, inside a length varint / fixed-width field, inside the payload, or a version 3
nil record whose length fields are missing) returns an error — never a shortened payload.  The zero-tail rule
of `readNextV2/V3` (magic mismatch + only zeros left = EOF) never fires on a cut record: the error is `io.EOF`
(cut at a field boundary) or `io.ErrUnexpectedEOF`, never the magic-number mismatch.  NOTE the `io.EOF` case: a
legacy file cut exactly at a field boundary of its last record ends like a complete file (the same holds for
version 4, `Proofs.truncate_prefix_err`). -/
theorem cut_record_fails (en : Bool) (v : Nat) (hv : IsLegacy v) (c : Compression) (r : GoBytes)
    (hf : FitsL c r) (m : Nat) (hm : m < (encRecordL v c r).length) :
    readNextL en v c ((encRecordL v c r).take m) = .error .eof ∨
    readNextL en v c ((encRecordL v c r).take m) = .error .unexpectedEof :=
  Proofs.Legacy.readNextL_trunc_kind en v (Proofs.Legacy.isVersion_of_legacy hv) c r hf m hm

/-- A legacy file (version 1, 2 or 3) cut off at ANY length `n` reads as exactly the records completely
contained in the first `n` bytes, in order and as the version hands them back (`backL`: versions 1 and 2 have no
nil records), followed by end-of-file or an error — never a record that was not written or a shortened payload.
Go: `NewFileReaderWithPath` + `Open` + `ReadNext` until the first error, on the first `n` bytes of a file that a
legacy writer produced from `rs`; `comps` is the table compression code → compressor, `en` says whether that
compressor's `Decompress` returns nil for an empty result.  `n < 8` (cut inside the file header): `Open` fails and
no record is returned. -/
theorem legacy_truncate_prefix (en : Bool) (comps : Nat → Compression) (v : Nat) (hv : IsLegacy v)
    (c : Compression) (ct : Nat) (rs : List GoBytes) (hl : LawfulC c) (hf : ∀ r ∈ rs, FitsL c r)
    (hc : comps ct = c) (hct : ct ≤ maxCompression) (n : Nat) :
    ∃ e, openReadAllL en comps ((encFileL v c ct rs).take n) =
      ((rs.take (wholeInL v c rs n)).map (backL en v c), e) :=
  Proofs.Legacy.legacy_truncate_prefix en comps v hv c ct rs hl hf hc hct n

/-- `legacy_truncate_prefix` with the error kind: the read of a cut legacy file ends with `io.EOF` or
`io.ErrUnexpectedEOF`, nothing else (no magic-number mismatch, no decompression error, no panic-like `other`). -/
theorem legacy_truncate_prefix_err (en : Bool) (comps : Nat → Compression) (v : Nat) (hv : IsLegacy v)
    (c : Compression) (ct : Nat) (rs : List GoBytes) (hl : LawfulC c) (hf : ∀ r ∈ rs, FitsL c r)
    (hc : comps ct = c) (hct : ct ≤ maxCompression) (n : Nat) :
    ∃ e, (e = .eof ∨ e = .unexpectedEof) ∧ openReadAllL en comps ((encFileL v c ct rs).take n) =
      ((rs.take (wholeInL v c rs n)).map (backL en v c), e) :=
  Proofs.Legacy.legacy_truncate_prefix_err en comps v (Proofs.Legacy.isVersion_of_legacy hv) c ct rs hl hf hc hct n

/-- The random-access reader on a cut legacy file: record `k` is returned iff it is completely contained in
what is left.  Go: `MMapReader.ReadNextAt(offset of record k)` on the first `n` bytes of the file
(`readNextAtV1/V2/V3`): the written record if its last byte is still there, an error otherwise (also when only the
31-byte header window or the payload is short). -/
theorem legacy_truncate_readAt (en : Bool) (v : Nat) (hv : IsLegacy v) (c : Compression) (ct : Nat)
    (rs : List GoBytes) (k : Nat) (hk : k < rs.length) (hl : LawfulC c) (hf : ∀ r ∈ rs, FitsL c r) (n : Nat) :
    (offsetOfL v c rs (k + 1) ≤ n →
      readAtL en v c ((encFileL v c ct rs).take n) (offsetOfL v c rs k) = .ok (backL en v c rs[k])) ∧
    (n < offsetOfL v c rs (k + 1) →
      ∃ e, readAtL en v c ((encFileL v c ct rs).take n) (offsetOfL v c rs k) = .error e) :=
  Proofs.Legacy.legacy_truncate_readAt en v (Proofs.Legacy.isVersion_of_legacy hv) c ct rs k hk hl hf n

/-! ## what does NOT hold: no header checksum, a damaged length field is not detected

RECORDED LIMITATION of the file versions 1–3 (not a regression: version 4 added the header checksum, see
`damaged_length_detected_v4`).  One altered byte of a record's length field makes the legacy readers hand out, as
a genuine record, a payload nobody wrote. -/

/-- the version 2 example file: two records `[1,2,3]` and `[4]`, no compression -/
theorem example_file_v2 : encFileV2 none 0 [some [1, 2, 3], some [4]] =
    [2, 0, 0, 0, 0, 0, 0, 0, 0x91, 0x8d, 0x4c, 3, 0, 1, 2, 3, 0x91, 0x8d, 0x4c, 1, 0, 4] := by
  decide +kernel

/-- Version 2, the length byte of record 0 (file position 11) changed from 3 to 2: `ReadNext` returns the
SHORTENED payload `[1,2]` as a record, and only the NEXT call fails (magic number mismatch at the leftover `3`). -/
theorem damaged_length_shortens_payload_v2 :
    openReadAllL false (fun _ => none) ((encFileV2 none 0 [some [1, 2, 3], some [4]]).set 11 2) =
      ([some [1, 2]], .magic) := by
  decide +kernel

/-- Version 2, the same byte changed to 8: `ReadNext` returns ONE record, the payload of record 0 glued to the
header of record 1, and then reports a CLEAN end of file (the lone leftover byte `4` is a magic mismatch with
nothing but — zero — zeros behind it, which the zero-tail rule of `readNextV2` takes for the end of the file):
the damage is not noticed at all. -/
theorem damaged_length_swallows_next_v2 :
    openReadAllL false (fun _ => none) ((encFileV2 none 0 [some [1, 2, 3], some [4]]).set 11 8) =
      ([some [1, 2, 3, 0x91, 0x8d, 0x4c, 1, 0]], .eof) := by
  decide +kernel

/-- the random-access reader of version 2 is fooled in the same way -/
theorem damaged_length_readAt_v2 :
    readAtL false 2 none ((encFileV2 none 0 [some [1, 2, 3], some [4]]).set 11 2) 8 = .ok (some [1, 2]) ∧
    readAtL false 2 none ((encFileV2 none 0 [some [1, 2, 3], some [4]]).set 11 8) 8 =
      .ok (some [1, 2, 3, 0x91, 0x8d, 0x4c, 1, 0]) := by
  decide +kernel

/-- the version 1 example file: 20-byte record headers (le32 marker, le64 length, le64 compressed length) -/
theorem example_file_v1 : encFileV1 none 0 [some [1, 2, 3], some [4]] =
    [1, 0, 0, 0, 0, 0, 0, 0,
     0x91, 0x06, 0x13, 0, 3, 0, 0, 0, 0, 0, 0, 0, 0, 0, 0, 0, 0, 0, 0, 0, 1, 2, 3,
     0x91, 0x06, 0x13, 0, 1, 0, 0, 0, 0, 0, 0, 0, 0, 0, 0, 0, 0, 0, 0, 0, 4] := by
  decide +kernel

/-- Version 1, the low byte of the le64 length field of record 0 (file position 12) changed from 3 to 2: the
shortened payload `[1,2]` is returned as a record, then a magic number mismatch. -/
theorem damaged_length_shortens_payload_v1 :
    openReadAllL false (fun _ => none) ((encFileV1 none 0 [some [1, 2, 3], some [4]]).set 12 2) =
      ([some [1, 2]], .magic) := by
  decide +kernel

/-- Version 1, the same byte changed to 8: one record made of the payload of record 0 and the first five header
bytes of record 1, then an unexpected EOF (the leftover 16 bytes are too short for a version 1 header). -/
theorem damaged_length_swallows_next_v1 :
    openReadAllL false (fun _ => none) ((encFileV1 none 0 [some [1, 2, 3], some [4]]).set 12 8) =
      ([some [1, 2, 3, 0x91, 0x06, 0x13, 0, 1]], .unexpectedEof) := by
  decide +kernel

/-- the version 3 example file: marker, nil flag, length, compressed length, payload -/
theorem example_file_v3 : encFileV3 none 0 [some [1, 2, 3], some [4]] =
    [3, 0, 0, 0, 0, 0, 0, 0, 0x91, 0x8d, 0x4c, 0, 3, 0, 1, 2, 3, 0x91, 0x8d, 0x4c, 0, 1, 0, 4] := by
  decide +kernel

/-- Version 3, the length byte of record 0 (file position 12, behind the nil flag) changed from 3 to 2: the
shortened payload is returned as a record, then a magic number mismatch. -/
theorem damaged_length_shortens_payload_v3 :
    openReadAllL false (fun _ => none) ((encFileV3 none 0 [some [1, 2, 3], some [4]]).set 12 2) =
      ([some [1, 2]], .magic) := by
  decide +kernel

/-- Version 3, the same byte changed to 8: payload of record 0 glued to the first five header bytes of record 1,
then a magic number mismatch. -/
theorem damaged_length_swallows_next_v3 :
    openReadAllL false (fun _ => none) ((encFileV3 none 0 [some [1, 2, 3], some [4]]).set 12 8) =
      ([some [1, 2, 3, 0x91, 0x8d, 0x4c, 0, 1]], .magic) := by
  decide +kernel

/-- THE CONTRAST: the same records in a version 4 file, the same alteration of the length byte of record 0 (file
position 8 + 4 = 12: marker, nil flag, then the length): the header checksum does not match, NO record is handed
out.  The undetected damage above is a limitation of the old formats, not of the current one. -/
theorem damaged_length_detected_v4 :
    openReadAll none ((fileHeader 4 0 ++ encAll none [some [1, 2, 3], some [4]]).set 12 2) = ([], .headerCrc) ∧
    openReadAll none ((fileHeader 4 0 ++ encAll none [some [1, 2, 3], some [4]]).set 12 8) = ([], .headerCrc) := by
  decide +kernel

example : IsLegacy 1 ∧ IsLegacy 2 ∧ IsLegacy 3 ∧ ¬ IsLegacy 4 := by decide

example : FitsL none (some [1, 2, 3]) := by decide

example : FitsL none none := by decide

/-- the undamaged example files read back completely -/
example : openReadAllL false (fun _ => none) (encFileV2 none 0 [some [1, 2, 3], some [4]]) =
    ([some [1, 2, 3], some [4]], .eof) := by decide +kernel

/-- 16 bytes of the version 2 example file hold exactly record 0 (8 + 8 bytes), 15 bytes hold none -/
example : wholeInL 2 none [some [1, 2, 3], some [4]] 16 = 1 ∧ wholeInL 2 none [some [1, 2, 3], some [4]] 15 = 0 := by
  decide +kernel

/-- a concrete cut, evaluated: 18 bytes = record 0 and two marker bytes of record 1 -/
example : openReadAllL false (fun _ => none) ((encFileV2 none 0 [some [1, 2, 3], some [4]]).take 18) =
    ([some [1, 2, 3]], .unexpectedEof) := by decide +kernel

/-- a cut inside record 0 (inside its payload): nothing is returned -/
example : openReadAllL false (fun _ => none) ((encFileV2 none 0 [some [1, 2, 3], some [4]]).take 15) =
    ([], .unexpectedEof) := by decide +kernel

/-- version 3, a cut NIL record (marker and nil flag left, length fields missing) is not handed out -/
example : openReadAllL false (fun _ => none) ((encFileV3 none 0 [some [1, 2, 3], none, some []]).take 21) =
    ([some [1, 2, 3]], .eof) := by decide +kernel

/-- version 1 hands nil back as the empty record; the last record (empty payload) is cut inside its header -/
example : openReadAllL true (fun _ => none) ((encFileV1 none 0 [some [1, 2, 3], none, some []]).take 60) =
    ([some [1, 2, 3], some []], .unexpectedEof) := by decide +kernel

/-- the hypotheses of `legacy_truncate_prefix` are satisfiable: the theorem instantiated on the example file -/
example : ∃ e, openReadAllL false (fun _ => none) ((encFileL 2 none 0 [some [1, 2, 3], some [4]]).take 18) =
    ([some [1, 2, 3]], e) := by
  have h := legacy_truncate_prefix false (fun _ => none) 2 (by decide) none 0 [some [1, 2, 3], some [4]]
    trivial (by decide) rfl (by decide) 18
  have hw : wholeInL 2 none [some [1, 2, 3], some [4]] 18 = 1 := by decide +kernel
  rw [hw] at h
  exact h

/-- ... and of `legacy_truncate_readAt`: record 1 of the example file, cut one byte short -/
example : ∃ e, readAtL false 2 none ((encFileL 2 none 0 [some [1, 2, 3], some [4]]).take 21) 16 = .error e := by
  have h := (legacy_truncate_readAt false 2 (by decide) none 0 [some [1, 2, 3], some [4]] 1 (by decide)
    trivial (by decide) 21).2
  have ho : offsetOfL 2 none [some [1, 2, 3], some [4]] 1 = 16 := by decide +kernel
  have ho2 : offsetOfL 2 none [some [1, 2, 3], some [4]] 2 = 22 := by decide +kernel
  rw [ho, ho2] at h
  exact h (by decide)

end SST.C12.Legacy
