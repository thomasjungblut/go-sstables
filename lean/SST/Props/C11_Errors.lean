/-
C11 (error-flow tie) — the STATIC half of "never absorbed".  The fault-injection streams (`merge`, `dbfault`) sample
fault positions; the theorems of C11.lean / C11_Stack.lean are about the model.  Here the quantifier is the SOURCE:
`SST.Generated.ErrFlow.table` is regenerated from /repo by tools/errfacts (go/types) before every proof build and has one
row per call site, in the listed functions of the merge / compaction / flush / table-writer / heap / WAL-replay path,
whose callee returns an `error` — with what happens to that error value on EVERY path of the enclosing function.  The
theorems below are decided over that finite table, so each is a statement about the code as it is today (up to the
tool's classification, whose vocabulary is in the header of tools/errfacts/main.go), not a sample.

Spelling of the facts (tools/errfacts/canon.go): a `callee` is a go/types identity, never source text — `pkg.Func` with the
module-relative package path (`recordio/proto.NewWriter`, whatever the import is called), a method by the TYPE of the root
variable of its receiver chain plus the field path (`sstables.SSTableStreamWriter.indexWriter.Close` for
`writer.indexWriter.Close`, `sstables.SSTableReaderI.Close` for `reader.Close()`), so renaming a local, a parameter, a
receiver or an import alias leaves the table as it is.  Calls of PRIVATE helpers that are not listed functions are inlined:
the rows of the helper stand where the call stands, with what the caller does with the helper's result (so the rows of
`pq.NewPriorityQueue` are those of its unexported `init` and, inside it, `fillNext`, whatever these are called; extracting
a block into a private function or renaming one changes nothing).  The listed functions are the anchors of this file.
`inBranch` is read up to guard clauses (`if c { X }` = `if !c { continue }; X`; in an inlined helper also `if !c { return
nil }; X`), except after tests of an error value.

Every theorem names the realistic regression it excludes; tools/errfacts/validate.sh replays those regressions (the seeded
changes C11-m1..m4 and relatives) on scratch overlays and shows which theorem stops building.
Run-time ORDER of the calls is the business of SST/Props/C02_Order.lean (`flag_after_table_closed` &c.); this file adds
what becomes of the error VALUES.
-/
import SST.Generated.ErrFlow
namespace SST.C11.Errors
open SST.Generated.ErrFlow

def rowsOf (f : String) : List Row := table.filter (fun r => r.fn == f)

def isUnknown : Disp → Bool
  | .unknown _ => true
  | _ => false

/-- the error is handed to the caller on every path: directly / joined / wrapped, or after a non-nil test -/
def reported (r : Row) : Bool := r.disp == .returned || r.disp == .checkedThenReturn

/-- the error is dropped on some path although it was never looked at, or after it was seen to be non-nil -/
def dropped (r : Row) : Bool := r.disp == .discarded || r.disp == .deferredDiscarded || r.disp == .swallowed

/-- stands at the top level of its function: executed exactly once per call, where the statement stands -/
def plain (r : Row) : Bool := !r.inLoop && !r.inDefer && !r.inBranch

/-- The three closes in the deferred clean-up of a table writer whose `Open` FAILED (3b4867f): (function, callee) -/
def failedOpenCleanup : List (String × String) :=
  [("SSTableStreamWriter.Open", "sstables.SSTableStreamWriter.indexWriter.Close"),
   ("SSTableStreamWriter.Open", "sstables.SSTableStreamWriter.dataWriter.Close"),
   ("SSTableStreamWriter.Open", "sstables.SSTableStreamWriter.metaDataFile.Close")]

/-- a row of that clean-up: a `Close` in `SSTableStreamWriter.Open`, inside the `defer`, inside a branch -/
def isFailedOpenCleanup (r : Row) : Bool :=
  r.fn == "SSTableStreamWriter.Open" && r.method == "Close" && r.inDefer && r.inBranch && !r.inLoop &&
    failedOpenCleanup.contains (r.fn, r.callee)

/-- The explicit exceptions of `no_error_discarded_on_merge_path` (reasons there), in table order: (function, callee) -/
def allowedDiscards : List (String × String) :=
  failedOpenCleanup ++
  [("SSTableStreamWriter.WriteNext", "hash.Hash64.Write"),
   ("SSTableSimpleWriter.WriteSkipListMap", "skiplist.MapI.Iterator"),
   ("memstore.flushMemstore", "memstore.MemStore.skipListMap.Iterator"),
   ("recordio.fillRecordHeaderV4", "hash.Hash32.Write")]

/-- The fixed list of functions is the one this file was written against, and every one of them still exists (a renamed
or removed function would otherwise silently take its rows — and the obligations about them — out of the table).  These
are the ANCHORS of the specification: exported entry points plus the unexported functions the theorems below name
(`executeFlush`, `flushMemstore`, `replayFile`, `writeFileHeader` …); they are found by package, receiver type and name in
any file of the package; renaming an EXPORTED anchor is reported by the tool ("listed function(s) not found"), a renamed
PRIVATE anchor is found by its role (same receiver, recorded signature: canon.go `resolveFunc`) and keeps the name used
here, with a note on stderr.  The heap's unexported `init` / `fillNext` are NOT anchors: they are reached, by inlining, from
`pq.NewPriorityQueue` and `PriorityQueue.Next`. -/
theorem every_listed_function_found :
    functions.map (·.name) =
      ["SSTableMergeIteratorContext.Next", "SSTableMerger.Merge", "MergeCompactionIterator.Next", "SSTableMerger.MergeCompactIterator",
       "SSTableMerger.MergeCompact", "SSTableIterator.Next", "V0SSTableFullScanIterator.Next", "SSTableFullScanIterator.Next",
       "SSTableStreamWriter.Open", "SSTableStreamWriter.WriteNext", "SSTableStreamWriter.Close", "SSTableSimpleWriter.WriteSkipListMap",
       "SuperSSTableReader.Contains", "SuperSSTableReader.Get", "SuperSSTableReader.Scan", "SuperSSTableReader.ScanStartingAt",
       "SuperSSTableReader.ScanRange", "SuperSSTableReader.Close",
       "PriorityQueue.Next", "pq.NewPriorityQueue",
       "MemStore.Flush", "MemStore.FlushWithTombstones", "memstore.flushMemstore",
       "simpledb.flushMemstoreContinuously", "simpledb.executeFlush", "DB.rotateWalAndFlushMemstore",
       "simpledb.backgroundCompaction", "simpledb.executeCompaction", "simpledb.saveCompactionMetadata",
       "SSTableManager.reflectCompactionResult",
       "FileWriter.Open", "recordio.writeFileHeader", "recordio.fillRecordHeaderV4", "recordio.writeRecordHeaderV4",
       "FileWriter.Write", "FileWriter.WriteSync", "FileWriter.Close", "FileWriter.Seek",
       "rproto.Writer.Open", "rproto.Writer.Write", "rproto.Writer.Close",
       "Replayer.Replay", "Replayer.replayFile"] ∧
    functions.all (·.found) = true ∧
    functions.all (fun f => !(rowsOf f.name).isEmpty) = true := by decide +kernel

/-- The tool could classify every row: no error value is stored in a field, passed to another function, leaves a function
literal through a captured variable, sits behind a `goto` / labelled branch, or is wiped by a deferred `err = …` that does
not keep what the named result held (e.g. `defer func() { err = f.Close() }()`, which would replace the error of a failed
write by the nil of a successful close). -/
theorem no_unknown_rows : table.all (fun r => !isUnknown r.disp) = true := by decide +kernel

/-- The ONLY error values dropped on these paths (`_ =`, `x, _ :=`, bare call, `defer f()`, or tested and then ignored),
each harmless for a stated reason:
* the `hash.Hash64.Write` of the bloom-filter hash (WriteNext: the one in the branch; the checksum's `Write` is tested) and
  the `hash.Hash32.Write` of the header checksum (fillRecordHeaderV4): `hash.Hash.Write` "never returns an error" (package hash);
* `skipListMap.Iterator()` in flushMemstore / WriteSkipListMap: `skiplist.Map.Iterator` is `return &Iterator{…}, nil`;
* since 3b4867f the three `_ = x.Close()` of `SSTableStreamWriter.Open`'s deferred clean-up: that block returns at once
  unless `Open` is ALREADY returning an error (`C02.Order.writer_open_cleanup_only_on_error` has the guard `err == nil →
  return` and the nil checks on the regenerated order table), so the failure is reported by the primary error and nothing
  was written through these writers yet; they are the only dropped values inside a `defer`, and every other step of `Open`
  is tested.
Excluded: `_ = writer.Close()` anywhere else, a bare `writer.WriteNext(k, v)`, `defer reader.Close()` replacing the joined
close, `if err != nil { log.Printf(…) }` followed by carrying on — and the shape of C11-m1 (the failure of an input's first
`Next()` assigned to a loop-local `err` that shadows the named result and dies with the iteration: `swallowed`, seen from
`pq.NewPriorityQueue` through the inlined `init`). -/
theorem no_error_discarded_on_merge_path :
    (table.filter dropped).map (fun r => (r.fn, r.callee)) = allowedDiscards ∧
    (table.filter dropped).all (fun r => r.disp == Disp.discarded && !r.inLoop && (!r.inDefer || isFailedOpenCleanup r)) = true ∧
    ((rowsOf "SSTableStreamWriter.Open").filter (fun r => !isFailedOpenCleanup r)).map (fun r => (r.callee, r.disp, r.inDefer)) =
      [("recordio/proto.NewWriter", Disp.checkedThenReturn, false),
       ("sstables.SSTableStreamWriter.indexWriter.Open", Disp.checkedThenReturn, false),
       ("recordio.NewFileWriter", Disp.checkedThenReturn, false),
       ("sstables.SSTableStreamWriter.dataWriter.Open", Disp.checkedThenReturn, false),
       ("os.OpenFile", Disp.checkedThenReturn, false),
       ("github.com/steakknife/bloomfilter.NewOptimal", Disp.checkedThenReturn, false)] := by
  decide +kernel

/-- No error value is lost UNSEEN: assigned to a variable that is assigned again, goes out of scope, or is left behind by a
`return` before anything looked at it.  Excludes C11-m2 (`_, err = bloomFilter.WriteFile(…)` re-using the named result
that already holds `errors.Join(indexWriter.Close(), dataWriter.Close())`: a successful bloom-filter write turns a failed
final flush of index.rio / data.rio into success), `err = x.Close()` after an earlier `err = …` without a test in
between, and a `:=` in an inner scope whose value never reaches the outer `err`. -/
theorem no_error_overwritten : table.all (fun r => r.disp != Disp.overwritten) = true := by decide +kernel

/-- EXACTLY these calls have an error value that is compared with a sentinel and turned into something that is not that
error, with exactly these sentinels; every other row has none.  Why each is right:
* an input of the merge that answers `sstables.Done` is exhausted: the heap is told `pq.Done`, the heap drops that input
  (the input's `Next()` seen from the constructor — in the loop of the unexported `init` — and from `PriorityQueue.Next`:
  only `pq.Done`), and `Merge` / `MergeCompactionIterator.Next` / `MergeCompact` end on the heap's `pq.Done` / the
  iterator's `sstables.Done`;
* the table iterators end on `skiplist.Done` of the KEY iterator (the index decides how many records there are);
* the POSITIONED value read behind `SSTableIterator.Next` (the reader's unexported `getValueAtOffset`, inlined; both the
  version-0 and the current data reader) tolerates `io.EOF` of `ReadNextAt` and goes on with what was read — as it always
  did; visible here since private helpers are inlined.  This is not the full-scan case of C11-m3: the offset comes from
  the index entry of the key just returned, nothing is ended by it;
* `SuperSSTableReader.Get` asks the next older table on `NotFound`;
* the memstore flush ends on `skiplist.Done`;
* WAL replay: `io.EOF` ends a file; `io.ErrUnexpectedEOF` (and an EOF inside the header, on Open) is tolerated — the source
  guards it with `lastFile`, the torn tail of the file that was being written when the process died (C07, C13).
NOT in the list, hence excluded: translating `io.EOF` of the DATA reader of a full-scan iterator into `Done` (C11-m3: the
index announces more records, a short data file would end the input silently and the shortened merge output would replace
its inputs); treating any error of an input's first `Next()` like exhaustion; narrowing or widening the replay's tolerance
(C07-m4 / C10-m4 remove `io.EOF` from the Open case: a zero-length last WAL file makes the database unopenable). -/
theorem translated_only_expected_sentinels :
    (table.filter (fun r => r.disp == Disp.translated)).map (fun r => (r.fn, r.callee, r.sentinels)) =
      [("SSTableMergeIteratorContext.Next", "sstables.SSTableMergeIteratorContext.iterator.Next", ["sstables.Done"]),
       ("SSTableMerger.Merge", "pq.PriorityQueueI.Next", ["pq.Done"]),
       ("MergeCompactionIterator.Next", "sstables.MergeCompactionIterator.pq.Next", ["pq.Done"]),
       ("SSTableMerger.MergeCompact", "sstables.SSTableIteratorI.Next", ["sstables.Done"]),
       ("SSTableIterator.Next", "sstables.SSTableIterator.keyIterator.Next", ["skiplist.Done"]),
       ("SSTableIterator.Next", "sstables.SSTableReader.v0DataReader.ReadNextAt", ["io.EOF"]),
       ("SSTableIterator.Next", "sstables.SSTableReader.dataReader.ReadNextAt", ["io.EOF"]),
       ("V0SSTableFullScanIterator.Next", "sstables.V0SSTableFullScanIterator.keyIterator.Next", ["skiplist.Done"]),
       ("SSTableFullScanIterator.Next", "sstables.SSTableFullScanIterator.keyIterator.Next", ["skiplist.Done"]),
       ("SSTableSimpleWriter.WriteSkipListMap", "skiplist.IteratorI.Next", ["skiplist.Done"]),
       ("SuperSSTableReader.Get", "sstables.SuperSSTableReader.readers[].Get", ["sstables.NotFound"]),
       ("PriorityQueue.Next", "pq.Element.iterator.Next", ["pq.Done"]),
       ("pq.NewPriorityQueue", "pq.Element.iterator.Next", ["pq.Done"]),
       ("memstore.flushMemstore", "skiplist.IteratorI.Next", ["skiplist.Done"]),
       ("Replayer.replayFile", "recordio.ReaderI.Open", ["io.EOF", "io.ErrUnexpectedEOF"]),
       ("Replayer.replayFile", "recordio.ReaderI.ReadNext", ["io.EOF", "io.ErrUnexpectedEOF"])] ∧
    table.all (fun r => r.disp == Disp.translated || r.sentinels.isEmpty) = true := by decide +kernel

/-- The value reads of the three table iterators exist — the positioned `ReadNextAt` of either data reader and the checksum
behind `SSTableIterator.Next` (the unexported `getValueAtOffset` and, in it, `checksumValue`, both inlined: the checksum's
`hash.Hash64.Write`), `dataReader.ReadNext` of the two full-scan iterators, the checksum of the second one — and the errors
of the FULL-SCAN reads and of the checksums are tested and returned as they are: no sentinel of the data file is given a
meaning there (C11-m3).  The positioned read tolerates `io.EOF` and nothing else (see
`translated_only_expected_sentinels`); every other error of it is tested and returned.  The errors `getValueAtOffset`
makes itself (checksum mismatch) are tested and returned by `Next` too: otherwise the tool shows the pseudo row
"error value made by an inlined private helper", which no theorem of this file allows. -/
theorem data_read_errors_reported_verbatim :
    ((rowsOf "SSTableIterator.Next" ++ rowsOf "V0SSTableFullScanIterator.Next" ++ rowsOf "SSTableFullScanIterator.Next").filter
        (fun r => r.method != "Next")).map (fun r => (r.callee, r.disp, r.sentinels)) =
      [("sstables.SSTableReader.v0DataReader.ReadNextAt", Disp.translated, ["io.EOF"]),
       ("sstables.SSTableReader.dataReader.ReadNextAt", Disp.translated, ["io.EOF"]),
       ("hash.Hash64.Write", Disp.checkedThenReturn, []),
       ("sstables.V0SSTableFullScanIterator.dataReader.ReadNext", Disp.checkedThenReturn, []),
       ("sstables.SSTableFullScanIterator.dataReader.ReadNext", Disp.checkedThenReturn, []),
       ("hash.Hash64.Write", Disp.checkedThenReturn, [])] := by decide +kernel

/-- The merge heap, stated on its exported entry points (the unexported `init` and `fillNext` are inlined, so their names,
and whether they exist as separate functions, do not matter): the ONLY error value on either path is that of the input's
`Next()` (`Element.iterator.Next`); seen from the constructor it stands in the loop over the inputs, seen from
`PriorityQueue.Next` it does not; on both it is handed on untouched by the innermost helper, tested by the next one, and
the input is skipped / dropped ONLY on `pq.Done` — every other error reaches the caller (`translated` is the WORST
disposition over all paths: a path that loses a non-sentinel error would show `swallowed` / `overwritten`), and the
constructor tests what `init` returns.  Excludes C11-m1 ("collect the failures of all inputs" into a shadowed variable:
`init` returns nil, the failing input is left out like an exhausted one, the merge "succeeds" without it — the row of
the constructor becomes `swallowed`). -/
theorem heap_reports_input_failures :
    (rowsOf "pq.NewPriorityQueue").map (fun r => (r.callee, r.disp, r.sentinels, r.inLoop)) =
      [("pq.Element.iterator.Next", Disp.translated, ["pq.Done"], true)] ∧
    (rowsOf "PriorityQueue.Next").map (fun r => (r.callee, r.disp, r.sentinels, r.inLoop)) =
      [("pq.Element.iterator.Next", Disp.translated, ["pq.Done"], false)] := by decide +kernel

/-- Every `Close` on these paths — and this is the complete list of them — is returned, joined into the returned error
(also from a deferred literal: `err = errors.Join(err, x.Close())`) or tested; the ONLY exception are the three closes of
the failed-`Open` clean-up of the table writer (3b4867f; see `no_error_discarded_on_merge_path`: they run only while `Open`
returns its own error, before anything was written).  With the 4 MiB write buffers the final flush inside `Close` carries
almost all bytes of a table, so a dropped `Close` error is a dropped write error.  Excludes `defer writer.Close()`,
`_ = reader.Close()`, a deferred `err = writer.Close()`, and the removal of a close from the path (C11-m4 removes the tested
`writer.Close` of executeCompaction).  New closes of the repairs: the readers of a compaction are closed by a deferred
loop (bfb8835: now registered before they are opened — row order), the flag writer by a deferred joined close
(a7ed007: before its `Open`). -/
theorem close_errors_joined :
    (table.filter (fun r => r.method == "Close")).map (fun r => (r.fn, r.callee, r.inDefer)) =
      [("SSTableStreamWriter.Open", "sstables.SSTableStreamWriter.indexWriter.Close", true),
       ("SSTableStreamWriter.Open", "sstables.SSTableStreamWriter.dataWriter.Close", true),
       ("SSTableStreamWriter.Open", "sstables.SSTableStreamWriter.metaDataFile.Close", true),
       ("SSTableStreamWriter.Close", "sstables.SSTableStreamWriter.indexWriter.Close", false),
       ("SSTableStreamWriter.Close", "sstables.SSTableStreamWriter.dataWriter.Close", false),
       ("SSTableStreamWriter.Close", "sstables.SSTableStreamWriter.metaDataFile.Close", true),
       ("SSTableSimpleWriter.WriteSkipListMap", "sstables.SSTableSimpleWriter.streamWriter.Close", true),
       ("SuperSSTableReader.Close", "sstables.SSTableReaderI.Close", false),
       ("memstore.flushMemstore", "sstables.SSTableStreamWriter.Close", true),
       ("simpledb.executeCompaction", "sstables.SSTableStreamWriter.Close", true),
       ("simpledb.executeCompaction", "sstables.SSTableReaderI.Close", true),
       ("simpledb.executeCompaction", "sstables.SSTableStreamWriter.Close", false),
       ("simpledb.saveCompactionMetadata", "recordio/proto.WriterI.Close", true),
       ("SSTableManager.reflectCompactionResult", "simpledb.SSTableManager.allSSTableReaders[].Close", false),
       ("FileWriter.Close", "recordio.FileWriter.file.Close", false),
       ("FileWriter.Close", "recordio.FileWriter.file.Close", false),
       ("FileWriter.Close", "recordio.FileWriter.file.Close", false),
       ("rproto.Writer.Close", "recordio/proto.Writer.writer.Close", false),
       ("Replayer.replayFile", "recordio.ReaderI.Close", true)] ∧
    table.all (fun r => r.method != "Close" || reported r || isFailedOpenCleanup r) = true ∧
    -- bfb8835 / a7ed007: the deferred closes precede, in source order, the calls whose failure they now cover
    ((rowsOf "simpledb.executeCompaction").filter (fun r => r.inLoop)).map (fun r => (r.callee, r.inDefer, r.disp)) =
      [("sstables.SSTableReaderI.Close", true, Disp.returned), ("sstables.NewSSTableReader", false, Disp.checkedThenReturn),
       ("sstables.SSTableReaderI.Scan", false, Disp.checkedThenReturn)] := by decide +kernel

/-- `executeCompaction` writes the success flag (`saveCompactionMetadata`, once, unconditionally, its error tested) only
after a `writer.Close()` (the close of the `sstables.SSTableStreamWriter` it writes the output with; the input readers are
`sstables.SSTableReaderI`) that stands at the top level of the function — not deferred, not in a branch — WHOSE ERROR IS
TESTED AND RETURNED; the deferred close is only the guarded fall-back for the error paths and joins its error.  (That the
top-level close precedes the flag at run time is `C02.Order.flag_after_table_closed`; the source order of two top-level
statements is their execution order.)  Excludes C11-m4: closing the output only in the `defer`, i.e. flagging the
compaction as successful BEFORE the buffers are flushed — the error is still reported, but the next `Open` trusts the flag,
deletes the inputs and installs the truncated table. -/
theorem flag_written_only_after_close_checked :
    let rs := rowsOf "simpledb.executeCompaction"
    (rs.filter (fun r => r.callee == "simpledb.saveCompactionMetadata")).map (fun r => (plain r, r.disp)) = [(true, Disp.checkedThenReturn)] ∧
    rs.any (fun c => c.callee == "sstables.SSTableStreamWriter.Close" && plain c && c.disp == Disp.checkedThenReturn &&
      rs.all (fun f => f.callee != "simpledb.saveCompactionMetadata" || c.idx < f.idx)) = true ∧
    (rs.filter (fun r => r.callee == "sstables.SSTableStreamWriter.Close" && r.inDefer)).map (fun r => (r.inBranch, r.disp)) = [(true, Disp.returned)] := by
  decide +kernel

/-- One compaction cycle: the result is installed (`reflectCompactionResult`) only after `executeCompaction`, whose error
is tested and ends the cycle; the merge inside `executeCompaction` and both steps of `saveCompactionMetadata` are tested
too; the close of the flag writer — the step that makes the flag readable — is joined into the returned error on every
path, since a7ed007 also when `Open` of the flag writer fails.  With C11_Stack.compaction_fault_not_installed (model) this
is the "consequently" clause of C11 on the source.  (6dd9211 moved the done signal of the goroutine out of its `defer`; the
rows of `backgroundCompaction` / `flushMemstoreContinuously` — error tested, then `log.Panicf` — are unchanged.) -/
theorem compaction_installed_only_after_execute_checked :
    (rowsOf "simpledb.backgroundCompaction").map (fun r => (r.callee, r.disp)) =
      [("func literal", Disp.checkedThenReturn), ("simpledb.executeCompaction", Disp.checkedThenReturn),
       ("simpledb.DB.sstableManager.reflectCompactionResult", Disp.checkedThenReturn)] ∧
    ((rowsOf "simpledb.executeCompaction").filter (fun r => r.method == "MergeCompact")).map (fun r => (plain r, r.disp)) =
      [(true, Disp.checkedThenReturn)] ∧
    -- a7ed007: the deferred, joined close of the flag writer is registered BEFORE `Open` (it was after it)
    (rowsOf "simpledb.saveCompactionMetadata").map (fun r => (r.callee, r.disp, r.inDefer)) =
      [("recordio/proto.NewWriter", Disp.checkedThenReturn, false), ("recordio/proto.WriterI.Close", Disp.returned, true),
       ("recordio/proto.WriterI.Open", Disp.checkedThenReturn, false),
       ("recordio/proto.WriterI.Write", Disp.checkedThenReturn, false)] := by decide +kernel

/-- The flusher: `executeFlush` tests every step (directory, table, WAL removal, re-open); the goroutine tests
`executeFlush` and stops (`log.Panicf`) — a failed flush never removes the WAL file or adds a reader, because each `return
err` precedes them.  Excludes `_ = os.Remove(walPath)`-style "best effort" edits on this path. -/
theorem flush_steps_all_checked :
    (rowsOf "simpledb.executeFlush").map (fun r => (r.callee, r.disp)) =
      [("os.MkdirAll", Disp.checkedThenReturn), ("memstore.MemStoreI.FlushWithTombstones", Disp.checkedThenReturn),
       ("os.Remove", Disp.checkedThenReturn), ("sstables.NewSSTableReader", Disp.checkedThenReturn)] ∧
    (rowsOf "simpledb.flushMemstoreContinuously").all reported = true ∧
    (rowsOf "MemStore.FlushWithTombstones" ++ rowsOf "MemStore.Flush").all (fun r => r.disp == Disp.returned) = true := by
  decide +kernel

/-- The writers release what they hold where the statement stands: `FileWriter.Close` flushes and closes the file on every
call (only the truncation is conditional; since 855b3b1 the two error branches close the file as well and join its error);
the table writer closes index and data writer where the statements stand — NOT in a `defer` (C02-m2), not in a loop, as
its first two calls, before the bloom filter and the metadata; since 3b4867f each stands behind a condition (the nil check of
that writer: `C02.Order.meta_written_last` has the condition texts), so they are no longer `plain`, and NO other call of
`Close` is.  Excludes C19-m4 (an `if … else if` chain that closes the file only when no truncation was needed: the error
flow stays intact, the descriptor leaks). -/
theorem writer_close_steps_unconditional :
    (rowsOf "FileWriter.Close").map (fun r => (r.callee, plain r)) =
      [("recordio.FileWriter.bufWriter.Flush", true), ("recordio.FileWriter.file.Close", false),
       ("recordio.FileWriter.file.Truncate", false), ("recordio.FileWriter.file.Close", false),
       ("recordio.FileWriter.file.Close", true)] ∧
    (rowsOf "SSTableStreamWriter.Close").map (fun r => (r.callee, r.inDefer, r.inLoop)) =
      [("sstables.SSTableStreamWriter.indexWriter.Close", false, false),
       ("sstables.SSTableStreamWriter.dataWriter.Close", false, false),
       ("sstables.SSTableStreamWriter.bloomFilter.WriteFile", false, false),
       ("sstables.SSTableStreamWriter.metaDataFile.Close", true, false),
       ("google.golang.org/protobuf/proto.Marshal", false, false),
       ("sstables.SSTableStreamWriter.metaDataFile.Write", false, false)] ∧
    (rowsOf "SSTableStreamWriter.Close").all (fun r => r.inBranch) = true ∧
    (rowsOf "FileWriter.WriteSync").map (fun r => (r.callee, plain r)) =
      [("recordio.FileWriter.Write", true), ("recordio.FileWriter.bufWriter.Flush", true),
       ("recordio.FileWriter.file.Sync", true)] := by decide +kernel

/-- A failed index write rolls the data file back and reports BOTH errors (`errors.Join(err, seekErr)`); the data write
and the checksum are tested before.  Excludes dropping `seekErr` (a failed rollback would leave an orphan record that
shifts every later offset).  The two hashes of `WriteNext` have the same type (`hash.Hash64`), so they are told apart by
where they stand, not by the name of a local: the dropped `Write` is the one inside the bloom-filter branch, the tested one
(the value checksum that goes into the index entry) stands at the top level, before the data write. -/
theorem write_next_reports_rollback_failure :
    ((rowsOf "SSTableStreamWriter.WriteNext").filter (fun r => !dropped r)).map (fun r => (r.callee, r.disp, r.inBranch)) =
      [("hash.Hash64.Write", Disp.checkedThenReturn, false),
       ("sstables.SSTableStreamWriter.dataWriter.Write", Disp.checkedThenReturn, false),
       ("sstables.SSTableStreamWriter.indexWriter.Write", Disp.checkedThenReturn, false),
       ("sstables.SSTableStreamWriter.dataWriter.Seek", Disp.returned, true)] ∧
    ((rowsOf "SSTableStreamWriter.WriteNext").filter dropped).map (fun r => (r.idx, r.callee, r.inBranch)) =
      [(0, "hash.Hash64.Write", true)] := by decide +kernel

/-- Summary: on the listed paths every error value is reported, or translated from an expected sentinel, or is one of the
four listed harmless discards, or one of the three closes of the failed-`Open` clean-up (3b4867f), where `Open` is already
returning an error. -/
theorem errors_never_absorbed :
    table.all (fun r => reported r || r.disp == Disp.translated ||
      (r.disp == Disp.discarded && allowedDiscards.contains (r.fn, r.callee))) = true := by decide +kernel

end SST.C11.Errors
