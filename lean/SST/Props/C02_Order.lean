/-
C02 (order tie) — the ORDER of file-system actions the crash model behind C02 relies on, as it is in the Go source
TODAY.  `SST.Generated.Order.table` is regenerated from /repo by tools/orderfacts before every proof build; the
quantifier of every theorem below is that finite table, so `decide` is a proof ABOUT THE SOURCE'S CALL ORDER (up to the
tool's classification of calls — by go/types identities, see tools/orderfacts/main.go — ), not a sample.  The table is
rename-stable and in a control-flow normal form (Spec/Order.lean, header): conditions are canonical texts (`errNonNil`,
`nonNil(<type>.<field>)`, a local by its definition or its type `‹T›`), early exits are guards.
Expectations and the label → model-event map: SST/Spec/Order.lean.  The model: SST/Model/FS.lean (`flushEvs`,
`compactEvs`, `fsStep … .close`).
-/
import SST.Proofs.Order
namespace SST.C02.Order
open SST SST.OrderSpec SST.Generated.Order SST.FS SST.DBM

/-- every listed function of the flush / compaction / table-writer path still exists -/
theorem listed_functions_found :
    (["simpledb.executeFlush", "simpledb.flushMemstoreContinuously", "DB.rotateWalAndFlushMemstore", "memstore.flushMemstore",
      "MemStore.FlushWithTombstones", "SSTableStreamWriter.Open", "SSTableStreamWriter.WriteNext", "SSTableStreamWriter.Close",
      "simpledb.backgroundCompaction", "simpledb.executeCompaction", "simpledb.saveCompactionMetadata",
      "SSTableManager.reflectCompactionResult", "DB.Close"].all foundFn) = true := by decide +kernel

/-- D14 (036cc7d): `executeCompaction` closes the merged table — not in a `defer`, which would run after the flag — and
only then writes the success flag; the deferred close is the guarded fall-back for the error paths. -/
theorem flag_after_table_closed :
    let xs := itemsOf "simpledb.executeCompaction"
    allBefore .writerClose .saveCompactionFlag (immediate 0 xs) = true ∧
    unconditional .writerClose (immediate 0 xs) = true ∧
    unconditional .saveCompactionFlag (immediate 0 xs) = true ∧
    -- the guard of the deferred close is the negation of a boolean local (`!writerClosed`, whatever it is called)
    condsAround .writerClose [] (deferredBlocks xs).flatten = [["!‹bool›"]] := by decide +kernel

/-- the merged table is written between opening and closing the writer, into a fresh temporary directory; the inputs
are opened in the (sorted) selection order from index 0.  Since bfb8835 the deferred close of the inputs — every element
of `readers`, unconditionally — is REGISTERED BEFORE the loop that opens them (it used to follow the loop, so an input
that failed to open or to scan left the ones before it open); the two deferred blocks are exactly the guarded writer
close and this one. -/
theorem compaction_steps_in_order :
    let all := itemsOf "simpledb.executeCompaction"
    let xs := immediate 0 all
    -- the selected paths are a local string list (`‹[]string›`), the opened inputs a local list of table readers
    inOrder [.selectCandidates, .sortStrings "‹[]string›", .mkdirTempCompaction, .newStreamWriter, .writerOpen, .mergeCompact,
             .writerClose, .saveCompactionFlag] xs = true ∧
    inSortedFullLoop .openReader "‹[]string›" xs = true ∧
    (deferredBlocks all).map acts = [[.writerClose], [.readerClose]] ∧
    allBefore .readerClose .openReader all = true ∧ inFullLoop .readerClose "‹[]sstables.SSTableReaderI›" all = true ∧
    condsAround .readerClose [] all = [[]] ∧ occurs .readerClose xs = false := by decide +kernel

/-- the success flag: written, then its writer closed (which makes it readable), nothing else.  Since a7ed007 the close
is deferred right after the writer exists, BEFORE `Open` can fail (so a flag writer that failed to open is closed, too);
at exit it is still the last action, after the write. -/
theorem flag_written_then_closed :
    let xs := itemsOf "simpledb.saveCompactionMetadata"
    acts (exitOrder xs) = [.newProtoWriter, .openFlagWriter, .writeFlag, .closeFlagWriter] ∧
    xs.take 4 = [.act .newProtoWriter, .deferBegin, .act .closeFlagWriter, .deferEnd] ∧
    acts (immediate 0 xs) = [.newProtoWriter, .openFlagWriter, .writeFlag] ∧
    unconditional .openFlagWriter xs = true ∧ unconditional .writeFlag xs = true ∧ noOther xs = true := by
  decide +kernel

/-- a compaction cycle reflects the result after — and only after — `executeCompaction` returned it -/
theorem reflect_after_execute :
    allBefore .executeCompaction .reflectCompactionResult (itemsOf "simpledb.backgroundCompaction") = true := by decide +kernel

/-- 6dd9211: in both background goroutines the done signal (`doneFlushChannel <- true` / `doneCompactionChannel <- true`)
is NOT inside a `defer` any more: it is the LAST statement of the normal path, unconditional, AFTER the
`if err != nil { log.Panicf }` block — so it is not executed on the error path, where the panic now stops the process
(a deferred send on the unbuffered channel kept the panic from unwinding: the goroutine hung).  The compactor has one
more signal: for a database without compactions — in the normal form the whole function is ONE two-armed conditional on
`enableCompactions` (the early `return` of the source does what the end of the function does): the else arm is exactly
the signal, the then arm ends with the signal after the panic block, nothing follows the conditional. -/
theorem done_signal_not_on_error_path :
    let f := itemsOf "simpledb.flushMemstoreContinuously"
    let c := itemsOf "simpledb.backgroundCompaction"
    occurs .signalFlusherDone (deferredBlocks f).flatten = false ∧ occurs .signalCompactorDone (deferredBlocks c).flatten = false ∧
    occurs .panicLog (deferredBlocks f).flatten = false ∧ occurs .panicLog (deferredBlocks c).flatten = false ∧
    condsAround .panicLog [] f = [["errNonNil"]] ∧ condsAround .panicLog [] c = [["errNonNil", "simpledb.DB.enableCompactions"]] ∧
    condsAround .signalFlusherDone [] f = [[]] ∧ unconditional .signalFlusherDone f = true ∧
    allBefore .panicLog .signalFlusherDone f = true ∧ allBefore .executeFlush .signalFlusherDone f = true ∧
    f.getLast? = some (.act .signalFlusherDone) ∧
    condsAround .signalCompactorDone [] c = [["simpledb.DB.enableCompactions"], ["else: simpledb.DB.enableCompactions"]] ∧
    c.head? = some (.ifBegin "simpledb.DB.enableCompactions") ∧ (splitBlock 0 c.tail).2 = [] ∧
    (splitElse 0 (splitBlock 0 c.tail).1).2 = [.act .signalCompactorDone] ∧
    (let t := (splitElse 0 (splitBlock 0 c.tail).1).1
     allBefore .panicLog .signalCompactorDone t = true ∧ allBefore .executeCompaction .signalCompactorDone t = true ∧
     t.getLast? = some (.act .signalCompactorDone) ∧ unconditional .signalCompactorDone t = true) ∧
    noOther f = true ∧ noOther c = true := by decide +kernel

/-- `executeFlush`: the table is written completely, THEN the WAL file that holds the same records is removed, THEN the
table is opened and added to the readers — each under the one condition "the store is not empty" (an empty store returns
nil like the end of the function does: normal form = one conditional around everything) and nothing else, except the
removal, which also needs the WAL path of the hand-off (recovery flushes have none) -/
theorem wal_removed_after_table_complete :
    let xs := itemsOf "simpledb.executeFlush"
    inOrder [.genIncrement, .mkdirTable, .flushWithTombstones, .removeWalFile, .openReader, .addReader] xs = true ∧
    count .removeWalFile xs = 1 ∧
    condsAround .removeWalFile [] xs = [["simpledb.memStoreFlushAction.walPath != \"\"", "memstore.MemStoreI.Size() != 0"]] ∧
    [Label.genIncrement, .mkdirTable, .flushWithTombstones, .openReader, .addReader].all
      (fun l => condsAround l [] xs == [["memstore.MemStoreI.Size() != 0"]] && loopsAround l [] xs == [[]]) = true ∧
    noOther xs = true := by decide +kernel

/-- `flushMemstore`: open the writer, write every entry, close the writer at exit (the only deferred action) -/
theorem memstore_flush_closes_writer_last :
    let xs := itemsOf "memstore.flushMemstore"
    inOrder [.newStreamWriter, .writerOpen, .writerWriteNext, .writerClose] (exitOrder xs) = true ∧
    acts (deferredBlocks xs).flatten = [.writerClose] ∧ noOther xs = true ∧
    acts (itemsOf "MemStore.FlushWithTombstones") = [.flushMemstoreCall] := by decide +kernel

/-- `SSTableStreamWriter.Open` creates index.rio, data.rio (each with its header) and only then the metadata file:
the model's `tblLoadable` before `tblMetaCreate` -/
theorem writer_open_creates_in_order :
    let xs := itemsOf "SSTableStreamWriter.Open"
    inOrder [.newProtoWriter, .openIndexWriter, .newFileWriter, .openDataWriter, .openMetaFile] xs = true ∧
    [Label.newProtoWriter, .openIndexWriter, .newFileWriter, .openDataWriter, .openMetaFile].all (fun l => unconditional l xs) = true ∧
    noOther xs = true := by decide +kernel

/-- 3b4867f: the clean-up of a failed `Open` is ONE deferred block, registered before the first file is opened, that
does something only when `Open` is returning an error (`errNonNil` around everything: the source spells it as an early
`return` on `err == nil`, which is the same thing in the normal form) and then closes whichever of index writer, data
writer and metadata file exists — each behind its own nil check.  Nothing of it runs where it stands, so a successful
`Open` hands all three over open (the model's flush events continue with `WriteNext` on them). -/
theorem writer_open_cleanup_only_on_error :
    let xs := itemsOf "SSTableStreamWriter.Open"
    deferredBlocks xs =
      [[.ifBegin "errNonNil",
        .ifBegin "nonNil(sstables.SSTableStreamWriter.indexWriter)", .act .closeIndexWriter, .ifEnd,
        .ifBegin "nonNil(sstables.SSTableStreamWriter.dataWriter)", .act .closeDataWriter, .ifEnd,
        .ifBegin "nonNil(sstables.SSTableStreamWriter.metaDataFile)", .act .closeMetaFile, .ifEnd,
        .ifEnd]] ∧
    xs.head? = some .deferBegin ∧
    [Label.closeIndexWriter, .closeDataWriter, .closeMetaFile].all (fun l => !occurs l (immediate 0 xs)) = true := by
  decide +kernel

/-- `WriteNext`: the value goes to data.rio before its index entry goes to index.rio -/
theorem data_written_before_index :
    let xs := itemsOf "SSTableStreamWriter.WriteNext"
    allBefore .dataWrite .indexWrite xs = true ∧ unconditional .dataWrite xs = true ∧ unconditional .indexWrite xs = true ∧
    noOther xs = true := by decide +kernel

/-- `SSTableStreamWriter.Close`: index and data writers are closed where the statement stands (not deferred, not in a
loop), each exactly once, the bloom filter is written, and the metadata write is the LAST file-content action (only
closing the metadata file follows).  Since 3b4867f each of the two closes stands behind the nil check of THAT writer and
nothing else (`Close` stays callable on a writer whose `Open` failed and gave its files back; after a successful `Open`
both writers exist — `writer_open_cleanup_only_on_error` — so on that path both closes still always run, which is what
`model_flush_order_matches_source` executes). -/
theorem meta_written_last :
    let xs := itemsOf "SSTableStreamWriter.Close"
    inOrder [.closeIndexWriter, .closeDataWriter, .writeBloom, .writeMeta] (immediate 0 xs) = true ∧
    condsAround .closeIndexWriter [] xs = [["nonNil(sstables.SSTableStreamWriter.indexWriter)"]] ∧
    condsAround .closeDataWriter [] xs = [["nonNil(sstables.SSTableStreamWriter.dataWriter)"]] ∧
    loopsAround .closeIndexWriter [] xs = [[]] ∧ loopsAround .closeDataWriter [] xs = [[]] ∧
    lastAmong .writeMeta [.closeIndexWriter, .closeDataWriter, .writeBloom, .dataWrite, .indexWrite, .openMetaFile] (exitOrder xs) = true ∧
    acts (deferredBlocks xs).flatten = [.closeMetaFile] ∧ noOther xs = true := by decide +kernel

/-- `reflectCompactionResult` (same as C10, needed here for the crash points inside a running compaction) -/
theorem reflect_deletes_before_rename :
    let xs := itemsOf "SSTableManager.reflectCompactionResult"
    allBefore .removeAllInput .renameIntoPlace xs = true ∧ count .renameIntoPlace xs = 1 := by decide +kernel

/-- `Close`: rotate and hand over, wait for the flusher, and only then close the WAL and the readers -/
theorem close_waits_for_flusher_before_closing_wal :
    inOrder [.rotateAndHandOff, .closeFlushChannel, .waitFlusherDone, .walClose, .readerClose] (itemsOf "DB.Close") = true := by
  decide +kernel

/-- the no-op events of the model: their position is irrelevant, both sides are compared without them -/
theorem progress_events_change_nothing (d : Disk) (g : Nat) :
    applyEv d (.tblProgress g) = d ∧ applyEv d (.compProgress g) = d := ⟨rfl, rfl⟩

/-- The representative paths of this file whose calls go through the table writer (flush, compaction, `Close`) and
the delete path, executed in ONE evaluation: the kernel then walks the writer's `Open` / `WriteNext` / `Close` and the WAL
appender once instead of once per path.  The four theorems below are its projections. -/
theorem own_paths_match_model :
    srcKinds .table cfgFlush "simpledb.executeFlush" = some (modelKinds (flushEvs vFlush).1) ∧
    srcKinds .compaction cfgCompact "simpledb.backgroundCompaction" = some (modelKinds (compactEvs {} vTwoTables [1, 1]).1) ∧
    srcKinds .table cfgClose "DB.Close" = some (modelKinds (fsStep false {} vDirty { st := .close }).1) ∧
    srcKinds .table cfgDelete "DB.DeleteBytes" = some (modelKinds (fsStep false {} vOpen { st := .delB (some [1]) }).1) := by
  decide +kernel

/-- MODEL = SOURCE, flush: the event kinds of `flushEvs` for a pending one-entry store that came with a WAL file are,
in order, what `executeFlush` → `FlushWithTombstones` → `flushMemstore` → writer `Open`/`WriteNext`/`Close` do. -/
theorem model_flush_order_matches_source :
    srcKinds .table cfgFlush "simpledb.executeFlush" = some (modelKinds (flushEvs vFlush).1) ∧
    modelKinds (flushEvs vFlush).1 = [.tblMkdir, .tblLoadable, .tblMetaCreate, .tblComplete, .walUnlink] :=
  ⟨own_paths_match_model.1, by decide +kernel⟩

/-- MODEL = SOURCE, compaction: `compactEvs` for two selected tables against one cycle of `backgroundCompaction`
(`executeCompaction` → writer → `saveCompactionMetadata`, then `reflectCompactionResult`). -/
theorem model_compaction_order_matches_source :
    srcKinds .compaction cfgCompact "simpledb.backgroundCompaction" = some (modelKinds (compactEvs {} vTwoTables [1, 1]).1) ∧
    modelKinds (compactEvs {} vTwoTables [1, 1]).1 =
      [.compMkdir, .compComplete, .compFlag, .tblUnlinkPart, .tblUnlinkPart, .tblRmdir, .tblUnlinkPart, .tblUnlinkPart, .tblRmdir,
       .compRename] :=
  ⟨own_paths_match_model.2.1, by decide +kernel⟩

/-- MODEL = SOURCE, `Close` with a non-empty write store: rotation, the flusher's flush (complete when
`<-db.doneFlushChannel` returns), closing the last WAL file. -/
theorem model_close_order_matches_source :
    srcKinds .table cfgClose "DB.Close" = some (modelKinds (fsStep false {} vDirty { st := .close }).1) :=
  own_paths_match_model.2.2.1

/-- MODEL = SOURCE for the synchronous write path: `PutBytes` (log: buffered write, flush, fsync; then the memstore;
then the rotation: close the file, create the next one, write its header) and `DeleteBytes`. -/
theorem model_sync_write_order_matches_source :
    srcKinds .table cfgPut "DB.PutBytes" = some (modelKinds (fsStep false {} vOpen { st := .putB (some [1]) (some [2]) true }).1) ∧
    srcKinds .table cfgDelete "DB.DeleteBytes" = some (modelKinds (fsStep false {} vOpen { st := .delB (some [1]) }).1) :=
  ⟨put_path_matches_model, own_paths_match_model.2.2.2⟩

/-- flush, compaction cycle, `Close` and a rotating `PutBytes` in one statement -/
theorem model_order_matches_source :
    srcKinds .table cfgFlush "simpledb.executeFlush" = some (modelKinds (flushEvs vFlush).1) ∧
    srcKinds .compaction cfgCompact "simpledb.backgroundCompaction" = some (modelKinds (compactEvs {} vTwoTables [1, 1]).1) ∧
    srcKinds .table cfgClose "DB.Close" = some (modelKinds (fsStep false {} vDirty { st := .close }).1) ∧
    srcKinds .table cfgPut "DB.PutBytes" = some (modelKinds (fsStep false {} vOpen { st := .putB (some [1]) (some [2]) true }).1) :=
  ⟨model_flush_order_matches_source.1, model_compaction_order_matches_source.1, model_close_order_matches_source,
   model_sync_write_order_matches_source.1⟩

/-- FINDING (order, documented limitation of the model): in the source the hand-off to the flusher — the point after
which the PREVIOUS flush is known to be complete — comes AFTER the WAL rotation (`walRotate` precedes
`chanSendFlush`), so the previous flush may still be writing while the next WAL file is created.  `rotateEvs` places
ALL events of the pending flush BEFORE the rotation events: one legal interleaving (flusher already done), not the
other extreme.  Every other interleaving is covered by `C02.Interleave.crash_safe_sync_interleaved` (Model/FSInterleave.lean:
the hand-off is a move of its own after the rotation's file calls) and sampled by the real crash images. -/
theorem rotate_handoff_after_wal_rotation_but_model_flushes_first :
    inOrder [.walRotate, .swapMemstore, .chanSendFlush] (itemsOf "DB.rotateWalAndFlushMemstore") = true ∧
    modelKinds (rotateEvs vFlush).1 =
      [.tblMkdir, .tblLoadable, .tblMetaCreate, .tblComplete, .walUnlink, .walClose, .walCreate, .walHeader] := by decide +kernel

end SST.C02.Order
