/-
C10 (order tie) — the ORDER of file-system actions of recovery (`Open`: repairCompactions, reconstructSSTables,
replayAndSetupWriteAheadLog) as it is in the Go source TODAY, over the table tools/orderfacts regenerates from /repo
before every proof build (see Props/C02_Order.lean for what that means), and the agreement of the model's recovery
event order (`recoverEvents`: `cleanStep` / `phase3Events`, Model/FS.lean) with it.
-/
import SST.Spec.Order
namespace SST.C10.Order
open SST SST.OrderSpec SST.Generated.Order SST.FS SST.DBM

theorem listed_functions_found :
    (["DB.Open", "DB.repairCompactions", "DB.reconstructSSTables", "DB.replayAndSetupWriteAheadLog",
      "simpledb.isUnfinishedTable", "simpledb.removeUnfinishedTable",
      "SSTableManager.reflectCompactionResult", "wal.NewAppender", "wal.setupNextWriter"].all foundFn) = true := by decide +kernel

/-- `Open`: the three recovery phases in this order, each unconditional, before any background goroutine starts.
Since edfc7e7 a deferred block, registered BEFORE the first phase (so it covers all three), gives the tables loaded so
far back when — and only when — `Open` fails: close the readers, forget them, all under `err != nil`; a successful
`Open` closes nothing (the deferred blocks are exactly the unlock and this one). -/
theorem recovery_phases_in_order :
    let xs := itemsOf "DB.Open"
    inOrder [.repairCompactions, .reconstructSSTables, .replayAndSetupWal, .spawnFlusher] xs = true ∧
    allBefore .replayAndSetupWal .spawnCompactor xs = true ∧
    [Label.repairCompactions, .reconstructSSTables, .replayAndSetupWal].all (fun l => unconditional l xs) = true ∧
    deferredBlocks xs =
      [[.act .unlock], [.ifBegin "errNonNil", .act .currentSSTable, .act .readerClose, .act .clearReaders, .ifEnd]] ∧
    allBefore .clearReaders .repairCompactions xs = true ∧
    occurs .readerClose (immediate 0 xs) = false ∧ occurs .clearReaders (immediate 0 xs) = false ∧
    noOther xs = true := by decide +kernel

/-- D15 (c63f907), live side: `reflectCompactionResult` closes and deletes every compacted table (all of
`SstablePaths`, from the first) before the rename — the rename takes the success flag away with it -/
theorem reflect_deletes_before_rename :
    let xs := itemsOf "SSTableManager.reflectCompactionResult"
    allBefore .removeAllInput .renameIntoPlace xs = true ∧
    inFullLoop .removeAllInput "simpledb/proto.CompactionMetadata.SstablePaths" xs = true ∧
    allBefore .readerClose .removeAllInput xs = true ∧ firstBefore .renameIntoPlace .openReader xs = true ∧
    count .renameIntoPlace xs = 1 ∧ unconditional .renameIntoPlace xs = true ∧ noOther xs = true := by decide +kernel

/-- D15 (c63f907), recovery side: `repairCompactions` deletes the other inputs (every one of `SstablePaths` except the
replacement), then whatever sits at the replacement path, and renames LAST -/
theorem repair_deletes_before_rename :
    let xs := itemsOf "DB.repairCompactions"
    inOrder [.removeAllInput, .removeAllReplacement, .renameIntoPlace] xs = true ∧
    inFullLoop .removeAllInput "simpledb/proto.CompactionMetadata.SstablePaths" xs = true ∧
    -- the one condition: the element of `SstablePaths` at hand is not the replacement path (the same list whether the
    -- source says `if p != repl { remove }` or `if p == repl { continue }; remove`)
    condsAround .removeAllInput [] xs =
      [["elem(simpledb/proto.CompactionMetadata.SstablePaths) != simpledb/proto.CompactionMetadata.ReplacementPath"]] ∧
    count .renameIntoPlace xs = 1 ∧ noOtherBetween .removeAllInput .renameIntoPlace xs = true ∧ noOther xs = true := by
  decide +kernel

/-- unflagged (unfinished or unreadable) compaction directories are deleted before any flagged one is finished — the
order `cleanStep` has -/
theorem unflagged_compactions_deleted_first :
    let xs := itemsOf "DB.repairCompactions"
    allBefore .removeAllUnflaggedCompaction .removeAllInput xs = true ∧
    -- the directories to delete: a local string list collected by the walk (`‹[]string›`); the flagged ones are a list
    -- of metadata records
    inFullLoop .removeAllUnflaggedCompaction "‹[]string›" xs = true ∧
    inFullLoop .removeAllReplacement "‹[]*simpledb/proto.CompactionMetadata›" xs = true ∧
    -- the flag is read (and its reader closed) inside the directory walk, before anything is deleted
    inOrder [.osStat, .newFlagReader, .openFlagReader, .readFlag] xs = true ∧
    allBefore .readFlag .removeAllUnflaggedCompaction xs = true := by decide +kernel

/-- tables are visited in name order: sorted, every element from index 0 -/
theorem tables_loaded_in_name_order :
    inSortedFullLoop .loadTable "‹[]string›" (itemsOf "DB.reconstructSSTables") = true ∧
    inSortedFullLoop .addReader "‹[]string›" (itemsOf "DB.reconstructSSTables") = true := by decide +kernel

/-- 2cc0c75: a directory whose metadata file exists and is empty is discarded BEFORE the reader gets to load it; the
check after a failed load (`isUnfinishedTable`) is the older path for tables whose files are missing.  In the normal
form the loop body is: the check; then `if <metadata empty> { remove } else { load; if err { isUnfinished?; … remove }
else { addReader } }` — however the source spells the `continue`s and `return`s.  `pathConds`: everything known when the
action is reached, i.e. the conditions around it and (as `not:`) the guards passed before it.
The check is the `os.Stat` of `<table directory of this iteration>/meta.pb.bin` (label `hasEmptyMetadataCheck`) and the
predicate "no error and size 0" over its result — the table is the same whether stat + predicate stand in a private helper
(`hasEmptyMetadata`, today) or are written out in the loop; likewise the predicate of `isUnfinishedTable` is spelled out. -/
theorem empty_metadata_checked_before_load :
    let xs := itemsOf "DB.reconstructSSTables"
    let b := loopBody "‹[]string›" xs
    let emptyMeta := "errNil && io/fs.FileInfo.Size() == 0"
    let notUnfinished := "!os.IsNotExist(‹error›) && (errNonNil || io/fs.FileInfo.Size() != 0)"
    firstBefore .hasEmptyMetadataCheck .loadTable xs = true ∧
    -- for EVERY table: the check is the first thing the loop body does, and it is done once
    firstIdx .hasEmptyMetadataCheck b = some 0 ∧ count .hasEmptyMetadataCheck xs = 1 ∧
    -- the table is loaded exactly when its metadata is not empty, once, not in an inner loop
    condsAround .loadTable [] b = [["else: " ++ emptyMeta]] ∧ loopsAround .loadTable [] b = [[]] ∧
    -- removed: when the metadata is empty; or when it is not, the load failed, and the table is unfinished (the guard
    -- `!isUnfinishedTable → return err` was passed)
    pathConds .removeUnfinishedTable b =
      [[emptyMeta],
       ["not: " ++ notUnfinished, "errNonNil", "else: " ++ emptyMeta]] ∧
    -- added to the readers: metadata not empty and the load succeeded
    pathConds .addReader b = [["else: errNonNil", "else: " ++ emptyMeta]] ∧
    allBefore .loadTable .isUnfinishedTableCheck xs = true ∧ noOther xs = true := by decide +kernel

/-- d2bdde6: an unfinished table is removed index.rio FIRST, then the directory; `reconstructSSTables` never calls
`RemoveAll` on a table directory itself, only through `removeUnfinishedTable` (twice: empty metadata, failed load).
(`repairCompactions` does remove the complete input tables of a flagged compaction with `RemoveAll`:
`repair_deletes_before_rename`.) -/
theorem unfinished_table_index_removed_first :
    acts (itemsOf "simpledb.removeUnfinishedTable") = [.removeIndexFileFirst, .removeAllTableDir] ∧
    unconditional .removeIndexFileFirst (itemsOf "simpledb.removeUnfinishedTable") = true ∧
    noOther (itemsOf "simpledb.removeUnfinishedTable") = true ∧
    occurs .removeAllTableDir (itemsOf "DB.reconstructSSTables") = false ∧
    count .removeUnfinishedTable (itemsOf "DB.reconstructSSTables") = 2 := by decide +kernel

/-- D16 (86e2d95) + C10-m1: after the replayed records are flushed into a table the WAL files are removed OLDEST FIRST —
names sorted, every file from index 0 —, then the directory is removed and re-created, then the fresh log starts -/
theorem wal_files_removed_oldest_first :
    let xs := itemsOf "DB.replayAndSetupWriteAheadLog"
    inSortedFullLoop .removeWalFileInRecovery "‹[]string›" xs = true ∧ count .removeWalFileInRecovery xs = 1 ∧
    inOrder [.replayWal, .executeFlushInRecovery, .readDir, .sortStrings "‹[]string›", .removeWalFileInRecovery,
             .removeAllWalDir, .mkdirWalDir, .newWal] (xs.drop 1) = true ∧
    firstIdx .mkdirWalDir xs = some 0 ∧ unconditional .removeAllWalDir xs = true ∧
    noOtherBetween .replayWal .newWal xs = true := by decide +kernel

/-- the recovery flush runs on the swapped-out store, before the sorted loop removes the WAL files.  (In the source its
flush action carries no WAL path, so its own `removeWalFile` is skipped; the table does not record arguments: the label
`executeFlushInRecovery` is any `executeFlush` inside this function.) -/
theorem recovery_flush_before_wal_removal :
    let xs := itemsOf "DB.replayAndSetupWriteAheadLog"
    inOrder [.swapMemstore, .executeFlushInRecovery, .removeWalFileInRecovery] xs = true ∧
    -- under one condition: the record counter (an integer local) is not zero
    condsAround .executeFlushInRecovery [] xs = [["‹int› != 0"]] := by decide +kernel

/-- the fresh WAL: the file is created, then its header written -/
theorem fresh_wal_created_then_header :
    acts (itemsOf "wal.NewAppender") = [.setupNextWriter] ∧
    allBefore .walWriterFactory .openWalWriter (itemsOf "wal.setupNextWriter") = true := by decide +kernel

/-- in the model, too, the other inputs go before the replacement, the rename is last among the events of a flagged
compaction, and the WAL files go in number order: events on table 2 (input) < events on table 1 (replacement) <
rename; `walUnlink 0` < `walUnlink 1` < `walDirRemove` -/
theorem model_repair_order_by_object :
    (recoverEvents dRecover).filter (fun e => e matches .tblUnlinkPart _ _ || e matches .tblRmdir _ || e matches .compRename _ _
        || e matches .walUnlink _ || e matches .walDirRemove) =
      [.tblUnlinkPart 2 true, .tblUnlinkPart 2 false, .tblRmdir 2, .tblUnlinkPart 1 true, .tblUnlinkPart 1 false, .tblRmdir 1,
       .compRename 2 1, .tblRmdir 3, .walUnlink 0, .walUnlink 1, .walDirRemove] := by decide +kernel

/-- MODEL = SOURCE, recovery: the event kinds of `recoverEvents` on a directory with an unflagged compaction, a flagged
one (tables 1, 2 → 1), an unfinished table and two WAL files are, in order, what `Open` does on the corresponding
path through repairCompactions / reconstructSSTables / replayAndSetupWriteAheadLog (→ executeFlush → … → NewAppender);
and the same on an empty directory.  (`MkdirAll` of the existing WAL directory is no event: `dropFirstMkdir`.) -/
theorem model_recovery_order_matches_source :
    dropFirstMkdir (srcKinds .table (cfgOpen true) "DB.Open") = some (modelKinds (recoverEvents dRecover)) ∧
    srcKinds .table (cfgOpen false) "DB.Open" = some (modelKinds (recoverEvents {})) ∧
    modelKinds (recoverEvents dRecover) =
      [.compUnlinkPart, .compRmdir, .tblUnlinkPart, .tblUnlinkPart, .tblRmdir, .tblUnlinkPart, .tblUnlinkPart, .tblRmdir, .compRename,
       .tblRmdir, .tblMkdir, .tblLoadable, .tblMetaCreate, .tblComplete, .walUnlink, .walUnlink, .walDirRemove, .walDirCreate,
       .walCreate, .walHeader] := by decide +kernel

/-- the C10 part of `model_order_matches_source` -/
theorem model_order_matches_source :
    dropFirstMkdir (srcKinds .table (cfgOpen true) "DB.Open") = some (modelKinds (recoverEvents dRecover)) ∧
    srcKinds .table (cfgOpen false) "DB.Open" = some (modelKinds (recoverEvents {})) :=
  ⟨model_recovery_order_matches_source.1, model_recovery_order_matches_source.2.1⟩

end SST.C10.Order
