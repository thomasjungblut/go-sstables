/-
C06 with version-0 (legacy) tables in the database directory: every compaction cycle, whatever it selects,
leaves every key's read unchanged, and the records of every selected table — a legacy one like any other — reach the
merged table.

The argument extends the layer argument of C06 (`DBM`: a table is its cells) in three steps:
 (1) the version-0 reader delivers exactly the table's cells to the merge (`v0_merge_input`, from C03.V0);
 (2) the selection the real code makes on such a table is NOT the one the layer model computes from the cells —
     its metadata are all zero — so the compaction theorems are proved for ANY selection (`compactStepSel`);
 (3) what the selection test does conclude from all-zero metadata is stated exactly
     (`v0_selected_by_size_never_by_ratio`).
`v0_table_survives_compaction` puts the three together.

`DBM.compactStep` computes the per-table candidate test from the table's cells, i.e. from what truthful metadata
report.  A legacy table without a metadata file is loaded with the all-zero default metadata
(`TblDir.readMeta none = .ok {}`) although it holds records, so the selection the real code makes
(`Stack.candidateMd` on the metadata) is NOT the one `DBM.candidate` computes.  Therefore the compaction theorems
are stated here for `DBM.compactStepSel s raw`: one compaction cycle for ANY list `raw` of per-table candidate
flags whatsoever (no assumption on its length: missing entries count as `false`; an entry past the last table
selects no table itself, but a `true` there still takes part in the flood fill and so extends the run to the last
table), and the exact behaviour of the test on all-zero metadata is stated separately.
-/
import SST.Proofs.DBSel
import SST.Proofs.SSTableV0
namespace SST.C06.V0
open SST SST.DBM

/-- `compactStep` is `compactStepSel` on the flags `candidate` computes from the cells and the given sizes -/
theorem compactStep_eq_sel (s : State) (sizes : List Nat) :
    compactStep s sizes = compactStepSel s (rawOf s sizes) :=
  Proofs.DB.compactStep_eq_sel s sizes

/-- whatever the per-table flags are, one cycle either leaves the state alone or replaces a gap-free run
`t0 :: sel'` of the table list by one table — the merge of the run, under the number of `t0`, tombstones dropped
exactly when the run starts at the oldest table -/
theorem compactStepSel_spec (s : State) (raw : List Bool) :
    (compactStepSel s raw).1 = s ∨
    ∃ pre t0 sel' post, s.tables = pre ++ (t0 :: sel') ++ post ∧
      (compactStepSel s raw).1 = { s with tables :=
        pre ++ [{ gen := t0.gen, cells := mergeRun (t0 :: sel') (pre.length == 0) }] ++ post } := by
  rcases Proofs.DB.compactStepSel_full s raw with (h | ⟨pre, t0, sel', post, htab, _, _, h⟩)
  · left; rw [h]
  · right; exact ⟨pre, t0, sel', post, htab, by rw [h]⟩

/-- the same with everything the cycle decides: nothing is done and nothing is reported, or the tables whose
flood-filled flag is set are exactly the run `t0 :: sel'`, they are more than `CompactionFileThreshold`, the run is
replaced by its merge and the reported numbers are those of the run -/
theorem compactStepSel_full (s : State) (raw : List Bool) :
    compactStepSel s raw = (s, []) ∨
    ∃ pre t0 sel' post, s.tables = pre ++ (t0 :: sel') ++ post ∧
      (∀ i, i < s.tables.length →
        ((floodFill raw).getD i false = true ↔ pre.length ≤ i ∧ i < pre.length + (sel'.length + 1))) ∧
      s.opts.threshold < ((sel'.length + 1 : Nat) : Int) ∧
      compactStepSel s raw = ({ s with tables :=
        pre ++ [{ gen := t0.gen, cells := mergeRun (t0 :: sel') (pre.length == 0) }] ++ post },
        (t0 :: sel').map (·.gen)) :=
  Proofs.DB.compactStepSel_full s raw

theorem raw_le_floodFill (raw : List Bool) (i : Nat) (h : raw.getD i false = true) :
    (floodFill raw).getD i false = true :=
  Proofs.DB.raw_le_floodFill raw i h

/-- Compaction never changes what a key reads as — for EVERY state (reachable or not: no invariant is needed),
every selection `raw` (so also the one the real code makes when some tables have all-zero or otherwise untruthful
metadata) and every key: the result of `Get` and the abstract map are unchanged by one cycle -/
theorem compactSel_preserves_reads (s : State) (raw : List Bool) (k : Key) :
    get (compactStepSel s raw).1 k = get s k ∧ abs (compactStepSel s raw).1 k = abs s k :=
  Proofs.DB.compactSel_preserves_reads s raw k

/-- … and the invariant of reachable states is kept, so the whole-history statements (`C01.db_refines_map`, in the
form `Proofs.DB.run_sim` from `Proofs.DB.rel_self`) continue from the state after such a cycle (their `.compact` steps
select from the cells again: for a later cycle whose selection comes from all-zero metadata this theorem applies again);
nothing but the table list changes -/
theorem compactSel_inv (s : State) (h : Proofs.DB.Inv s) (raw : List Bool) :
    Proofs.DB.Inv (compactStepSel s raw).1 ∧ (compactStepSel s raw).1.isOpen = s.isOpen ∧
      (compactStepSel s raw).1.closed = s.closed ∧ (compactStepSel s raw).1.w = s.w ∧
      (compactStepSel s raw).1.r = s.r ∧ (compactStepSel s raw).1.gen = s.gen ∧
      (compactStepSel s raw).1.opts = s.opts := by
  have hr := Proofs.DB.compactStepSel_retabled s raw
  refine ⟨hr.inv h, ?_⟩
  rw [hr.eq]
  exact ⟨rfl, rfl, rfl, rfl, rfl, rfl⟩

/-- When a cycle does something, the records of the selected tables reach the merged table: the table `merged`
that takes the place of the run `t0 :: sel'` binds every key to the newest binding inside the run
(`Proofs.DB.mergeVal drop`: a non-empty value as it is; a tombstone or empty value is dropped when `drop`, i.e.
when the run starts at the oldest table, and carried as an EMPTY value otherwise).  Spelled out per table: for a
selected table `t` (e.g. the legacy one) and a key bound in `t` and in no NEWER selected table, `merged` binds the
key to `t`'s value; a non-empty value is there whatever `drop` is. -/
theorem compactSel_records_reach_merged (s : State) (raw : List Bool) :
    compactStepSel s raw = (s, []) ∨
    ∃ pre t0 sel' post merged, s.tables = pre ++ (t0 :: sel') ++ post ∧
      (compactStepSel s raw).1 = { s with tables := pre ++ [merged] ++ post } ∧
      (compactStepSel s raw).2 = (t0 :: sel').map (·.gen) ∧
      merged.gen = t0.gen ∧
      (∀ k, Layer.get merged.cells k = Proofs.DB.mergeVal (pre.length == 0) (tablesGet (t0 :: sel') k)) ∧
      (∀ older t newer, t0 :: sel' = older ++ t :: newer → ∀ k v, Layer.get t.cells k = some v →
        (∀ u ∈ newer, Layer.get u.cells k = none) →
        Layer.get merged.cells k = Proofs.DB.mergeVal (pre.length == 0) (some v)) ∧
      (∀ older t newer, t0 :: sel' = older ++ t :: newer → ∀ k v, v ≠ [] →
        Layer.get t.cells k = some (some v) → (∀ u ∈ newer, Layer.get u.cells k = none) →
        Layer.get merged.cells k = some (some v)) :=
  Proofs.DB.compactSel_records_reach_merged s raw

/-- the merge of a run, per table of the run: the newest binding wins -/
theorem mergeRun_newest (older : List Tbl) (t : Tbl) (newer : List Tbl) (drop : Bool) (k : Key) (v : GoBytes)
    (ht : Layer.get t.cells k = some v) (hn : ∀ u ∈ newer, Layer.get u.cells k = none) :
    Layer.get (mergeRun (older ++ t :: newer) drop) k = Proofs.DB.mergeVal drop (some v) :=
  Proofs.DB.mergeRun_newest older t newer drop k v ht hn

/-- the legacy table is the OLDEST selected table, at position 0 of the database (`pre = []`, `drop = true`): a
non-empty value `v` of a key that no newer selected table rebinds is in the merged table -/
theorem legacy_oldest_value_reaches_merged (t0 : Tbl) (sel' : List Tbl) (k : Key) (v : Bytes) (hv : v ≠ [])
    (ht : Layer.get t0.cells k = some (some v)) (hn : ∀ u ∈ sel', Layer.get u.cells k = none) :
    Layer.get (mergeRun (t0 :: sel') true) k = some (some v) :=
  Proofs.DB.mergeRun_newest_value [] t0 sel' true k v hv ht hn

/-- … and a tombstone / empty value of it that no newer selected table rebinds is dropped (nothing older is left
that it could have to shadow) -/
theorem legacy_oldest_tombstone_dropped (t0 : Tbl) (sel' : List Tbl) (k : Key) (v : GoBytes)
    (hv : v = none ∨ v = some []) (ht : Layer.get t0.cells k = some v)
    (hn : ∀ u ∈ sel', Layer.get u.cells k = none) :
    Layer.get (mergeRun (t0 :: sel') true) k = none := by
  have h := mergeRun_newest [] t0 sel' true k v ht hn
  rw [List.nil_append] at h
  rw [h]
  rcases hv with (rfl | rfl) <;> rfl

/-- the same as a statement about the cycle: table 0 is flagged in `raw` (the legacy table, selected through its
metadata).  If the cycle does anything, table 0 is the first table of the merged run, the result keeps its number
and binds every non-empty value of table 0 that the rest of the run does not rebind. -/
theorem compactSel_oldest_flagged (s : State) (raw : List Bool) (h0 : raw.getD 0 false = true) :
    compactStepSel s raw = (s, []) ∨
    ∃ t0 sel' post merged, s.tables = (t0 :: sel') ++ post ∧
      (compactStepSel s raw).1 = { s with tables := merged :: post } ∧
      (compactStepSel s raw).2 = (t0 :: sel').map (·.gen) ∧
      merged.gen = t0.gen ∧
      (∀ k, Layer.get merged.cells k = Proofs.DB.mergeVal true (tablesGet (t0 :: sel') k)) ∧
      (∀ k v, v ≠ [] → Layer.get t0.cells k = some (some v) → (∀ u ∈ sel', Layer.get u.cells k = none) →
        Layer.get merged.cells k = some (some v)) :=
  Proofs.DB.compactSel_oldest_flagged s raw h0

/-- a legacy table without a metadata file is loaded with the default message -/
theorem readMeta_none : TblDir.readMeta none = .ok {} := rfl

/-- metadata that report 0 bytes and 0 records (all-zero metadata in particular) make the table a compaction
candidate exactly when `CompactionMaxSizeBytes > 0` — by the size limit, whatever the table really holds, and
never by the tombstone ratio -/
theorem v0_selected_by_size_never_by_ratio (o : DBM.Opts) (md : Meta) (h0 : md.totalBytes = 0)
    (hn : md.numRecords = 0) : Stack.candidateMd o md = decide (0 < o.maxSize) :=
  Proofs.DB.v0_selected_by_size_never_by_ratio o md h0 hn

/-- the ratio disjunct of the test is `false` for EVERY ratio — including ratio 0, "compact every table with any
tombstone share" — once the metadata report 0 records -/
theorem v0_never_ratio_candidate (o : DBM.Opts) (md : Meta) (hn : md.numRecords = 0) :
    (decide (md.numRecords > 0) && decide (md.nullValues * o.ratioDen ≥ o.ratioNum * md.numRecords)) = false := by
  rw [hn]
  simp

theorem v0_size_candidate_iff (o : DBM.Opts) (md : Meta) (h0 : md.totalBytes = 0) (hn : md.numRecords = 0) :
    Stack.candidateMd o md = true ↔ 0 < o.maxSize :=
  Proofs.DB.v0_size_candidate_iff o md h0 hn

/-- the instance for the default message -/
theorem v0_default_meta (o : DBM.Opts) : Stack.candidateMd o ({} : Meta) = decide (0 < o.maxSize) :=
  Proofs.DB.v0_default_meta o

/-- a legacy table WITH a version-0 metadata file (the repository's test table: 7 records, 0 null values, 0 total
bytes): a candidate by the size limit as above, by the ratio only for ratio 0 -/
theorem v0_meta_with_counts (o : DBM.Opts) (md : Meta) (h0 : md.totalBytes = 0) (hz : md.nullValues = 0)
    (hn : md.numRecords > 0) :
    Stack.candidateMd o md = (decide (0 < o.maxSize) || decide (o.ratioNum = 0)) :=
  Proofs.DB.v0_meta_with_counts o md h0 hz hn

/-- selection on all-zero metadata is what the layer model computes for an EMPTY table of size 0 … -/
theorem candidate_zero_meta_matches_layer_model (o : DBM.Opts) (g : Nat) :
    Stack.candidateMd o {} = DBM.candidate o { gen := g, cells := [] } 0 :=
  Proofs.DB.candidate_zero_meta_matches_layer_model o g

/-- … and NOT what it computes from the cells of a non-empty table: one tombstone cell, ratio 1/5, no size limit —
the cells say "candidate", the all-zero metadata say "no".  This is why the theorems above quantify over `raw`. -/
example :
    DBM.candidate { threshold := 0, maxSize := 0, ratioNum := 1, ratioDen := 5 } { gen := 1, cells := [([1], none)] } 0
      = true ∧
    Stack.candidateMd { threshold := 0, maxSize := 0, ratioNum := 1, ratioDen := 5 } {} = false := by
  decide +kernel

/-- the repository's version-0 test table (metadata file present: 7 records, no sizes): no candidate under the model's
default `Opts` (`maxSize = 0`), a candidate under a positive size limit (here 1; `totalBytes = 0` is below every positive
limit; Go's default is 5 GiB) and under ratio 0 -/
example : Stack.candidateMd {} { numRecords := 7 } = false ∧
    Stack.candidateMd { maxSize := 1 } { numRecords := 7 } = true ∧
    Stack.candidateMd { ratioNum := 0 } { numRecords := 7 } = true := by
  decide +kernel

/-! ## non-vacuity -/

/-- three tables; the first one plays the legacy table: with its truthful size (1000 ≥ the limit 100) and cells
(no tombstone) `candidate` does not flag it and a cycle merges tables 2 and 3 only, carrying the tombstone of key 1
as an EMPTY value; with all-zero metadata the size test flags it (`raw = [true, true, true]`), the cycle merges all
three tables under number 1 and drops the tombstone together with the shadowed value; every key reads as before -/
example : let s := runState {} [.reopen {threshold := 0, maxSize := 100, ratioNum := 1, ratioDen := 1},
      .putS [1] [9, 9] false, .putS [3] [5] false, .rotate, .flush, .delS [1], .rotate, .flush,
      .putS [2] [7] false, .rotate, .flush]
    s.tables.map (·.gen) = [1, 2, 3] ∧
    rawOf s [1000, 10, 10] = [false, true, true] ∧
    (compactStep s [1000, 10, 10]).2 = [2, 3] ∧
    (compactStepSel s [true, true, true]).2 = [1, 2, 3] ∧
    (compactStepSel s [true, true, true]).1.tables.map (·.gen) = [1] ∧
    (compactStepSel s [true, true, true]).1.tables.map (fun t => Layer.get t.cells [3]) = [some (some [5])] ∧
    (compactStepSel s [true, true, true]).1.tables.map (fun t => Layer.get t.cells [1]) = [none] ∧
    get s [1] = .notFound ∧ get (compactStepSel s [true, true, true]).1 [1] = .notFound ∧
    get s [3] = .value [5] ∧ get (compactStepSel s [true, true, true]).1 [3] = .value [5] ∧
    get s [2] = .value [7] ∧ get (compactStepSel s [true, true, true]).1 [2] = .value [7] := by
  decide +kernel

/-- the legacy table flagged alone with a newer flagged table: the flood fill takes the table in between too -/
example : let s := runState {} [.reopen {threshold := 1, maxSize := 0, ratioNum := 1, ratioDen := 1},
      .putS [1] [9, 9] false, .putS [3] [5] false, .rotate, .flush, .delS [1], .rotate, .flush,
      .putS [2] [7] false, .rotate, .flush]
    floodFill [true, false, true] = [true, true, true] ∧
    (compactStepSel s [true, false, true]).2 = [1, 2, 3] ∧
    get (compactStepSel s [true, false, true]).1 [1] = .notFound ∧
    get (compactStepSel s [true, false, true]).1 [3] = .value [5] := by
  decide +kernel

/-- the legacy table left out although its cells make it a candidate: ratio 0 ("compact every table"), no size limit.  The cells say
all three tables are candidates; all-zero metadata of the first table say it is not (`raw = [false, true, true]`): the
cycle leaves the legacy table alone, merges the other two without dropping the tombstone that shadows the legacy value,
and the deleted key stays deleted. -/
example : let s := runState {} [.reopen {threshold := 0, maxSize := 0, ratioNum := 0, ratioDen := 1},
      .putS [1] [9, 9] false, .putS [3] [5] false, .rotate, .flush, .delS [1], .rotate, .flush,
      .putS [2] [7] false, .rotate, .flush]
    rawOf s [0, 0, 0] = [true, true, true] ∧
    Stack.candidateMd s.opts {} = false ∧
    (compactStepSel s [false, true, true]).2 = [2, 3] ∧
    (compactStepSel s [false, true, true]).1.tables.map (·.gen) = [1, 2] ∧
    (compactStepSel s [false, true, true]).1.tables.map (fun t => Layer.get t.cells [1])
      = [some (some [9, 9]), some (some [])] ∧
    get (compactStepSel s [false, true, true]).1 [1] = .notFound ∧
    get (compactStepSel s [false, true, true]).1 [3] = .value [5] := by
  decide +kernel

/-- a `raw` list of the wrong length: a short list selects nothing past its end; entries past the last table
select no table themselves (a `true` among them still bounds the flood fill: here it fills from index 1 on, which
is table 2 alone) -/
example : let s := runState {} [.reopen {threshold := 0, maxSize := 0, ratioNum := 0, ratioDen := 1},
      .putS [1] [9, 9] false, .rotate, .flush, .delS [1], .rotate, .flush]
    (compactStepSel s [true]).2 = [1] ∧ (compactStepSel s [false, true, false, true]).2 = [2] ∧
    (compactStepSel s []).2 = [] ∧ get (compactStepSel s [true]).1 [1] = .notFound := by
  decide +kernel

/-- `executeCompaction` opens a new reader (default options, slice loader) and a full scanner on every selected
table.  For a version-0 table holding `kvs` (any recordio versions 1–4 of its two files, any lawful compressors,
metadata file absent or saying version 0) the merge receives, as an input that cannot fail, exactly the pairs of
the table in ascending key order — values as a version-0 table can hold them (`normKVs`: nil for nil/empty) — i.e.
the same `Merge.Input` a current table with these cells delivers (`Stack.scanInput` of a complete scan), and these
pairs are the layer `normKVs kvs` of the layer model. -/
theorem v0_merge_input (comps : Nat → Compression) (cfg : SST.V0.Cfg) (kvs : List KV) (metaf : Option Bytes)
    (md : Meta) (hc : SST.V0.CfgOk comps cfg) (hf : SST.V0.FitsV0 cfg kvs) (hs : StrictAsc bytesCmp kvs)
    (hm : SST.V0.MetaV0 metaf md) (bloom : Option (Bytes → Bool)) :
    SST.V0.mergeInputV0 comps (SST.V0.filesOf cfg kvs metaf) bloom =
      some (.ok (Merge.inputOf ((SST.V0.normKVs kvs).map normKV))) ∧
    Stack.scanInput ((SST.V0.normKVs kvs).map normKV, .done) = Merge.inputOf ((SST.V0.normKVs kvs).map normKV) ∧
    SST.V0.cellsOf ((SST.V0.normKVs kvs).map normKV, .done) = SST.V0.normKVs kvs :=
  ⟨Proofs.V0.mergeInputV0_table comps cfg kvs metaf md hc hf hs hm bloom, rfl, Proofs.V0.cellsOf_norm _⟩

/-- what `candidateTablesForCompaction` concludes from the reader of a table without metadata file: a candidate by
SIZE for every positive size limit (reported total 0), never by tombstone ratio (reported record count 0) -/
theorem v0_reader_candidate (o : DBM.Opts) (r : SST.V0.Reader) (h : r.metaData = {}) :
    SST.V0.candidateV0 o r = decide (0 < o.maxSize) :=
  Proofs.V0.candidateV0_no_meta o r h

/-- A database whose table list contains a version-0 table survives every compaction cycle: the three facts side by
side.  The statement itself does not relate `s.tables` to `kvs`: (1) is about the table's bytes alone, (2) and (3) hold
for ANY layer state `s`, in particular one whose table list holds the legacy table as the layer `normKVs kvs` that (1)
says the compaction reads.
For the version-0 table holding `kvs` (layout `cfg`, metadata absent or version 0), ANY layer state `s`, ANY selection
`raw` the candidate tests may have produced, and every key `k`:
 (1) the compaction reads from the legacy table exactly its cells;
 (2) `Get k` and the abstract map are the same before and after the cycle;
 (3) if the cycle does anything, the merged table binds every key to its newest binding inside the selected run —
     so a record of the legacy table that no newer selected table rebinds is in the merged table (non-empty values
     as they are; tombstones / empty values dropped when the run starts at the oldest table, carried as EMPTY
     otherwise). -/
theorem v0_table_survives_compaction (comps : Nat → Compression) (cfg : SST.V0.Cfg) (kvs : List KV)
    (metaf : Option Bytes) (md : Meta) (hc : SST.V0.CfgOk comps cfg) (hf : SST.V0.FitsV0 cfg kvs)
    (hs : StrictAsc bytesCmp kvs) (hm : SST.V0.MetaV0 metaf md) (bloom : Option (Bytes → Bool))
    (s : State) (raw : List Bool) (k : Key) :
    (SST.V0.mergeInputV0 comps (SST.V0.filesOf cfg kvs metaf) bloom =
        some (.ok (Merge.inputOf ((SST.V0.normKVs kvs).map normKV))) ∧
      SST.V0.cellsOf ((SST.V0.normKVs kvs).map normKV, .done) = SST.V0.normKVs kvs) ∧
    (get (compactStepSel s raw).1 k = get s k ∧ abs (compactStepSel s raw).1 k = abs s k) ∧
    (compactStepSel s raw = (s, []) ∨
      ∃ pre t0 sel' post merged, s.tables = pre ++ (t0 :: sel') ++ post ∧
        (compactStepSel s raw).1 = { s with tables := pre ++ [merged] ++ post } ∧
        (∀ k', Layer.get merged.cells k' = Proofs.DB.mergeVal (pre.length == 0) (tablesGet (t0 :: sel') k')) ∧
        (∀ older t newer, t0 :: sel' = older ++ t :: newer → ∀ k' v, v ≠ [] →
          Layer.get t.cells k' = some (some v) → (∀ u ∈ newer, Layer.get u.cells k' = none) →
          Layer.get merged.cells k' = some (some v))) := by
  obtain ⟨hin, _, hcells⟩ := v0_merge_input comps cfg kvs metaf md hc hf hs hm bloom
  exact ⟨⟨hin, hcells⟩, compactSel_preserves_reads s raw k, (compactSel_records_reach_merged s raw).imp_right
    fun ⟨pre, t0, sel', post, merged, h1, h2, _, _, h5, _, h7⟩ => ⟨pre, t0, sel', post, merged, h1, h2, h5, h7⟩⟩

/-- non-vacuity: the hypotheses about the table are those of `C03.V0.v0_table_reads_as_map_slice` and are
instantiated in Props/C03_V0.lean (`toyCfgA/B/C`, `toyKvs`); here only the metadata hypothesis, for a table without
metadata file -/
example : SST.V0.MetaV0 none {} := Proofs.V0.metaV0_none

end SST.C06.V0
