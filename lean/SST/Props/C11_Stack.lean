/-
C11, SYSTEM-LEVEL HALF, for the composed byte-level model (L7): "If reading any input record or writing any
output record fails while tables are merged, compacted or a memstore is flushed, the operation returns an error
(or the process stops); it never reports success for an output that is missing or misrepresents records.
Consequently a compaction whose output is incomplete is never installed in place of its inputs."

Model: SST/Model/StackFault.lean — `flushStepF` / `compactStepF` = the flush / compaction steps of
SST/Model/Stack.lean where every `WriteNext` may carry a fault (`Fault.data` / `Fault.index`, the faults of the
byte-level writer `SstW`), `SSTableStreamWriter.Close` may fail at any of its five I/O actions (`closeErrs`:
index close and data close joined, bloom file, metadata write, deferred metadata file close — as coded every
one of them ends up in the returned error), and every input scanner of a compaction may fail at a chosen `Next`
call (`FInput.failAt`, C11's fallible inputs).  A memstore iterator reads memory and cannot fail.
"Returns an error" = the step is `.error _` — as coded the flusher / compactor goroutine then panics (or the
hook returns the error); no new state exists: `stateAfter` is the old state.
Lemmas: SST/Proofs/StackFault.lean.  The merger half (C11.mergeCompact_fault_reported), C15 (`call_results`:
what a faulty `WriteNext` answers) and the L7 refinement (`compact_sim`, `flush_sim`) are used as black boxes.

Quantification: ANY state for the "fault ⇒ error" statements (no invariant needed), ANY fault lists; the
"success ⇒ complete and correct output" statements are for states related to a layer state (`Rel`, which
`SST.StackRefine.stack_refines_layers` establishes for every reachable state) under the explicit hypotheses of
L7 (`ParamsOk`: lawful compressors, bloom filter without false negatives; sizes fit 64 bits).
-/
import SST.Proofs.StackFault
import SST.Proofs.DBInv
namespace SST.C11.Stack
open SST SST.Stack SST.DBM SST.Proofs.Stack Generated

/-- `Close` returns nil exactly when none of its five I/O actions fails. -/
theorem close_error_iff (cf : CloseFault) :
    closeErrs cf = [] ↔ cf = {} := by
  obtain ⟨a, b, c, d, e⟩ := cf
  cases a <;> cases b <;> cases c <;> cases d <;> cases e <;> simp [closeErrs]

/-- FLUSH.  In ANY state in which a flush has work to do (a store was handed over and is not empty): a fault
attached to one of the `WriteNext` calls the flush issues (data append or index append; position `i` below the
number of entries of the store), or any failing I/O action of the writer's `Close`, makes the flush step return
an error; the live tables (and the whole state) are what they were — no table is added (by definition: an error
step yields no new state, `stateAfter`). -/
theorem flush_fault_reported (P : Params) (ff : FlushFaults) (c : SST.Stack.State)
    (hp : c.flushPending = true) (hn : c.r.sl.size ≠ 0)
    (hit : (∃ i, i < ((Mem.flushCalls c.r true).getD []).length ∧ ff.writes.getD i .none ≠ .none) ∨
      closeErrs ff.close ≠ []) :
    (∃ f, flushStepF P ff c = .error f) ∧ stateAfter c id (flushStepF P ff c) = c ∧
      (stateAfter c id (flushStepF P ff c)).tables = c.tables := by
  obtain ⟨f, hf⟩ := (flushF_spec P ff c).fails ⟨hp, hn, hit⟩
  rw [hf]
  exact ⟨⟨f, rfl⟩, rfl, rfl⟩

/-- FLUSH, success is never reported for a missing or misrepresented output: a flush step that succeeds under
ANY fault assignment hit no fault — it IS the fault-free flush step (any state); and in a state related to a
layer state the table it added decodes to exactly the flushed memstore (`Rel` with `DBM.flushStep`: files =
`tableOf` the store's entries, tombstones included). -/
theorem flush_success_complete (P : Params) (hP : ParamsOk P) (ff : FlushFaults) (c c' : SST.Stack.State)
    (hok : flushStepF P ff c = .ok c') :
    SST.Stack.flushStep P c = .ok c' ∧
    ∀ s, Rel P c s → FitsMem P c.r → Rel P c' (DBM.flushStep s) := by
  have h1 := (flushF_spec P ff c).ok hok
  refine ⟨h1, ?_⟩
  intro s hr hf
  obtain ⟨c'', h2, h3⟩ := flush_sim hP hr hf
  rw [h1] at h2
  cases h2
  exact h3

/-- COMPACTION, faults are reported and the incomplete output is NEVER installed.  In ANY state and for ANY
fault assignment:
 (1) if the cycle has selected tables and opened their scanners (`compactSel`) and some scanner has a fault that
     a complete merge consumes (`endErr ≠ none` ⇔ the failing `Next` call is one of the `items.length + 1` calls,
     see `C11.endErr_ne_none_iff`), the cycle returns an error;
 (2) if the merge produced its records (`compactPlanF`) and a `WriteNext` among them carries a fault, or any I/O
     action of `Close` fails, the cycle returns an error;
 (3) whenever the cycle returns an error, the database afterwards is the database before: the same live tables
     (nothing replaced, nothing removed) and every `Get` of every key answers the same (by definition: an error
     step yields no new state, `stateAfter`). -/
theorem compaction_fault_not_installed (P : Params) (cf : CompactFaults) (c : SST.Stack.State) :
    (∀ si, compactSel P c = .ok (some si) → (∃ i ∈ attachReads si.scans cf.reads, i.endErr ≠ none) →
      ∃ f, compactStepF P cf c = .error f) ∧
    (∀ pl, compactPlanF P cf.reads c = .ok (some pl) →
      ((∃ i, i < pl.out.length ∧ cf.writes.getD i .none ≠ .none) ∨ closeErrs cf.close ≠ []) →
      ∃ f, compactStepF P cf c = .error f) ∧
    (∀ f, compactStepF P cf c = .error f →
      stateAfter c (·.1) (compactStepF P cf c) = c ∧
      (stateAfter c (·.1) (compactStepF P cf c)).tables = c.tables ∧
      ∀ k, SST.Stack.get (stateAfter c (·.1) (compactStepF P cf c)) k = SST.Stack.get c k) := by
  refine ⟨fun si hs h => compactF_read_fault P cf c si hs h,
    fun pl hp h => (compactF_spec P cf c).fails ⟨pl, hp, h⟩, ?_⟩
  intro f hf
  rw [hf]
  exact ⟨rfl, rfl, fun _ => rfl⟩

/-- COMPACTION, the converse: in a state related to a layer state, a cycle that reports success under ANY fault
assignment consumed no fault — it IS the fault-free cycle — and therefore (L7 refinement) selected what the
layer model selects, and the table installed in place of its inputs decodes to exactly `DBM.mergeRun` of the
selected tables (latest wins; tombstones dropped only when the run starts at the oldest table); every `Get` of
every key answers as before the cycle. -/
theorem compaction_success_complete (P : Params) (hP : ParamsOk P) (cf : CompactFaults)
    (c c' : SST.Stack.State) (gens : List Nat) (s : DBM.State) (h : Rel P c s) (hfit : StepOk P c .compact)
    (hok : compactStepF P cf c = .ok (c', gens)) :
    SST.Stack.compactStep P c = .ok (c', gens) ∧
    gens = (DBM.compactStep s (sizesOf c)).2 ∧ Rel P c' (DBM.compactStep s (sizesOf c)).1 ∧
    ∀ k, SST.Stack.get c' k = SST.Stack.get c k := by
  have h1 := compactF_ok_eq h cf (c', gens) hok
  obtain ⟨c'', h2, h3⟩ := compact_sim hP h hfit
  rw [h1] at h2
  cases h2
  refine ⟨h1, rfl, h3, ?_⟩
  intro k
  rw [get_sim h3 k, get_sim h k, (Proofs.DB.compactStep_retabled s (sizesOf c)).get k]

/-- NO FAULTS: with the empty fault assignment the generalised steps are the steps of
SST/Model/Stack.lean (errors embedded by `liftFail`), so `stack_refines_layers`, `stack_refines_map`,
`stack_no_step_fails` are statements about them. -/
theorem fault_free_is_existing_step (P : Params) (c : SST.Stack.State) :
    flushStepF P {} c = liftFail (SST.Stack.flushStep P c) ∧
    compactStepF P {} c = liftFail (SST.Stack.compactStep P c) :=
  ⟨(flushF_spec P {} c).same fun h => not_hit_nil _ h.2.2, by
    rw [compactStep_eq, ← compactPlanF_nil]
    exact (compactF_spec P {} c).same fun ⟨_, _, h⟩ => not_hit_nil _ h⟩

/-! ## non-vacuity: concrete fault positions -/

def errOf {ε α : Type} : Except ε α → Option ε
  | .ok _ => none
  | .error e => some e

def stateOf (steps : List SST.Stack.Step) : SST.Stack.State :=
  match SST.Stack.runState plainParams {} steps with
  | .ok c => c
  | .error _ => {}

/-- a store with two entries has been handed to the flusher -/
def cFlush : SST.Stack.State :=
  stateOf [.reopen {}, .putS [1] [2] false 1, .putS [5] [6] false 1, .rotate]

/-- the conjunction of the examples below about `cFlush`; they are its projections -/
theorem cFlush_faults :
    (cFlush.flushPending = true ∧ cFlush.r.sl.size = 2 ∧
      ((Mem.flushCalls cFlush.r true).getD []).length = 2) ∧
    errOf (flushStepF plainParams { writes := [.none, .index] } cFlush) = some (.base (.flushWrite .io)) ∧
    errOf (flushStepF plainParams { writes := [.data] } cFlush) = some (.base (.flushWrite .io)) ∧
    errOf (flushStepF plainParams { close := { dataClose := true, metaClose := true } } cFlush) =
      some (.flushClose [.dataClose, .metaClose]) ∧
    errOf (flushStepF plainParams { writes := [.none, .none, .data] } cFlush) = none := by decide +kernel

example : cFlush.flushPending = true ∧ cFlush.r.sl.size = 2 ∧
    ((Mem.flushCalls cFlush.r true).getD []).length = 2 := cFlush_faults.1

/-- the index append of the SECOND `WriteNext` fails -/
example : errOf (flushStepF plainParams { writes := [.none, .index] } cFlush) = some (.base (.flushWrite .io)) :=
  cFlush_faults.2.1
/-- the data append of the first one fails -/
example : errOf (flushStepF plainParams { writes := [.data] } cFlush) = some (.base (.flushWrite .io)) :=
  cFlush_faults.2.2.1
/-- all writes succeed, the data writer's `Close` and the metadata file's `Close` fail -/
example : errOf (flushStepF plainParams { close := { dataClose := true, metaClose := true } } cFlush) =
    some (.flushClose [.dataClose, .metaClose]) := cFlush_faults.2.2.2.1
/-- a fault position that is never reached (the flush issues two calls) is not an error -/
example : errOf (flushStepF plainParams { writes := [.none, .none, .data] } cFlush) = none := cFlush_faults.2.2.2.2

/-- three tables; the cycle selects tables 2 and 3 (one record each) -/
def cCompact : SST.Stack.State :=
  stateOf [.reopen { threshold := 1, maxSize := 0 }, .putS [1] [2] false 1, .putS [5] [6] false 4, .rotate, .flush,
    .delS [1] 2, .rotate, .flush, .delS [5] 1, .rotate, .flush]

/-- the conjunction of the examples below about `cCompact`; they are its projections -/
theorem cCompact_faults :
    ((cCompact.tables.map (·.gen)) = [1, 2, 3] ∧
      (match compactPlanF plainParams [] cCompact with
       | .ok (some pl) => some (pl.gens, pl.out) | _ => none) = some ([2, 3], [([1], some []), ([5], some [])])) ∧
    errOf (compactStepF plainParams { reads := [none, some 0] } cCompact) = some (.base (.compactMerge .io)) ∧
    errOf (compactStepF plainParams { reads := [some 1] } cCompact) = some (.base (.compactMerge .io)) ∧
    errOf (compactStepF plainParams { writes := [.none, .data] } cCompact) = some (.base (.compactWrite .io)) ∧
    errOf (compactStepF plainParams { close := { metaWrite := true } } cCompact) = some (.compactClose [.metaWrite]) ∧
    (match compactStepF plainParams { reads := [some 2], writes := [.none, .none, .index] } cCompact with
      | .ok (c', gens) => some (c'.tables.map (·.gen), gens) | .error _ => none) = some ([1, 2], [2, 3]) := by
  decide +kernel

example : (cCompact.tables.map (·.gen)) = [1, 2, 3] ∧
    (match compactPlanF plainParams [] cCompact with
     | .ok (some pl) => some (pl.gens, pl.out) | _ => none) = some ([2, 3], [([1], some []), ([5], some [])]) :=
  cCompact_faults.1

/-- the scanner of the second selected table fails on its first `Next` -/
example : errOf (compactStepF plainParams { reads := [none, some 0] } cCompact) = some (.base (.compactMerge .io)) :=
  cCompact_faults.2.1
/-- … on the call that would have returned Done (the record before it was delivered) -/
example : errOf (compactStepF plainParams { reads := [some 1] } cCompact) = some (.base (.compactMerge .io)) :=
  cCompact_faults.2.2.1
/-- the second `WriteNext` of the merge fails at the data append -/
example : errOf (compactStepF plainParams { writes := [.none, .data] } cCompact) = some (.base (.compactWrite .io)) :=
  cCompact_faults.2.2.2.1
/-- the metadata write of `Close` fails -/
example : errOf (compactStepF plainParams { close := { metaWrite := true } } cCompact) =
    some (.compactClose [.metaWrite]) := cCompact_faults.2.2.2.2.1
/-- no fault reached: the cycle succeeds and installs table 2 in place of tables 2 and 3 -/
example : (match compactStepF plainParams { reads := [some 2], writes := [.none, .none, .index] } cCompact with
    | .ok (c', gens) => some (c'.tables.map (·.gen), gens) | .error _ => none) = some ([1, 2], [2, 3]) :=
  cCompact_faults.2.2.2.2.2

end SST.C11.Stack
