/-
C19 — Descriptors, mappings and goroutines stay bounded and are released by Close.

PARTIAL BY NATURE.  What is proved here is the BOOKKEEPING of the handle model `SST.HM` (Model/Handles.lean):
for every program, which descriptors / mappings / goroutines the library's code paths have opened and not yet
closed.  What a theorem about the model cannot carry, and what the `handles` correspondence stream observes
instead on every run (`/proc/self/fd`, `/proc/self/maps`, goroutine profile, compared with the model after
every step):
  * that `close(2)`/`munmap(2)` really drop the kernel's descriptor-table entry / VMA, and that nothing else
    in the process (runtime, dependencies) keeps a descriptor below the directory;
  * finalizers: `os.File` and `mmap.ReaderAt` release a LEAKED handle when the garbage collector gets to it,
    at an unpredictable time (the stream switches the collector off while a case runs);
  * the goroutine scheduler: the model says which goroutines `Open` starts and `Close` joins, not when they run;
  * error paths of the library (a failing `Open`/`Close`) and crash recovery (`Open` on a directory that a crash
    left: replay + flush) are outside the layer model;
  * overlapping transient sets: the model runs one step at a time, so the peaks below are per step, while in the code
    the flusher (three writer descriptors) can run during the merge of a compaction cycle, which holds no db lock.

FULL STATEMENT (programs × schedules): while a database is open the number of open descriptors and mappings under
its directory is at most #live tables + a small constant, however many flush/compaction cycles happened; after
`Close` none remain and both goroutines have ended; closing a table reader releases everything it opened incl.
scanners.  Proved below for the model at QUIESCENT points (between steps) with the constant 1 (the WAL file; +2
goroutines), for every step list; DURING a step the model holds transient handles: `compaction_peak_bounded`
(a compaction cycle over k tables holds at most 2k + 4 more than the steady set; that is one above the model's exact value
2k + 3 — three writer descriptors, one reader mapping and one scanner per input — because `Proofs.Handles.Bounded` adds
natural numbers: a phase that closes handles counts as leaving as many as before, and the one transient descriptor
opened after it comes on top) and `step_peak_bounded` (any step).
-/
import SST.Proofs.Handles
namespace SST.C19
open SST SST.DBM SST.HM

/-- MAIN THEOREM 1 — for EVERY list of steps (client calls through both API flavours,
rotations, flush completions, compaction cycles with any reported sizes, `Close`, `Open` with any options and
with the compaction goroutine on or off, in any order and number): every open handle is the current WAL file,
the data mapping of a LIVE table, the flusher or (if enabled) the compaction goroutine; hence at most
#live tables + 1 descriptors/mappings and at most #live tables + 3 handles in total — independent of how many
flush and compaction cycles the list contains. -/
theorem handles_bounded (steps : List HStep) :
    let s := hrun {} steps
    (∀ h ∈ s.handles,
        h = .walFile s.walNo ∨ (∃ t ∈ s.db.tables, h = .tableMmap t.gen) ∨ h = .goroutine .flusher ∨
          (s.ticker = true ∧ h = .goroutine .ticker)) ∧
      (s.handles.filter (fun h => !isGoroutine h)).length ≤ s.db.tables.length + 1 ∧
      s.handles.length ≤ s.db.tables.length + 3 := by
  intro s
  have hp := Proofs.Handles.handles_perm_steady steps
  refine ⟨fun h hm => Proofs.Handles.steady_mem s h (hp.mem_iff.1 hm), ?_, Proofs.Handles.handles_length_le steps⟩
  rw [(hp.filter _).length_eq]
  exact Proofs.Handles.steady_files_le s

/-- the exact form: the open handles ARE the steady multiset (each live table is mapped exactly once, there is
exactly one WAL descriptor, each goroutine exists once) -/
theorem handles_exact (steps : List HStep) :
    (hrun {} steps).handles.Perm (steady (hrun {} steps)) :=
  Proofs.Handles.handles_perm_steady steps

/-- MAIN THEOREM 2 — after `Close`, whatever came before: no descriptor, no mapping and
no goroutine is left … -/
theorem close_releases_all (steps : List HStep) :
    (hrun {} (steps ++ [.op .close])).handles = [] := by
  apply Proofs.Handles.not_usable_handles_nil
  rw [Proofs.Handles.hrun_append]
  exact Proofs.Handles.close_not_usable _

/-- … so the directory can be opened again by the same process: the next `Open` (any options, compaction
goroutine on or off) holds exactly WAL file 0, one mapping per table and its own goroutines. -/
theorem reopen_after_close (steps : List HStep) (o : Opts) (ticker : Bool) :
    let s := hrun {} (steps ++ [.op .close])
    (hrun {} (steps ++ [.op .close] ++ [if ticker then .openTicker o else .op (.reopen o)])).handles.Perm
      (.walFile 0 :: (s.db.tables.map (·.gen)).map Handle.tableMmap ++ goroutines ticker) := by
  intro s
  have hp := Proofs.Handles.handles_perm_steady (steps ++ [.op .close] ++ [if ticker then .openTicker o else .op (.reopen o)])
  have e := Proofs.Handles.hrun_append {} (steps ++ [.op .close]) [if ticker then .openTicker o else .op (.reopen o)]
  rw [e] at hp ⊢
  have hn : usable s.db = false := by
    show usable (hrun {} (steps ++ [.op .close])).db = false
    rw [Proofs.Handles.hrun_append]; exact Proofs.Handles.close_not_usable _
  have := Proofs.Handles.reopen_steady s hn o ticker
  simp only [hrun] at hp ⊢
  rw [this] at hp
  exact hp

/-- MAIN THEOREM 3 — a table reader on any table, ANY sequence of
`NewSSTableReader` / `Scan` / `ScanStartingAt`·`ScanRange` / scans iterated to the end / scans abandoned /
earlier `Close` calls, then `Close`: nothing is left (no scanner descriptor, no mapping).  Of these steps only
`NewSSTableReader`, `Scan` and `Close` open or close anything, in the model as in the code. -/
theorem reader_close_releases_scanners (gen : Nat) (steps : List RStep) :
    (rrun { gen := gen } (steps ++ [.closeReader])).handles = [] := by
  rw [Proofs.Handles.rrun_append]
  exact Proofs.Handles.close_reader_nil _
    (Proofs.Handles.rinv_run steps { gen := gen } ⟨fun _ => rfl, fun _ => Nat.zero_le _⟩).1

/-- the quirk next to it (documented, outside the property): `Scan()` does not check for a closed reader, a scan
after `Close` opens a descriptor that stays until `Close` is called once more -/
theorem scan_after_close_stays_open :
    (rrun { gen := 7 } [.newReader, .scan, .closeReader, .scan]).handles = [.scanner 7 1] ∧
    (rrun { gen := 7 } [.newReader, .scan, .closeReader, .scan, .closeReader]).handles = [] := by
  decide +kernel

/-- transient handles: WHILE a step runs, never more than the handles before it plus everything the step opens.
For a flush that is at most 8 (`flush_opens_le`), for a compaction cycle of k selected tables at most 5k + 9
(`compaction_opens_le`; crude: every handle the cycle ever opens is counted as if none was closed before the end; read off
the code, the model's exact peak is 2k + 3: one reader mapping and one scanner per input, three writer descriptors; see
the example below). -/
theorem step_peak_bounded (steps : List HStep) (st : HStep) :
    let s := hrun {} steps
    peak s.handles (phasesOf s st) ≤ s.db.tables.length + 3 + opens (phasesOf s st) := by
  intro s
  have h1 := Proofs.Handles.peak_le_opens s.handles (phasesOf s st)
  have h2 : s.handles.length ≤ s.db.tables.length + 3 := Proofs.Handles.handles_length_le steps
  omega

/-- sharper, for the step with the largest transient set: while a compaction cycle runs in any reachable state,
at most (#live tables + 3) + 2k + 4 handles are open, k = number of selected tables (with k ≤ #live tables, which the
statement does not say, at most 3·#live + 7) -/
theorem compaction_peak_bounded (steps : List HStep) (sizes : List Nat) :
    let s := hrun {} steps
    peak s.handles (phasesOf s (.op (.compact sizes)))
      ≤ s.db.tables.length + 3 + (2 * (compactStep s.db sizes).2.length + 4) := by
  intro s
  have h2 : s.handles.length ≤ s.db.tables.length + 3 := Proofs.Handles.handles_length_le steps
  show peak s.handles (if usable s.db then compactPhases (compactStep s.db sizes).2 else []) ≤ _
  split
  · cases hsel : (compactStep s.db sizes).2 with
    | nil => simp [compactPhases, peak]; omega
    | cons first rest =>
      have := Proofs.Handles.peak_compactPhases s.handles first rest
      simp only [List.length_cons]; omega
  · simp [peak]; omega

theorem flush_opens_le (d : State) : opens (flushPhases d) ≤ 8 := by
  unfold flushPhases; split <;> simp [opens, writerOpen, writerClose, readerOpen]

theorem compaction_opens_le (sel : List Nat) : opens (compactPhases sel) ≤ 5 * sel.length + 9 := by
  cases sel with
  | nil => simp [compactPhases, opens]
  | cons first rest =>
    simp only [compactPhases, Proofs.Handles.opens_append, Proofs.Handles.opens_inputs]
    simp [opens, writerOpen, writerClose, readerOpen]
    omega

set_option maxRecDepth 10000 in
/-- a session with two flushes, a merging compaction, a size-triggered rotation, close and re-open with the
compaction goroutine: the handle multiset after every prefix -/
example :
    let prog : List HStep :=
      [.op (.reopen { threshold := 0, maxSize := 1000 }), .op (.putS [1] [2] false), .op .rotate, .op .flush,
       .op (.putS [3] [4] true), .op .flush, .op (.compact [50, 50]), .op .close, .openTicker {}]
    (List.range 10).map (fun n => (hrun {} (prog.take n)).handles) =
      [[],
       [.goroutine .flusher, .walFile 0],
       [.goroutine .flusher, .walFile 0],
       [.walFile 1, .goroutine .flusher],
       [.tableMmap 1, .walFile 1, .goroutine .flusher],
       [.walFile 2, .tableMmap 1, .goroutine .flusher],
       [.tableMmap 2, .walFile 2, .tableMmap 1, .goroutine .flusher],
       [.tableMmap 1, .walFile 2, .goroutine .flusher],
       [],
       [.goroutine .flusher, .goroutine .ticker, .walFile 0, .tableMmap 1]] := by
  decide +kernel

set_option maxRecDepth 10000 in
/-- `close_releases_all` / `handles_bounded` speak of states that really hold handles:
3 live tables, 6 handles, and the peak of the following compaction cycle of all three (3 writer descriptors + one reader mapping and one
scanner per input = 9 more than before) -/
example :
    let prog : List HStep :=
      [.openTicker { threshold := 0, maxSize := 1000 }, .op (.putS [1] [2] true), .op (.putS [1] [3] true),
       .op (.putS [2] [3] true), .op .flush]
    (hrun {} prog).handles.length = 6 ∧ (hrun {} prog).db.tables.length = 3 ∧
      (compactStep (hrun {} prog).db [10, 10, 10]).2 = [1, 2, 3] ∧
      peak (hrun {} prog).handles (phasesOf (hrun {} prog) (.op (.compact [10, 10, 10]))) = 15 ∧
      (hrun {} (prog ++ [.op (.compact [10, 10, 10])])).handles.length = 4 := by
  decide +kernel

/-- a reader with three scanners (one complete, one abandoned) and a range scan holds 4 handles before `Close` -/
example :
    (rrun { gen := 5 } [.newReader, .scan, .scan, .finishScan, .scanAt, .scan, .abandonScan]).handles
      = [.scanner 5 2, .scanner 5 1, .scanner 5 0, .tableMmap 5] := by
  decide +kernel

end SST.C19
