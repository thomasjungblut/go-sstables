/-
C07 (order tie) — WAL appender / replayer / record writer: the ORDER of write, flush, fsync, close, create in the Go
source TODAY (table regenerated by tools/orderfacts before every proof build, see Props/C02_Order.lean).
The model: SST/Model/Wal.lean (events) and the WAL events of SST/Model/FS.lean (`logEvs`, `rotateEvs`).
-/
import SST.Spec.Order
namespace SST.C07.Order
open SST SST.OrderSpec SST.Generated.Order SST.FS SST.DBM

theorem listed_functions_found :
    (["Appender.Append", "Appender.AppendSync", "Appender.Rotate", "Appender.Close", "wal.checkSizeAndRotate",
      "wal.setupNextWriter", "wal.NewAppender", "Replayer.Replay", "Replayer.replayFile", "FileWriter.Open", "FileWriter.Write",
      "FileWriter.WriteSync", "FileWriter.Close", "recordio.writeFileHeader"].all foundFn) = true := by decide +kernel

/-- C07-m2: `WriteSync` = write the record (into the buffer), flush the buffer, fsync the file — each UNCONDITIONALLY
(after the DirectIO guard), in this order, nothing else in between -/
theorem sync_append_flushes_then_fsyncs :
    let xs := itemsOf "FileWriter.WriteSync"
    acts xs = [.recWrite, .flushBuffer, .fsync] ∧
    [Label.recWrite, .flushBuffer, .fsync].all (fun l => unconditional l xs) = true ∧
    -- ONE conditional, the first thing in the function, a guard that only returns (the DirectIO check; which field it
    -- tests is not the point here)
    (xs.filterMap fun | .ifBegin c => some c | _ => none).length = 1 ∧
    ((xs.take 1).filterMap fun | .ifBegin _ => some () | _ => none) = [()] ∧ (xs.drop 1).take 2 = [.ret, .ifEnd] ∧
    noOther xs = true := by decide +kernel

/-- `AppendSync` goes through `WriteSync`, `Append` through the buffered `Write` -/
theorem append_sync_uses_write_sync :
    acts (itemsOf "Appender.AppendSync") = [.checkSizeAndRotate, .recWriteSync] ∧
    acts (itemsOf "Appender.Append") = [.checkSizeAndRotate, .recWrite] ∧
    noOther (itemsOf "Appender.AppendSync") = true ∧ noOther (itemsOf "Appender.Append") = true := by decide +kernel

/-- a record: (compressed,) header, then payload — into the buffered writer, no flush of its own -/
theorem record_header_before_payload :
    let xs := itemsOf "FileWriter.Write"
    inOrder [.compress, .writeRecordHeader, .writePayload] xs = true ∧ unconditional .writeRecordHeader xs = true ∧
    occurs .flushBuffer xs = false ∧ occurs .fsync xs = false ∧ noOther xs = true := by decide +kernel

/-- `Open` writes the file header and flushes it at once (unless DirectIO): a WAL file is "created" (`walCreate`, by the
writer factory) and then gets its header (`walHeader`) -/
theorem writer_open_writes_header_then_flushes :
    let xs := itemsOf "FileWriter.Open"
    inOrder [.writeHeader, .flushBuffer] xs = true ∧
    condsAround .flushBuffer [] xs = [["!recordio.FileWriter.alignedBlockWrites"]] ∧
    acts (itemsOf "recordio.writeFileHeader") = [.bufWriteHeader] ∧ noOther xs = true := by decide +kernel

/-- `Close` flushes the buffer before it (truncates and) closes the file; since 855b3b1 the file is closed on EVERY
path: in the error branch of the flush, in the error branch of the truncation, and at the end — nothing follows the last
close, and the flush precedes every close -/
theorem close_flushes_before_closing_file :
    let xs := itemsOf "FileWriter.Close"
    acts xs = [.flushBuffer, .closeFile, .truncate, .closeFile, .closeFile] ∧
    allBefore .flushBuffer .closeFile xs = true ∧ unconditional .flushBuffer xs = true ∧
    unconditional .closeFile xs = true ∧ lastAmong .closeFile [.flushBuffer, .truncate] xs = true ∧
    -- the three closes: in the error branch of the flush; in the error branch of the truncation (itself under the ONE
    -- condition that decides whether to truncate — whatever it compares); unconditionally at the end
    (condsAround .closeFile [] xs).map (·.map coarse) = [["errNonNil"], ["errNonNil", "_"], []] ∧
    (condsAround .truncate [] xs).map (·.map coarse) = [["_"]] ∧
    noOther xs = true := by decide +kernel

/-- C13-m1 as seen from the WAL: rotation closes the current file before the next one is created and opened; since
a9ebc7d a file writer that failed to open is closed again (error branch only), nothing else was added -/
theorem rotate_closes_before_creating_next :
    acts (itemsOf "Appender.Rotate") = [.closeCurrentWalWriter, .setupNextWriter] ∧
    acts (itemsOf "wal.setupNextWriter") = [.walWriterFactory, .openWalWriter, .closeFailedWalWriter] ∧
    condsAround .closeFailedWalWriter [] (itemsOf "wal.setupNextWriter") = [["errNonNil"]] ∧
    noOther (itemsOf "wal.setupNextWriter") = true ∧
    acts (itemsOf "wal.checkSizeAndRotate") = [.walRotate] := by decide +kernel

/-- replay visits the files in name order: sorted, every file from index 0 -/
theorem replay_files_in_name_order :
    -- the file names: a local string list (`‹[]string›`), sorted by `sort.Strings` right before the loop over it
    inSortedFullLoop .replayFile "‹[]string›" (itemsOf "Replayer.Replay") = true ∧
    allBefore .walkDir (.sortStrings "‹[]string›") (itemsOf "Replayer.Replay") = true ∧
    noOther (itemsOf "Replayer.Replay") = true := by decide +kernel

/-- 17d987b: each file is closed again when its replay ends — the close is deferred right after the reader exists,
before `Open` can fail —, so at most one log file is open at a time -/
theorem replay_closes_each_file :
    let xs := itemsOf "Replayer.replayFile"
    acts (deferredBlocks xs).flatten = [.walReaderClose] ∧
    (xs.take 4) = [.act .walReaderFactory, .deferBegin, .act .walReaderClose, .deferEnd] ∧
    inOrder [.walReaderFactory, .walReaderOpen, .walReadNext, .processRecord, .walReaderClose] (exitOrder xs) = true ∧
    occurs .walReaderFactory (itemsOf "Replayer.Replay") = false ∧ noOther xs = true := by decide +kernel

/-- records are processed in file order: read, (end checks,) process, inside one loop -/
theorem replay_reads_then_processes :
    let b := loopBody "" (itemsOf "Replayer.replayFile")
    firstIdx .walReadNext b = some 0 ∧ allBefore .walReadNext .processRecord b = true ∧ unconditional .processRecord b = true := by
  decide +kernel

/-- MODEL = SOURCE for the synchronous append at the granularity of the abstract disk: `logEvs` (a write that may reach
the file in two pieces) is the flush inside `WriteSync`; the fsync adds no event (kill-9 model) -/
theorem model_sync_append_order_matches_source :
    srcKinds .table cfgPut "Appender.AppendSync" = some ((logEvs false vOpen (.put [1] [2]) 0 false).1.map kindOf) := by decide +kernel

/-- the C07 part of `model_order_matches_source` -/
theorem model_order_matches_source :
    srcKinds .table cfgPut "Appender.AppendSync" = some ((logEvs false vOpen (.put [1] [2]) 0 false).1.map kindOf) ∧
    srcKinds .table cfgPut "Appender.Rotate" = some (modelKinds (rotateEvs vOpen).1) :=
  ⟨model_sync_append_order_matches_source, by decide +kernel⟩

end SST.C07.Order
