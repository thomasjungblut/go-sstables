/-
C17 — A SimpleDB call that returns an error has no effect; string and byte APIs (of Put and Delete; the model's `Get`
has one flavour) agree.
(The crash-recovery observation point of this property is covered with C02's machinery.)
-/
import SST.Proofs.DB
namespace SST.C17
open SST SST.DBM

/-- Put/PutBytes and Delete/DeleteBytes are the same function of the same bytes -/
theorem api_flavours_agree (s : State) (k v : Bytes) (rot : Bool) :
    putStr s k v rot = putBytes s (some k) (some v) rot ∧ deleteStr s k = deleteBytes s (some k) :=
  Proofs.DB.api_flavours_agree s k v rot

/-- empty or nil keys and values are rejected, as documented, by the byte flavour as well -/
theorem empty_or_nil_rejected (s : State) (k v : GoBytes) (rot : Bool)
    (h : k.getD [] = [] ∨ v.getD [] = []) : putBytes s k v rot = (s, .rejected) :=
  Proofs.DB.empty_or_nil_rejected s k v rot h

/-- any call answered with ErrEmptyKeyValue (`rejected`) or ErrNotOpenedYet / ErrAlreadyClosed (`notOpen`) leaves the
database state — memstores, tables, generation, flags — exactly as it was (the other error answers of this layer:
Get's NotFound, and `Get` changes nothing by definition; `Open`'s ErrAlreadyOpen, which the model does not report:
`reopen` of an open database is a step without answer that returns the state as it is; I/O failures are not modelled
here) -/
theorem rejected_call_no_effect (s : State) (st : Step) (r : Res)
    (hr : (step s st).2.1 = some r) (hbad : r = .rejected ∨ r = .notOpen) : (step s st).1 = s :=
  Proofs.DB.rejected_call_no_effect s st r hr hbad

/-- what a key reads as never changes merely because a rotation, a flush completion or a compaction cycle happened -/
theorem reads_stable_across_flush (steps : List Step) (st : Step) (k : Key)
    (hint : match st with | .rotate | .flush | .compact _ => True | _ => False) :
    abs (step (runState {} steps) st).1 k = abs (runState {} steps) k :=
  Proofs.DB.reads_stable steps st k hint

/-- what a key reads as does not change across a clean restart (`Close`, then `Open` with any options) -/
theorem reads_stable_across_restart (steps : List Step) (o : Opts) (k : Key)
    (hu : (runState {} steps).isOpen = true ∧ (runState {} steps).closed = false) :
    abs (runState {} (steps ++ [.close, .reopen o])) k = abs (runState {} steps) k :=
  Proofs.DB.reads_stable_close_reopen steps o k hu

example : (step (runState {} [.reopen {}]) (.putB none (some [1]) false)).2.1 = some .rejected := by decide

end SST.C17
