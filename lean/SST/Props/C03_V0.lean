/-
C03 (extension) — An SSTable returns exactly what was written: VERSION-0 tables.
Property theorems only; lemmas live in SST/Proofs/SSTableV0.lean, the concrete tables of the evaluations in
SST/Proofs/SSTableV0Examples.lean, the per-record recordio round trips in SST/Proofs/RecordIOLegacy.lean.

A version-0 table (values stored as `DataEntry` protobuf messages, index entries without checksum, metadata file
absent or saying version 0, both recordio files in ANY recordio version 1–4) is still served by the table reader
through a code path of its own (sstable_reader.go `metaData.Version == 0`: `v0DataReader`, `getValueAtOffset`;
sstable_iterator.go `V0SSTableFullScanIterator`).  The repository has no writer for such tables any more: the
reference layout `V0.filesOf` is shown to reproduce the repository's own test tables byte for byte
(`repo_v0_table_v1_layout`, `repo_v0_table_v2_layout`).

Quantification of the read theorems: ALL layouts `cfg` with both recordio versions anywhere in 1..4 and any lawful
compressors (`CfgOk`), ALL strictly ascending key lists with ALL values (nil, empty, marker bytes, …), ANY metadata
file that is absent or parses to a message of version 0 (whatever else it says), any bloom filter without false
negatives, all reader options, all probe keys and range bounds.
What a version-0 table cannot do: tell a nil value from an empty one (both are the empty message and read as nil:
`normKVs`), and notice damage (`v0_damage_not_detected`).
Abstracted, as everywhere in the model: allocations succeed.  This matters for "whatever else the metadata says":
the slice and map loaders use `metadata.NumRecords` as the capacity of a `make` (slice_key_index.go,
map_key_index.go), so a metadata file claiming an absurd record count makes the real loader panic or run out of
memory; the model's loaders do not look at the metadata.
-/
import SST.Proofs.SSTableV0
import SST.Proofs.SSTableV0Examples
namespace SST.C03.V0
open SST Generated SST.V0 SST.Legacy SST.Proofs.Sst SST.Proofs.V0

/-- Slice loader (the default).  `NewSSTableReader` on the version-0 table holding `kvs` succeeds — nothing of the
data file is verified on load, whatever the options say — reports the metadata of the metadata file (`r.md = md`;
the all-zero default when there is no file), and Contains / Get / Scan / ScanStartingAt / ScanRange answer exactly
like the sorted map of `normKVs kvs`, i.e. of `kvs` with nil and empty values both read as nil (`ReadsAsMapV0`:
`NotFound` for absent keys, ascending scans, inclusive bounds, lower > upper rejected, the empty key scanned as
nil, no call changes the index).  With `EnableHashCheckOnReads` the answers are the same: a version-0 index
entry has checksum 0, the reader's "older formats" bypass. -/
theorem v0_table_reads_as_map_slice (comps : Nat → Compression) (cfg : Cfg) (kvs : List KV) (metaf : Option Bytes)
    (md : Meta) (hc : CfgOk comps cfg) (hf : FitsV0 cfg kvs) (hs : StrictAsc bytesCmp kvs) (hm : MetaV0 metaf md)
    (o : ReadOpts) (bloom : Option (Bytes → Bool)) (hb : BloomOk bloom kvs) :
    ∃ r idx, openTableV0 comps .slice o (filesOf cfg kvs metaf) bloom = some (.ok (r, idx)) ∧ r.md = md ∧
      ReadsAsMapV0 comps (fun _ => True) r idx (normKVs kvs) :=
  table_reads_v0 comps cfg kvs metaf md hc hf hs hm .slice trivial o bloom hb

/-- Skip-list loader, for all node heights the random generator may produce. -/
theorem v0_table_reads_as_map_skip (comps : Nat → Compression) (cfg : Cfg) (kvs : List KV) (metaf : Option Bytes)
    (md : Meta) (hc : CfgOk comps cfg) (hf : FitsV0 cfg kvs) (hs : StrictAsc bytesCmp kvs) (hm : MetaV0 metaf md)
    (o : ReadOpts) (bloom : Option (Bytes → Bool)) (hb : BloomOk bloom kvs)
    (heights : List Nat) (hh : ∀ h ∈ heights, 1 ≤ h) :
    ∃ r idx, openTableV0 comps (.skip heights) o (filesOf cfg kvs metaf) bloom = some (.ok (r, idx)) ∧ r.md = md ∧
      ReadsAsMapV0 comps (fun _ => True) r idx (normKVs kvs) :=
  table_reads_v0 comps cfg kvs metaf md hc hf hs hm (.skip heights) hh o bloom hb

/-- PARTIAL (map loader, `Byte4KeyMapper` / `Byte20KeyMapper` = `n` 4 / 20).  Full statement: as for the slice
loader.  Proved: the scans always; Contains / Get for every probe `k` with `PadInjective n keys k` (all keys and
the probe fit `n` bytes and zero padding identifies no two of them).  What is missing is false of the code, exactly
as for current tables (C03 `map_index_pad_collision`): see `v0_map_pad_collision`. -/
theorem v0_table_reads_as_map_map_partial (comps : Nat → Compression) (cfg : Cfg) (kvs : List KV)
    (metaf : Option Bytes) (md : Meta) (hc : CfgOk comps cfg) (hf : FitsV0 cfg kvs) (hs : StrictAsc bytesCmp kvs)
    (hm : MetaV0 metaf md) (o : ReadOpts) (bloom : Option (Bytes → Bool)) (hb : BloomOk bloom kvs)
    (n : Nat) (hn : ∀ p ∈ kvs, p.1.length ≤ n) :
    ∃ r idx, openTableV0 comps (.map n) o (filesOf cfg kvs metaf) bloom = some (.ok (r, idx)) ∧ r.md = md ∧
      ReadsAsMapV0 comps (fun k => PadInjective n (kvs.map (·.1)) k) r idx (normKVs kvs) :=
  table_reads_v0 comps cfg kvs metaf md hc hf hs hm (.map n) (List.forall_mem_map.2 hn) o bloom hb

/-- COUNTEREXAMPLE to the full statement for the map loader on a version-0 table: keys "a" and "a\0", the 4-byte
mapper; `Get("a")` returns the value stored for "a\0" where the sorted map says the value of "a". -/
theorem v0_map_pad_collision :
    (match openTableV0 toyComps (.map 4) {} (filesOf toyCfgA [([97], some [1]), ([97, 0], some [2])] none) none with
     | some (.ok (r, idx)) => (r.get idx [97]).2
     | _ => none) = some (.ok (some [2])) ∧
    specGetRes (normKVs [([97], some [1]), ([97, 0], some [2])]) [97] = .ok (some [1]) := by decide +kernel

/-- the collision input violates the hypothesis of the partial theorem, as it must -/
example : ¬ PadInjective 4 [[97], [97, 0]] [97] := by decide

/-- No bloom-filter false negative on a version-0 table: every stored key is reported present (for any reader
that reads as the map, hence for the slice and skip loaders). -/
theorem v0_contains_no_false_negative (comps : Nat → Compression) (r : V0.Reader) (idx : Index) (kvs : List KV)
    (h : ReadsAsMapV0 comps (fun _ => True) r idx kvs) :
    ∀ p ∈ kvs, r.contains idx p.1 = (idx, some (.ok true)) := by
  intro p hp
  rw [h.contains p.1 trivial, Proofs.specGet_isSome_of_mem bytesCmp Proofs.bytesCmp_refl kvs hp]

/-- A table WITHOUT a metadata file (the oldest tables; also what a current table looks like to the reader when
its meta.pb.bin is missing): the reader works with the default message.  `MetaData()` says numRecords = 0,
totalBytes = 0, nullValues = 0, version = 0, no min / max key — although the table holds `kvs.length` records,
all of which the full scan delivers.  (Consumers of the metadata: `candidateTablesForCompaction`, see
`v0_candidate_by_size_only`.) -/
theorem v0_meta_reported (comps : Nat → Compression) (cfg : Cfg) (kvs : List KV)
    (hc : CfgOk comps cfg) (hf : FitsV0 cfg kvs) (hs : StrictAsc bytesCmp kvs)
    (o : ReadOpts) (bloom : Option (Bytes → Bool)) (hb : BloomOk bloom kvs) :
    MetaV0 none {} ∧
    ∃ r idx, openTableV0 comps .slice o (filesOf cfg kvs none) bloom = some (.ok (r, idx)) ∧
      r.metaData = {} ∧ r.metaData.numRecords = 0 ∧ r.metaData.totalBytes = 0 ∧ r.metaData.nullValues = 0 ∧
      r.metaData.version = 0 ∧ r.metaData.minKey = none ∧ r.metaData.maxKey = none ∧
      ∃ out, r.scan comps idx = .ok (out, .done) ∧ out.length = kvs.length := by
  have _ := hb  -- not used: a version-0 table is opened and scanned without its Bloom filter
  obtain ⟨r, idx, h1, h2, h3⟩ := v0_meta_reported_any comps cfg kvs hc hf hs o bloom
  -- the six figures are fields of `r.metaData = {}`
  exact ⟨metaV0_none, r, idx, h1, h2, by rw [h2], by rw [h2], by rw [h2], by rw [h2], by rw [h2], by rw [h2], h3⟩

/-- The same for ANY files whatsoever: if `NewSSTableReader` takes the version-0 path and succeeds, the metadata
it reports is exactly what the metadata file parses as (the default when absent) and says version 0; the reader
serves from the data file as it is. -/
theorem v0_meta_is_the_file (comps : Nat → Compression) (k : LoaderKind) (o : ReadOpts) (t : Files)
    (bloom : Option (Bytes → Bool)) (r : V0.Reader) (idx : Index)
    (h : openTableV0 comps k o t bloom = some (.ok (r, idx))) :
    TblDir.readMeta t.metaf = .ok r.metaData ∧ r.metaData.version = 0 ∧ r.data = t.data ∧
      (t.metaf = none → r.metaData = {}) := by
  obtain ⟨h1, h2, h3, _⟩ := openTableV0_md comps k o t bloom r idx h
  exact ⟨h1, h2, h3, fun hn => (Except.ok.inj (hn ▸ h1)).symm⟩

/-- What `candidateTablesForCompaction` concludes from a reader without metadata: candidate by SIZE for every
positive size limit (reported total 0), never by tombstone ratio (reported record count 0). -/
theorem v0_candidate_by_size_only (o : DBM.Opts) (r : V0.Reader) (h : r.metaData = {}) :
    candidateV0 o r = decide (0 < o.maxSize) :=
  candidateV0_no_meta o r h

/-- `executeCompaction` opens a new reader (default options, slice loader) and a full scanner on the table: the
merge gets, as an input that cannot fail, exactly the pairs `normKVs kvs` in ascending order (keys as protobuf
returns them), and these stand for the layer `normKVs kvs` (key ↦ value as delivered). -/
theorem v0_merge_input (comps : Nat → Compression) (cfg : Cfg) (kvs : List KV) (metaf : Option Bytes) (md : Meta)
    (hc : CfgOk comps cfg) (hf : FitsV0 cfg kvs) (hs : StrictAsc bytesCmp kvs) (hm : MetaV0 metaf md)
    (bloom : Option (Bytes → Bool)) :
    mergeInputV0 comps (filesOf cfg kvs metaf) bloom = some (.ok (Merge.inputOf ((normKVs kvs).map normKV))) ∧
    Stack.scanInput ((normKVs kvs).map normKV, .done) = Merge.inputOf ((normKVs kvs).map normKV) ∧
    cellsOf ((normKVs kvs).map normKV, .done) = normKVs kvs :=
  ⟨mergeInputV0_table comps cfg kvs metaf md hc hf hs hm bloom, rfl, cellsOf_norm _⟩

/-! ## LIMITATION: version-0 values are served without any verification -/

/-- For ANY data file and ANY offset: on an index entry without checksum — every entry of a version-0 index —
`getValueAtOffset` with `EnableHashCheckOnReads` returns exactly what it returns without: whatever the bytes at the
offset parse as.  (`validateDataFile` on load returns at once for a version-0 reader: `openTableV0` does not look
at `skipHashOnLoad` at all.) -/
theorem v0_hash_check_is_void (dv : Nat) (dc : Compression) (data : Bytes) (off : Nat) (skip : Bool) :
    getValueV0 dv dc data ⟨off, 0⟩ skip = protoValueAt dv dc data off := by
  rw [getValueV0_eq]
  cases protoValueAt dv dc data off with
  | error e => rfl
  | ok v => exact gate_zero skip v

/-- RECORDED LIMITATION, concrete witness.  The version-0 table of ("\x01" ↦ 0a 0b, "\x02" ↦ 14 15) (recordio
V2, no compression, no metadata file), one byte of the first VALUE in data.rio changed (0a → 63): with the default
options (verify on load) and with verification on reads switched on as well, the table opens, `Get("\x01")` returns
the altered value 63 0b as genuine, and the full scan delivers it too. -/
theorem v0_damage_not_detected :
    (filesOf dmgCfg dmgKvs none).data[15]? = some 10 ∧
    dmgFiles = { filesOf dmgCfg dmgKvs none with data := (filesOf dmgCfg dmgKvs none).data.set 15 99 } ∧
    probeGetV0 (fun _ => none) {} (filesOf dmgCfg dmgKvs none) [1] = some (.ok (some [10, 11])) ∧
    probeGetV0 (fun _ => none) {} dmgFiles [1] = some (.ok (some [99, 11])) ∧
    probeGetV0 (fun _ => none) { skipHashOnRead := false } dmgFiles [1] = some (.ok (some [99, 11])) ∧
    probeGetV0 (fun _ => none) { skipHashOnLoad := false, skipHashOnRead := false } dmgFiles [1] =
      some (.ok (some [99, 11])) ∧
    probeScanV0 (fun _ => none) dmgFiles =
      some (.ok ([(some [1], some [99, 11]), (some [2], some [20, 21])], .done)) :=
  ⟨by decide +kernel, rfl, by decide +kernel⟩

/-- CONTRAST: the same pairs in a CURRENT table (`writeTable plainCfg`), the same value byte changed: with the
default options `NewSSTableReader` fails with a checksum error; when only reads are verified the table opens and
`Get("\x01")` fails with a checksum error (C09 in general: `C09.payload_alteration_detected`,
`C09.load_verified_sound`). -/
theorem current_format_detects_same_damage :
    (writeTable plainCfg dmgKvs).data[19]? = some 10 ∧
    dmgCur = { writeTable plainCfg dmgKvs with data := (writeTable plainCfg dmgKvs).data.set 19 99 } ∧
    openTable plainComps .slice {} dmgCur none = .error .checksum ∧
    curOpenErr { skipHashOnLoad := true, skipHashOnRead := false } dmgCur = none ∧
    curGet { skipHashOnLoad := true, skipHashOnRead := false } dmgCur [1] = some (.error .checksum) := by
  have h : (writeTable plainCfg dmgKvs).data[19]? = some 10 ∧ curOpenErr {} dmgCur = some .checksum ∧
      curOpenErr { skipHashOnLoad := true, skipHashOnRead := false } dmgCur = none ∧
      curGet { skipHashOnLoad := true, skipHashOnRead := false } dmgCur [1] = some (.error .checksum) := by
    decide +kernel
  refine ⟨h.1, rfl, ?_, h.2.2⟩
  -- a reader is not comparable: the failed open was evaluated through `curOpenErr`
  have h1 := h.2.1
  unfold curOpenErr at h1
  cases h' : openTable plainComps .slice {} dmgCur none with
  | error e => rw [h'] at h1; exact congrArg Except.error (Option.some.inj h1)
  | ok p => rw [h'] at h1; cases h1

/-- The reference layout reproduces /repo/sstables/test_files/v0_compat/SimpleWriteHappyPathSSTable (index.rio
206 bytes, data.rio 204 bytes, both recordio V1, data snappy-compressed, no metadata file) byte for byte from the
seven pairs 00 00 00 i ↦ 00 00 00 i+1. -/
theorem repo_v0_table_v1_layout : filesOf cfgV1 kvs7 none = repoV1 := repo_v1_layout

/-- The reference layout reproduces v0_compat/SimpleWriteHappyPathSSTableRecordIOV2 (index.rio 99 bytes, data.rio
99 bytes, both recordio V2, data snappy-compressed; meta.pb.bin 14 bytes) byte for byte. -/
theorem repo_v0_table_v2_layout : filesOf cfgV2 kvs7 (some repoV2Meta) = repoV2 := repo_v2_layout

/-- The model on the repository's files (snappy = a decoder for single-literal blocks, which is all these files
contain): full scan = the seven pairs; Get of the first, the last and a middle key (the latter with
`EnableHashCheckOnReads`); an absent key and the empty key are `NotFound`; the V1 table, which has no metadata
file, reports the all-zero default; the V2 table reports numRecords 7, minKey, maxKey and version 0. -/
theorem repo_v0_table_reads :
    (probeScanV0 evalComps repoV1 = some (.ok (kvs7.map normKV, .done)) ∧
     probeGetV0 evalComps {} repoV1 [0, 0, 0, 1] = some (.ok (some [0, 0, 0, 2])) ∧
     probeGetV0 evalComps {} repoV1 [0, 0, 0, 7] = some (.ok (some [0, 0, 0, 8])) ∧
     probeGetV0 evalComps { skipHashOnRead := false } repoV1 [0, 0, 0, 4] = some (.ok (some [0, 0, 0, 5])) ∧
     probeGetV0 evalComps {} repoV1 [0, 0, 0, 8] = some (.error .notFound) ∧
     probeGetV0 evalComps {} repoV1 [] = some (.error .notFound) ∧
     probeMetaV0 evalComps repoV1 = some (.ok {})) ∧
    (probeScanV0 evalComps repoV2 = some (.ok (kvs7.map normKV, .done)) ∧
     probeGetV0 evalComps {} repoV2 [0, 0, 0, 1] = some (.ok (some [0, 0, 0, 2])) ∧
     probeGetV0 evalComps {} repoV2 [0, 0, 0, 7] = some (.ok (some [0, 0, 0, 8])) ∧
     probeGetV0 evalComps { skipHashOnRead := false } repoV2 [0, 0, 0, 4] = some (.ok (some [0, 0, 0, 5])) ∧
     probeGetV0 evalComps {} repoV2 [0, 0, 0, 8] = some (.error .notFound) ∧
     probeGetV0 evalComps {} repoV2 [] = some (.error .notFound) ∧
     probeMetaV0 evalComps repoV2 = some (.ok repoV2Md)) :=
  ⟨by decide +kernel, by decide +kernel⟩

/-- The other loaders on the repository's files: skip list (Get, ScanRange, ScanStartingAt), 4-byte map (Get,
Contains of an absent key). -/
theorem repo_v0_table_other_loaders :
    probeWithV0 (.skip [1, 3, 2]) repoV2 (fun r idx => (r.get idx [0, 0, 0, 5]).2) =
      some (some (.ok (some [0, 0, 0, 6]))) ∧
    probeWithV0 (.skip [1, 3, 2]) repoV2 (fun r idx => (r.scanRange idx [0, 0, 0, 2] [0, 0, 0, 3]).2) =
      some (.ok ([(some [0, 0, 0, 2], some [0, 0, 0, 3]), (some [0, 0, 0, 3], some [0, 0, 0, 4])], .done)) ∧
    probeWithV0 (.map 4) repoV1 (fun r idx => (r.get idx [0, 0, 0, 5]).2) =
      some (some (.ok (some [0, 0, 0, 6]))) ∧
    probeWithV0 (.map 4) repoV1 (fun r idx => (r.contains idx [0, 0, 0, 9]).2) = some (some (.ok false)) ∧
    probeWithV0 (.skip []) repoV1 (fun r idx => (r.scanFrom idx [0, 0, 0, 6]).2) =
      some (.ok ([(some [0, 0, 0, 6], some [0, 0, 0, 7]), (some [0, 0, 0, 7], some [0, 0, 0, 8])], .done)) := by
  decide +kernel

/-- The GENERAL theorem reaches the real files: the decompressor is external code, so let `sn` be ANY lawful
snappy implementation that compresses the seven 6-byte `DataEntry` messages to the bytes the files contain
(`AgreesOnRepo`: one literal each — what the files witness of the real encoder).  Then a reader with `sn` behind
compression code 2 opens both repository tables, with all options and any bloom filter without false negatives,
reports `{}` resp. the content of meta.pb.bin, and reads them as the sorted map of the seven pairs. -/
theorem repo_v0_table_reads_any_snappy (sn : Comp) (hl : sn.Lawful) (h : AgreesOnRepo sn) (o : ReadOpts)
    (bloom : Option (Bytes → Bool)) (hb : BloomOk bloom kvs7) :
    (∃ r idx, openTableV0 (compsWith sn) .slice o repoV1 bloom = some (.ok (r, idx)) ∧ r.md = {} ∧
      ReadsAsMapV0 (compsWith sn) (fun _ => True) r idx kvs7) ∧
    (∃ r idx, openTableV0 (compsWith sn) .slice o repoV2 bloom = some (.ok (r, idx)) ∧ r.md = repoV2Md ∧
      ReadsAsMapV0 (compsWith sn) (fun _ => True) r idx kvs7) :=
  ⟨reads_any_snappy (cfg := cfgV1)
      (fun _ hl => ⟨rfl, rfl, hl, trivial, (by decide : 2 ≤ maxCompression), (by decide : 0 ≤ maxCompression),
        (by decide : 1 ≤ 1 ∧ 1 ≤ 4), (by decide : 1 ≤ 1 ∧ 1 ≤ 4)⟩)
      repo_v1_fits repo_v1_layout metaV0_none sn hl h o bloom hb,
    reads_any_snappy (cfg := cfgV2)
      (fun _ hl => ⟨rfl, rfl, hl, trivial, (by decide : 2 ≤ maxCompression), (by decide : 0 ≤ maxCompression),
        (by decide : 1 ≤ 2 ∧ 2 ≤ 4), (by decide : 1 ≤ 2 ∧ 2 ≤ 4)⟩)
      repo_v2_fits repo_v2_layout repo_v2_meta sn hl h o bloom hb⟩

/-- the hypotheses are satisfiable together, for mixed recordio versions (index V3 + data V1, index V4 + data V3,
index V2 + data V1 with a compressor), a lawful compressor, the empty key, a nil, an empty and a marker-bytes value -/
example : CfgOk toyComps toyCfgA ∧ CfgOk toyComps toyCfgB ∧ CfgOk toyComps toyCfgC := toy_cfgOk

example : FitsV0 toyCfgA toyKvs ∧ FitsV0 toyCfgB toyKvs ∧ FitsV0 toyCfgC toyKvs := toy_fits

example : StrictAsc bytesCmp toyKvs := toyKvs_strictAsc

example : toyKvs = [([], none), ([0x91], some []), ([0x91, 0x8d], some [0x91, 0x8d, 0x4c])] := rfl

/-- metadata: absent; the repository's real meta.pb.bin; a file claiming nonsense but version 0 -/
example : MetaV0 none {} := metaV0_none

example : MetaV0 (some repoV2Meta) repoV2Md := repo_v2_meta

example : MetaV0 (some (encMeta { numRecords := 1000, nullValues := 999 })) { numRecords := 1000, nullValues := 999 } :=
  ⟨by decide +kernel, rfl⟩

/-- a metadata file of a CURRENT table is not `MetaV0` (such a table goes through `SST.openTable`) -/
example : ¬ ∃ md, MetaV0 (some (encMeta { numRecords := 1, version := 1 })) md := by
  rintro ⟨md, h1, h2⟩
  have : TblDir.readMeta (some (encMeta { numRecords := 1, version := 1 })) = .ok { numRecords := 1, version := 1 } := by
    decide +kernel
  rw [this] at h1
  cases h1
  cases h2

example : BloomOk (some fun _ => true) toyKvs := by
  intro bf h p _; cases h; rfl

/-- the general theorem instantiated, and its conclusion used: the stored EMPTY value is read back as nil, with
hash checks on reads enabled -/
example : ∃ r idx, openTableV0 toyComps .slice { skipHashOnRead := false } (filesOf toyCfgC toyKvs none) none =
      some (.ok (r, idx)) ∧ r.get idx [0x91] = (idx, some (.ok none)) := by
  obtain ⟨r, idx, h1, _, h3⟩ := v0_table_reads_as_map_slice toyComps toyCfgC toyKvs none {} toy_cfgOk.2.2 toy_fits.2.2
    toyKvs_strictAsc metaV0_none { skipHashOnRead := false } none (by intro bf h; cases h)
  refine ⟨r, idx, h1, ?_⟩
  rw [h3.get [0x91] trivial]
  have : specGetRes (normKVs toyKvs) [0x91] = .ok none := by decide +kernel
  rw [this]

/-- the model evaluated on the synthetic tables agrees with what the theorems say -/
example :
    probeGetV0 toyComps {} (filesOf toyCfgA toyKvs none) [0x91] = some (.ok none) ∧
    probeGetV0 toyComps {} (filesOf toyCfgC toyKvs none) [0x92] = some (.error .notFound) :=
  ⟨toy_reads.2.1, toy_reads.2.2.2.2.1⟩

/-- `AgreesOnRepo` is satisfiable (by the literal-only encoder itself; a real snappy encoder emits the same bytes
for these inputs, as the repository's files show) -/
example : AgreesOnRepo snappyLiteral := fun _ _ => rfl

end SST.C03.V0
