/-
C11 — I/O failures during merge, compaction and flush are reported, never absorbed.
THIS FILE: the merger half (`SSTableMerger.Merge`, `MergeCompact`, the iterator adapter, the heap) for ALL
input sets, ALL read-fault positions of every input iterator and ALL sets of failing `WriteNext` calls.
The system-level half (a flush/compaction whose merge failed never installs its output, the flusher/compactor
stop the process) is about simpledb/compaction.go and flush.go: Props/C11_Stack.lean, on the composed model.

Model: SST/Model/PQF.lean (heap over iterators that can fail) + SST/Model/Merge.lean.
An input is `FInput`: its items and optionally the number `p` of the `Next` call that returns an error.
`i.endErr ≠ none` ⇔ `p ≤ items.length`, i.e. the failing call is one of the `items.length + 1` calls a
complete run makes on that iterator = the fault is CONSUMED unless the operation stopped earlier (with an
error).  The writer fails at the call numbers in `w.failAt`.
-/
import SST.Proofs.Merge
namespace SST.C11
open SST SST.Merge

/-- which faults are reachable -/
theorem endErr_ne_none_iff {K V : Type} (i : FInput K V) :
    i.endErr ≠ none ↔ ∃ p, i.failAt = some p ∧ p ≤ i.items.length := by
  unfold FInput.endErr
  cases i.failAt with
  | none => simp
  | some p => by_cases h : p ≤ i.items.length <;> simp [h]

/-- The (available items, how it ends) view the heap model uses is exactly the iterator called call by call:
call `n < avail.length` returns item `n`, call `avail.length` returns the error (if reachable) or Done. -/
theorem iterator_view {K V : Type} (i : FInput K V) :
    (∀ n (h : n < i.avail.length), i.nextAt n = .item i.avail[n].1 i.avail[n].2) ∧
    i.nextAt i.avail.length = (match i.endErr with | some e => .err e | none => .done) :=
  ⟨Proofs.FH.nextAt_avail i, Proofs.FH.nextAt_end i⟩

/-- The adapter `SSTableMergeIteratorContext.Next` passes every non-Done error on (D6 fixed) -/
theorem adapter_passes_errors (e : Err) (k v : GoBytes) :
    adapterNext (.err e) = .err e ∧ adapterNext .done = .done ∧ adapterNext (.item k v) = .item k v :=
  ⟨rfl, rfl, rfl⟩

/-- When no input has a reachable fault the fallible heap IS the heap of C16: `init` gives the same heap and
the sequence of `Next` results is `PQ.drain`, ending in Done — so `pq_sorted_merge` / `pq_per_input_order`
carry over. -/
theorem pqf_coincides_with_pq {K V : Type} (cmp : K → K → Ordering) (hl : LawfulCmp cmp)
    (ins : List (FInput K V)) (hc : ∀ i ∈ ins, i.endErr = none) :
    PQF.init cmp ins = .ok (PQ.init cmp (ins.map FInput.items)) ∧
    PQF.run cmp (PQF.endErrOf ins) (PQ.total (ins.map FInput.items) + 1) (PQ.init cmp (ins.map FInput.items))
      = (PQ.drain cmp (ins.map FInput.items), .done) :=
  ⟨(Proofs.FH.source_clean hl hc).1, Proofs.FH.run_eq_drain hl ins hc⟩

/-- `Merge`, for every input set, every fault position of every input and every set of failing writes
(starting from any writer state):
 (1) a reachable fault of ANY input's `Next` makes `Merge` return an error;
 (2) a failing `WriteNext` among the writes a complete run performs makes `Merge` return an error;
 (3) if `Merge` returns nil then no reachable fault exists, and the writer received exactly the heap's complete
     output for these inputs (`mergedOf`; by `pq_sorted_merge` the k-way merge when every input is non-descending),
     in order, one `WriteNext` each — success is never reported for an output that is missing or misrepresents
     records. -/
theorem merge_fault_reported (ins : List Input) (w : Merge.WState) :
    ((∃ i ∈ ins, i.endErr ≠ none) → (merge ins w).1 ≠ none) ∧
    ((∃ n ∈ w.failAt, w.calls ≤ n ∧ n < w.calls + (mergedOf ins).length) → (merge ins w).1 ≠ none) ∧
    ((merge ins w).1 = none →
      (∀ i ∈ ins, i.endErr = none) ∧
      (merge ins w).2.out = w.out ++ recordsOf (untag (mergedOf ins)) ∧
      (merge ins w).2.calls = w.calls + (mergedOf ins).length) := by
  rw [Proofs.MergeLoops.merge_eq_consume]
  have := Proofs.MergeLoops.consume_fault_reported (g := fun xs _ => untag xs) ins w
  rwa [Proofs.MergeLoops.untag_length] at this

/-- Conversely nothing is invented: without any reachable fault `Merge` succeeds, or returns the writer's
rejection of a non-ascending/duplicate key (inputs sharing a key) — never an I/O error. -/
theorem merge_no_spurious_error (ins : List Input) (w : Merge.WState) (hc : ∀ i ∈ ins, i.endErr = none)
    (hw : ∀ n, w.calls ≤ n → n < w.calls + (mergedOf ins).length → n ∉ w.failAt) :
    (merge ins w).1 = none ∨ (merge ins w).1 = some .rejected := by
  rw [Proofs.MergeLoops.merge_eq_consume]
  exact Proofs.MergeLoops.consume_noFault hc (by rwa [Proofs.MergeLoops.untag_length])

/-- `MergeCompact` with ANY reduce function: the same three statements; the complete output is the compaction
(`compactOf`: group equal adjacent keys of the complete merge, reduce, keep non-nil results) — by C08 the
overlay for the provided reducers.  (2) covers the D7 defect: the result of `WriteNext` is checked. -/
theorem mergeCompact_fault_reported (ins : List Input) (w : Merge.WState) (reduce : ReduceFn) :
    ((∃ i ∈ ins, i.endErr ≠ none) → (mergeCompact ins w reduce).1 ≠ none) ∧
    ((∃ n ∈ w.failAt, w.calls ≤ n ∧ n < w.calls + (compactOf reduce (mergedOf ins)).length) →
      (mergeCompact ins w reduce).1 ≠ none) ∧
    ((mergeCompact ins w reduce).1 = none →
      (∀ i ∈ ins, i.endErr = none) ∧
      (mergeCompact ins w reduce).2.out = w.out ++ recordsOf (compactOf reduce (mergedOf ins)) ∧
      (mergeCompact ins w reduce).2.calls = w.calls + (compactOf reduce (mergedOf ins)).length) := by
  rw [Proofs.MergeLoops.mergeCompact_eq_consume]
  have := Proofs.MergeLoops.consume_fault_reported
    (g := fun xs t => (Proofs.MergeLoops.groupRunT reduce none [] [] xs t).1) ins w
  rwa [Proofs.MergeLoops.groupRunT_done] at this

theorem mergeCompact_no_spurious_error (ins : List Input) (w : Merge.WState) (reduce : ReduceFn)
    (hc : ∀ i ∈ ins, i.endErr = none)
    (hw : ∀ n, w.calls ≤ n → n < w.calls + (compactOf reduce (mergedOf ins)).length → n ∉ w.failAt) :
    (mergeCompact ins w reduce).1 = none ∨ (mergeCompact ins w reduce).1 = some .rejected := by
  rw [Proofs.MergeLoops.mergeCompact_eq_consume]
  exact Proofs.MergeLoops.consume_noFault hc (by rwa [Proofs.MergeLoops.groupRunT_done])

/-! ### non-vacuity: concrete faults are reachable and reported -/

def exIns (f0 f1 : Option Nat) : List Input :=
  [ { items := [(none, some [1]), (some [97], none)], failAt := f0 },
    { items := [(some [97], some [7]), (some [98], some [])], failAt := f1 } ]

/-- a read fault on the call that would have returned Done -/
example : ∃ i ∈ exIns none (some 2), i.endErr ≠ none :=
  ⟨_, List.mem_cons_of_mem _ List.mem_cons_self, by decide⟩
example : (mergeCompact (exIns none (some 2)) {} scanReduceLatestWins).1 = some .io := by rfl
/-- the dropped element: the heap had popped the first item of input 0 when the next call on input 0 failed -/
example : (mergeCompact (exIns (some 1) none) {} scanReduceLatestWins).2.out = [] := by rfl
/-- a write fault on the second write -/
example : (mergeCompact (exIns none none) { failAt := [1] } scanReduceLatestWins).1 = some .io := by rfl
example : (mergeCompact (exIns none none) {} scanReduceLatestWins) =
    (none, { lastKey := some [98], out := [([], some [1]), ([97], some [7]), ([98], some [])], calls := 3 }) := by
  rfl
/-- a fault position that is never reached is not an error -/
example : ∀ i ∈ exIns none (some 3), i.endErr = none := by
  intro i hi
  simp only [exIns, List.mem_cons, List.not_mem_nil, or_false] at hi
  rcases hi with rfl | rfl <;> decide
example : (mergeCompact (exIns none (some 3)) {} scanReduceLatestWins).1 = none := by rfl

end SST.C11
