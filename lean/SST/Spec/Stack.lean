/-
Spec side of L7: the laws of the external code, the simulation relation between the concrete byte-level
SimpleDB (`Stack.State`) and the layer model (`DBM.State`), and the hypotheses of a run (node heights,
sizes that fit the 64-bit fields of the formats).
-/
import SST.Model.Stack
import SST.Spec.DB
import SST.Spec.SSTable
import SST.Spec.Merge
import SST.Spec.MemStore
import SST.Proofs.MemStore
namespace SST
namespace Stack
open Generated

/-! ## laws of the external code -/

/-- the compressors are lawful (`dec (enc x) = x`), the bloom filter has no false negatives on the keys added -/
structure ParamsOk (P : Params) : Prop where
  data : LawfulC (P.comps snappyCode)
  index : LawfulC (P.comps noneCode)
  bloom : ∀ keys bf, P.mkBloom keys = some bf → ∀ k ∈ keys, bf k = true

/-! ## the simulation relation -/

/-- element-wise relation of two lists -/
inductive Rel2 {α β : Type} (R : α → β → Prop) : List α → List β → Prop where
  | nil : Rel2 R [] []
  | cons {a : α} {b : β} {as : List α} {bs : List β} : R a b → Rel2 R as bs → Rel2 R (a :: as) (b :: bs)

/-- a layer (association list in insertion order, every key once) and a sorted table hold the same cells -/
structure CellsRel (l : DBM.Layer) (kvs : List KV) : Prop where
  nodup : (l.map (·.1)).Nodup
  get : ∀ k, DBM.Layer.get l k = Merge.tget kvs k

/-- a live byte-level table decodes to the cells of the layer table: the three files are exactly the files of
a strictly ascending list `kvs` that holds the layer's cells; the open reader is what `NewSSTableReader`
builds from these bytes, it answers like the sorted map of `kvs` and its metadata is truthful -/
structure TblDec (P : Params) (t : LiveTbl) (kvs : List KV) : Prop where
  asc : StrictAsc bytesCmp kvs
  files : t.files = tableOf P.cfg kvs
  fits : FitsKV P.cfg kvs
  opened : openTable P.comps .slice {} t.files t.bloom = .ok (t.rd, t.idx)
  reads : ReadsAsMap P.comps (fun _ => True) t.rd t.idx kvs
  md : t.rd.md = (metaOf P.cfg kvs).norm

structure TblRel (P : Params) (t : LiveTbl) (a : DBM.Tbl) : Prop where
  gen : t.gen = a.gen
  dec : ∃ kvs, TblDec P t kvs ∧ CellsRel a.cells kvs

/-- a memstore model state and a layer: the model state is well formed and its reference map
(`Proofs.MemP.view`) is the layer, a tombstone being the nil value -/
structure MemRel (m : Mem.MemStore) (l : DBM.Layer) : Prop where
  wf : Proofs.MemP.WF m
  nodup : (l.map (·.1)).Nodup
  get : ∀ k, DBM.Layer.get l k = (Mem.RefMap.get k (Proofs.MemP.view m)).map Mem.Cell.toGo

structure Rel (P : Params) (c : State) (s : DBM.State) : Prop where
  w : MemRel c.w s.w
  r : MemRel c.r s.r
  /-- while `readStore` is the same object as `writeStore` the field `r` is the unused empty store -/
  alias : c.rAliasesW = true → Proofs.MemP.view c.r = []
  pending : c.flushPending = s.flushPending
  tables : Rel2 (TblRel P) c.tables s.tables
  gen : c.gen = s.gen
  isOpen : c.isOpen = s.isOpen
  closed : c.closed = s.closed
  opts : c.opts = s.opts

/-! ## hypotheses of a run -/

/-- the pairs `FlushWithTombstones` writes for a memstore -/
def flushKVs (m : Mem.MemStore) : List KV :=
  ((Mem.flushCalls m true).getD []).map fun e => (e.1.getD [], e.2)

/-- the table a flush of this store writes fits the 64-bit fields (always true of real slices) -/
def FitsMem (P : Params) (m : Mem.MemStore) : Prop := FitsKV P.cfg (flushKVs m)

/-- what a step needs: node heights are at least 1 (`randomHeight`), and every table the step may write fits -/
def StepOk (P : Params) (c : State) : Step → Prop
  | .putB _ _ rot h => 1 ≤ h ∧ (rot = true → FitsMem P c.r)
  | .putS _ _ rot h => 1 ≤ h ∧ (rot = true → FitsMem P c.r)
  | .delB _ h => 1 ≤ h
  | .delS _ h => 1 ≤ h
  | .get _ => True
  | .rotate => FitsMem P c.r
  | .flush => FitsMem P c.r
  | .compact =>
    match compactPlan P c with
    | .ok (some pl) => FitsKV P.cfg pl.out
    | _ => True
  | .close => FitsMem P c.r ∧ FitsMem P c.w
  | .reopen _ => True

/-- `StepOk` at every state along the run -/
def RunOk (P : Params) : State → List Step → Prop
  | _, [] => True
  | c, st :: rest =>
    StepOk P c st ∧
      match step P c st with
      | .ok (c', _, _) => RunOk P c' rest
      | .error _ => True

/-- the reference step of a step (heights and sizes play no role in the reference) -/
def specOf : Step → DBM.Step
  | .putB k v rot _ => .putB k v rot
  | .putS k v rot _ => .putS k v rot
  | .delB k _ => .delB k
  | .delS k _ => .delS k
  | .get k => .get k
  | .rotate => .rotate
  | .flush => .flush
  | .compact => .compact []
  | .close => .close
  | .reopen o => .reopen o

/-! ## evaluation helpers for the non-vacuity examples -/

instance (cfg : SstCfg) (kvs : List KV) : Decidable (FitsKV cfg kvs) := by
  unfold FitsKV; exact inferInstance

instance (P : Params) (m : Mem.MemStore) : Decidable (FitsMem P m) := by
  unfold FitsMem; exact inferInstance

instance decStepOk (P : Params) (c : State) : (st : Step) → Decidable (StepOk P c st)
  | .putB _ _ rot h => inferInstanceAs (Decidable (1 ≤ h ∧ (rot = true → FitsMem P c.r)))
  | .putS _ _ rot h => inferInstanceAs (Decidable (1 ≤ h ∧ (rot = true → FitsMem P c.r)))
  | .delB _ h => inferInstanceAs (Decidable (1 ≤ h))
  | .delS _ h => inferInstanceAs (Decidable (1 ≤ h))
  | .get _ => isTrue trivial
  | .rotate => inferInstanceAs (Decidable (FitsMem P c.r))
  | .flush => inferInstanceAs (Decidable (FitsMem P c.r))
  | .compact =>
    match h : compactPlan P c with
    | .ok (some pl) => by unfold StepOk; rw [h]; exact inferInstanceAs (Decidable (FitsKV P.cfg pl.out))
    | .ok none => by unfold StepOk; rw [h]; exact isTrue trivial
    | .error _ => by unfold StepOk; rw [h]; exact isTrue trivial
  | .close => inferInstanceAs (Decidable (FitsMem P c.r ∧ FitsMem P c.w))
  | .reopen _ => isTrue trivial

def decRunOk (P : Params) : (steps : List Step) → (c : State) → Decidable (RunOk P c steps)
  | [], _ => isTrue trivial
  | st :: rest, c =>
    match h : step P c st with
    | .ok (c', _, _) =>
      have := decRunOk P rest c'
      by unfold RunOk; rw [h]; exact inferInstance
    | .error _ => by unfold RunOk; rw [h]; exact inferInstance

instance (P : Params) (c : State) (steps : List Step) : Decidable (RunOk P c steps) := decRunOk P steps c

/-- no compression at all, a bloom filter that answers exactly -/
def plainParams : Params := { comps := fun _ => none, mkBloom := fun keys => some fun k => keys.contains k }

end Stack
end SST
